import PdModel.Lemmas.Builder
/-! The `exec*` functions of the builder keep "current peers/leader = simulation of the emitted steps"
    and emit safe steps, under the obvious preconditions.  Used for the non-joint builder. -/
namespace PdModel.Builder
open PdModel.Steps PdModel.Spec PdModel.Spec.C08

/-- the builder's bookkeeping is the faithful execution of the steps emitted so far, and they are safe -/
structure SInv (r0 : Region) (m : Nat) (b : B) : Prop where
  safe   : StepsSafe m r0 b.steps
  runEq  : run r0 b.steps = b.cur
  nodup  : (stores b.cur.peers).Nodup
  plain  : plainRoles b.cur.peers
  leader : ∃ p ∈ b.cur.peers, p.store = b.cur.leader ∧ p.role = .voter
  voters : m ≤ votersOf b.cur.peers

theorem sinv_congr {r0 : Region} {m : Nat} {b b' : B} (h : SInv r0 m b) (hs : b'.steps = b.steps)
    (hc : b'.cur = b.cur) : SInv r0 m b' :=
  ⟨hs ▸ h.safe, by rw [hs, hc]; exact h.runEq, hc ▸ h.nodup, hc ▸ h.plain, hc ▸ h.leader, hc ▸ h.voters⟩

theorem SInv.leads {r0 : Region} {m : Nat} {b : B} (h : SInv r0 m b) : Leads m r0 b.steps b.cur := ⟨h.safe, h.runEq⟩

theorem SInv.snoc {r0 : Region} {m : Nat} {b b' : B} (h : SInv r0 m b) (s : Step)
    (hs : b'.steps = b.steps ++ [s]) (hok : StepOk m b.cur s) (hcur : apply b.cur s = b'.cur)
    (hplain : plainRoles b'.cur.peers)
    (hlead : ∃ p ∈ b'.cur.peers, p.store = b'.cur.leader ∧ p.role = .voter) : SInv r0 m b' := by
  obtain ⟨h1, h2⟩ := h.leads.append (.step hok)
  refine ⟨hs ▸ h1, by rw [hs, h2, hcur], hcur ▸ hok.oneEach, hplain, hlead, ?_⟩
  rw [← plain_voterCount hplain b'.cur.leader, ← hcur]; exact hok.voters

theorem sinv_transfer {r0 : Region} {m : Nat} {b : B} (h : SInv r0 m b) (id : Nat)
    (hv : ∃ p ∈ b.cur.peers, p.store = id ∧ p.role = .voter) :
    SInv r0 m (execTransferLeader b id) := by
  obtain ⟨p, hp, hps, hpr⟩ := hv
  refine h.snoc (.transferLeader b.cur.leader id) rfl (transfer_ok _ _ ?_ h.nodup ?_) rfl h.plain
    ⟨p, hp, hps, hpr⟩
  · rw [← hps]; exact fullVoter_of_voter h.nodup hp hpr
  · rw [plain_voterCount h.plain]; exact h.voters

/-- a role change of a non-leader peer (PromoteLearner / DemoteFollower), as the builder books it -/
theorem sinv_setRole {r0 : Region} {m : Nat} {b b' : B} (h : SInv r0 m b) (n : Peer) (step : Step)
    (hstep : step = .promoteLearner n.store n.id ∧ n.role = .voter ∨
             step = .demoteFollower n.store n.id ∧ n.role = .learner ∧ n.store ≠ b.cur.leader ∧
               n.id ≠ leaderPeerId b.cur)
    (hp : ∃ p ∈ b.cur.peers, p.store = n.store ∧ p.id = n.id)
    (hm : m ≤ votersOf (setRole b.cur.peers n.store n.role))
    (hs : b'.steps = b.steps ++ [step]) (hc : b'.cur = ⟨pmSet b.cur.peers n, b.cur.leader⟩) :
    SInv r0 m b' ∧ b'.cur.peers = setRole b.cur.peers n.store n.role := by
  obtain ⟨p, hpm, hps, hpid⟩ := hp
  have hset : b'.cur = ⟨setRole b.cur.peers n.store n.role, b.cur.leader⟩ := by
    rw [hc, pmSet_eq_setRole h.nodup hpm hps.symm hpid.symm]
  have hg : storePeer b.cur n.store = some p := by
    rw [storePeer_eq_pmGet, ← hps]; exact pmGet_of_mem h.nodup hpm
  -- all that depends on which of the two steps it is
  obtain ⟨hrole, hkeep, hcs, hlk, htr, happly⟩ : (n.role = .voter ∨ n.role = .learner) ∧
      (n.role = .voter ∨ n.store ≠ b.cur.leader) ∧ checkSafety b.cur step = true ∧
      leaderKept b.cur step = true ∧ transferOk b.cur step = true ∧ apply b.cur step = b'.cur := by
    rw [hset]
    rcases hstep with ⟨rfl, hr⟩ | ⟨rfl, hr, hne, hlid⟩
    · exact ⟨.inl hr, .inl hr, by simp [checkSafety, hg, idOf, hpid], rfl, rfl, by simp [apply, hr]⟩
    · exact ⟨.inr hr, .inr hne, by simpa [checkSafety, hg, idOf, hpid] using hlid,
        by simpa [leaderKept] using hne, rfl, by simp [apply, hr]⟩
  have hplain' : plainRoles b'.cur.peers := by
    rw [hset]
    intro q hq
    obtain ⟨x, hx, rfl⟩ := mem_setRole hq
    split
    · exact hrole
    · exact h.plain x hx
  obtain ⟨pl, hpl, hpls, hplr⟩ := h.leader
  refine ⟨h.snoc step hs ⟨hcs, hlk, htr, ?_, ?_⟩ happly hplain' ?_, congrArg Region.peers hset⟩
  · rw [happly, hset, onePerStore_iff, stores_setRole]; exact h.nodup
  · rw [happly, plain_voterCount hplain', hset]; exact hm
  · rw [hset]
    refine ⟨if pl.store == n.store then { pl with role := n.role } else pl,
      List.mem_map.2 ⟨pl, hpl, rfl⟩, ?_, ?_⟩
    · split <;> exact hpls
    · rcases hkeep with hr | hne
      · split
        · exact hr
        · exact hplr
      · rw [if_neg (by rw [hpls]; simpa using Ne.symm hne)]; exact hplr

/-- execAddPeer: AddLearner, and for a voter the PromoteLearner that `sinv_setRole` covers -/
theorem sinv_add {r0 : Region} {m : Nat} {b : B} (h : SInv r0 m b) (a : Peer)
    (hfresh : a.store ∉ stores b.cur.peers) (hrole : a.role = .voter ∨ a.role = .learner) :
    SInv r0 m (execAddPeer b a) ∧ (execAddPeer b a).cur = ⟨b.cur.peers ++ [a], b.cur.leader⟩ := by
  have hcur : (execAddPeer b a).cur = ⟨b.cur.peers ++ [a], b.cur.leader⟩ := by
    simp [execAddPeer, pmSet_fresh hfresh]
  refine ⟨?_, hcur⟩
  obtain ⟨pl, hpl, hpls, hplr⟩ := h.leader
  -- the state after the AddLearner
  have hL : SInv r0 m { b with steps := b.steps ++ [addStep b.lightWeight a],
                                 cur := ⟨b.cur.peers ++ [asLearner a], b.cur.leader⟩ } := by
    refine h.snoc _ rfl (addStep_ok _ h.nodup hfresh ?_) (apply_addStep _ _ _) ?_
      ⟨pl, List.mem_append.2 (Or.inl hpl), hpls, hplr⟩
    · rw [plain_voterCount h.plain]; exact h.voters
    · intro p hp
      rcases List.mem_append.1 hp with hp | hp
      · exact h.plain p hp
      · right; rw [List.mem_singleton.1 hp]; rfl
  rcases hrole with hr | hr
  · have hl : isLearner a = false := by simp [isLearner, hr]
    have hmem : asLearner a ∈ b.cur.peers ++ [asLearner a] :=
      List.mem_append.2 (Or.inr (List.mem_singleton.2 rfl))
    refine (sinv_setRole hL a (.promoteLearner a.store a.id) (Or.inl ⟨rfl, hr⟩) ⟨asLearner a, hmem, rfl, rfl⟩
      (Nat.le_trans hL.voters (hr ▸ votersOf_setRole_voter _ _)) ?_ ?_).1
    · simp [execAddPeer, hl]
    · rw [hcur]
      show _ = (⟨pmSet (b.cur.peers ++ [asLearner a]) a, b.cur.leader⟩ : Region)
      have hnL : (stores (b.cur.peers ++ [asLearner a])).Nodup := hL.nodup
      rw [pmSet_eq_setRole (n := a) hnL hmem rfl rfl, hr]
      simp only [setRole, List.map_append, List.map_cons, List.map_nil, asLearner, beq_self_eq_true, if_true]
      rw [show b.cur.peers.map _ = b.cur.peers from setRole_fresh _ hfresh]
      cases a; cases hr; rfl
  · have hl : isLearner a = true := by simp [isLearner, hr]
    refine sinv_congr hL (by simp [execAddPeer, hl]) ?_
    rw [hcur]; cases a; cases hr; rfl

theorem sinv_remove {r0 : Region} {m : Nat} {b : B} (h : SInv r0 m b) (x : Peer)
    (hne : x.store ≠ b.cur.leader)
    (hm : m ≤ votersOf (b.cur.peers.filter (fun p => p.store != x.store))) :
    SInv r0 m (execRemovePeer b x) := by
  obtain ⟨pl, hpl, hpls, hplr⟩ := h.leader
  refine h.snoc (rmStep x) rfl (rmStep_ok h.nodup h.plain hne hm) rfl
    (fun p hp => h.plain p (List.mem_filter.1 hp).1) ⟨pl, ?_, hpls, hplr⟩
  refine List.mem_filter.2 ⟨hpl, ?_⟩
  have : pl.store ≠ x.store := by rw [hpls]; exact Ne.symm hne
  simpa using this

end PdModel.Builder
