import PdModel.Model.GcSafePoint
import PdModel.Spec.C15
/-!
Cluster safe point: the invariant of the atomic handler (`Inv`), what a step from a state satisfying it
guarantees (`StepOk`; `cstep_ok` is the one case analysis of `cstep`), and from these that the checker of
`Spec.C15` accepts every history of that handler.
-/
namespace PdModel.GcSafePoint
open PdModel.Spec

/-- event ids: update request `r` ↦ `2r`, the `k`-th read ↦ `2k+1` -/
def uid (r : Nat) : Nat := 2 * r
def gid (k : Nat) : Nat := 2 * k + 1

/-- what clients and an observer of the storage see of one micro-step -/
def evOf (s : CSt) (op : COp) : List C15.Ev :=
  (match op, (cstep s op).2 with
   | .begin _, _ => [C15.Ev.begin (uid s.reqs.length)]
   | .load i _, .done a => [C15.Ev.resp (uid i) a]
   | .save i _, .done a => [C15.Ev.resp (uid i) a]
   | .get, .ok v => [C15.Ev.begin (gid s.gets), C15.Ev.resp (gid s.gets) v]
   | _, _ => []) ++ [C15.Ev.stored (cstep s op).1.stored]

def events : CSt → List COp → List C15.Ev
  | _, [] => []
  | s, op :: ops => evOf s op ++ events (cstep s op).1 ops

/-- Of the handler with the critical section: nothing above the stored value has been acknowledged; a request
    about to load or about to save holds the mutex, and what it loaded is still the stored value, below its own. -/
structure Inv (s : CSt) : Prop where
  atomic : s.atomic = true
  ackLe  : s.maxAck ≤ s.stored
  floor  : ∀ (r : Nat) (x : Req), s.reqs[r]? = some x → x.floor ≤ s.maxAck
  holds  : ∀ (r : Nat) (x : Req), s.reqs[r]? = some x →
             (x.phase = .atLoad ∨ ∃ old, x.phase = .atSave old) → s.holder = some r
  saved  : ∀ (r : Nat) (x : Req) (old : Nat), s.reqs[r]? = some x → x.phase = .atSave old →
             old = s.stored ∧ old < x.val

theorem inv_init : Inv (cinit true) :=
  have none : ∀ (r : Nat) (x : Req), (cinit true).reqs[r]? ≠ some x := fun _ _ h => nomatch h
  ⟨rfl, Nat.le_refl _, fun r x h => absurd h (none r x), fun r x h => absurd h (none r x),
    fun r x _ h => absurd h (none r x)⟩

/-- Request `r` is rewritten to `x'` while no other request is inside the critical section (the mutex is
    free or held by `r`): the clauses about requests only have to be checked for `x'`. -/
theorem Inv.update {s s' : CSt} (hi : Inv s) {r : Nat} {x' : Req}
    (hold : ∀ r', s.holder = some r' → r' = r)
    (hat : s'.atomic = true) (hreqs : s'.reqs = s.reqs.set r x')
    (hack : s'.maxAck ≤ s'.stored) (hmono : s.maxAck ≤ s'.maxAck) (hfl : x'.floor ≤ s'.maxAck)
    (hact : (x'.phase = .atLoad ∨ ∃ old, x'.phase = .atSave old) → s'.holder = some r)
    (hsv : ∀ old, x'.phase = .atSave old → old = s'.stored ∧ old < x'.val) : Inv s' := by
  have other : ∀ (r' : Nat) (y : Req), s'.reqs[r']? = some y →
      (r' = r ∧ y = x') ∨ (r' ≠ r ∧ s.reqs[r']? = some y) := by
    intro r' y hy; rw [hreqs] at hy; exact getElem?_set_cases hy
  refine ⟨hat, hack, ?_, ?_, ?_⟩
  · rw [hreqs]
    exact forall_getElem?_set (fun r' y h => Nat.le_trans (hi.floor r' y h) hmono) hfl
  · intro r' y hy hph
    rcases other r' y hy with ⟨rfl, rfl⟩ | ⟨hne, h⟩
    · exact hact hph
    · exact absurd (hold r' (hi.holds r' y h hph)) hne
  · intro r' y old hy hph
    rcases other r' y hy with ⟨rfl, rfl⟩ | ⟨hne, h⟩
    · exact hsv old hph
    · exact absurd (hold r' (hi.holds r' y h (Or.inr ⟨old, hph⟩))) hne

theorem maxAck_le_finish (s : CSt) (r : Nat) (x : Req) (ack : Option Nat) :
    s.maxAck ≤ (finish s r x ack).maxAck := by
  cases ack with
  | none => exact Nat.le_refl _
  | some a => exact Nat.le_max_left _ _

theorem Inv.finish {s : CSt} (hi : Inv s) {r : Nat} {x : Req} (hx : s.reqs[r]? = some x)
    (hh : s.holder = some r) (ack : Option Nat) {st : Nat} (hst : s.maxAck ≤ st)
    (hack : ∀ a, ack = some a → a ≤ st) : Inv (finish { s with stored := st } r x ack) := by
  refine hi.update (fun r' h => Option.some.inj (h.symm.trans hh)) hi.atomic rfl ?_
    (maxAck_le_finish _ r x ack) (Nat.le_trans (hi.floor r x hx) (maxAck_le_finish _ r x ack))
    (by rintro (h | ⟨_, h⟩) <;> cases h) (fun _ h => nomatch h)
  cases ack with
  | none => exact hst
  | some a => exact Nat.max_le.2 ⟨hst, hack a rfl⟩

theorem Inv.arrive {s : CSt} (hi : Inv s) (v : Nat) {ph : Phase} {h' : Option Nat}
    (hc : (ph = .waiting ∧ h' = s.holder) ∨ (ph = .atLoad ∧ s.holder = none ∧ h' = some s.reqs.length)) :
    Inv { s with reqs := s.reqs ++ [{ val := v, phase := ph, floor := s.maxAck }], holder := h' } := by
  refine ⟨hi.atomic, hi.ackLe, forall_getElem?_snoc hi.floor (Nat.le_refl _),
    forall_getElem?_snoc (fun r y h hph => ?_) (fun hph => ?_), fun r y old => ?_⟩
  · have := hi.holds r y h hph
    rcases hc with ⟨_, rfl⟩ | ⟨_, hn, _⟩
    · exact this
    · rw [hn] at this; cases this
  · rcases hc with ⟨rfl, _⟩ | ⟨_, _, rfl⟩
    · rcases hph with h | ⟨_, h⟩ <;> cases h
    · rfl
  · refine forall_getElem?_snoc (P := fun _ y => y.phase = .atSave old → _) (fun r y h => hi.saved r y old h)
      (fun hph => ?_) r y
    rcases hc with ⟨rfl, _⟩ | ⟨rfl, _⟩ <;> cases hph

/-- the safe point a micro-step answers a client with, if it answers one (an update `done`, a read `ok`) -/
def answer : COut → Option Nat
  | .done a => some a
  | .ok a => some a
  | _ => none

/-- What a micro-step from a state satisfying the invariant guarantees, `q` being the state it leads to and its
    outcome: the invariant again, and what an observer can tell (neither the stored value nor the largest
    acknowledged one goes down; an answer is the value stored after the step). -/
structure StepOk (s : CSt) (q : CSt × COut) : Prop where
  inv    : Inv q.1
  stored : s.stored ≤ q.1.stored
  maxAck : s.maxAck ≤ q.1.maxAck
  ans    : ∀ a, answer q.2 = some a → a = q.1.stored ∧ a ≤ q.1.maxAck

/-- a step that answers nothing and leaves both values alone -/
theorem StepOk.quiet {s s' : CSt} {o : COut} (hi : Inv s') (h1 : s'.stored = s.stored)
    (h2 : s'.maxAck = s.maxAck) (h3 : answer o = none) : StepOk s (s', o) :=
  ⟨hi, Nat.le_of_eq h1.symm, Nat.le_of_eq h2.symm, fun _ h => nomatch h3.symm.trans h⟩

/-- the holder of the mutex responds while `st` is stored: with an error, or with `st` -/
theorem StepOk.finish {s : CSt} (hi : Inv s) {r : Nat} {x : Req} (hx : s.reqs[r]? = some x)
    (hh : s.holder = some r) {st : Nat} (hst : s.stored ≤ st) {ack : Option Nat} {o : COut}
    (ho : (ack = none ∧ o = .err) ∨ (ack = some st ∧ o = .done st)) :
    StepOk s (finish { s with stored := st } r x ack, o) := by
  have hm : s.maxAck ≤ st := Nat.le_trans hi.ackLe hst
  rcases ho with ⟨rfl, rfl⟩ | ⟨rfl, rfl⟩
  · exact ⟨hi.finish hx hh none hm nofun, hst, Nat.le_refl _, nofun⟩
  · exact ⟨hi.finish hx hh _ hm (fun a h => by cases h; exact Nat.le_refl _), hst, Nat.le_max_left _ _,
      fun a h => by cases h; exact ⟨rfl, Nat.le_max_right _ _⟩⟩

theorem cstep_ok {s : CSt} (hi : Inv s) (op : COp) : StepOk s (cstep s op) := by
  have bad : StepOk s (s, .bad) := .quiet hi rfl rfl rfl
  cases op with
  | begin v =>
    rw [cstep]
    refine ite_ind (fun _ => .quiet (hi.arrive v (Or.inl ⟨rfl, rfl⟩)) rfl rfl rfl) fun hh => ?_
    rw [if_pos hi.atomic]
    refine .quiet (hi.arrive v (Or.inr ⟨rfl, ?_, rfl⟩)) rfl rfl rfl
    cases hs : s.holder with
    | none => rfl
    | some a => rw [hi.atomic, hs] at hh; exact absurd rfl hh
  | acquire r =>
    rw [cstep]
    cases hx : s.reqs[r]? with
    | none => exact bad
    | some x =>
      refine ite_ind (fun hc => ?_) fun _ => bad
      exact .quiet (hi.update (fun r' h => by rw [hc.2] at h; cases h) hi.atomic rfl hi.ackLe (Nat.le_refl _)
        (hi.floor r x hx) (fun _ => rfl) (fun _ h => nomatch h)) rfl rfl rfl
  | load r f =>
    rw [cstep]
    cases hx : s.reqs[r]? with
    | none => exact bad
    | some x =>
      refine ite_ind (fun hph => ?_) fun _ => bad
      have hh : s.holder = some r := hi.holds r x hx (Or.inl hph)
      refine ite_ind (fun _ => .finish hi hx hh (Nat.le_refl _) (Or.inl ⟨rfl, rfl⟩)) fun _ => ?_
      refine ite_ind (fun hgt => ?_) fun _ => .finish hi hx hh (Nat.le_refl _) (Or.inr ⟨rfl, rfl⟩)
      exact .quiet (hi.update (fun r' h => Option.some.inj (h.symm.trans hh)) hi.atomic rfl hi.ackLe
        (Nat.le_refl _) (hi.floor r x hx) (fun _ => hh) (fun old h => by cases h; exact ⟨rfl, hgt⟩))
        rfl rfl rfl
  | save r f =>
    rw [cstep]
    cases hx : s.reqs[r]? with
    | none => exact bad
    | some x =>
      dsimp only
      cases hph : x.phase with
      | atSave old =>
        -- the value loaded is still the stored one, and the request's own value is above it
        have hh : s.holder = some r := hi.holds r x hx (Or.inr ⟨old, hph⟩)
        obtain ⟨rfl, hlt⟩ := hi.saved r x old hx hph
        cases f with
        | before => exact .finish hi hx hh (Nat.le_refl _) (Or.inl ⟨rfl, rfl⟩)
        | after => exact .finish hi hx hh (Nat.le_of_lt hlt) (Or.inl ⟨rfl, rfl⟩)
        | none => exact .finish hi hx hh (Nat.le_of_lt hlt) (Or.inr ⟨rfl, rfl⟩)
      | _ => exact bad
  | get =>
    refine ⟨⟨hi.atomic, Nat.max_le.2 ⟨hi.ackLe, Nat.le_refl _⟩, ?_, hi.holds, hi.saved⟩, Nat.le_refl _,
      Nat.le_max_left _ _, fun a h => by cases h; exact ⟨rfl, Nat.le_max_right _ _⟩⟩
    intro r x hx
    exact Nat.le_trans (hi.floor r x hx) (Nat.le_max_left _ _)

theorem inv_crun {s : CSt} (hi : Inv s) (ops : List COp) : Inv (crun s ops) := by
  induction ops generalizing s with
  | nil => exact hi
  | cons op ops ih => exact ih (cstep_ok hi op).inv

/-- the events one micro-step may show while `st` is stored and nothing above `ack` has been acknowledged -/
def Shows (st ack : Nat) : C15.Ev → Prop
  | .begin _ => True
  | .resp _ v => v = st ∧ v ≤ ack
  | .stored v => v = st

theorem evOf_shows {s : CSt} (hi : Inv s) (op : COp) :
    ∀ e ∈ evOf s op, Shows (cstep s op).1.stored (cstep s op).1.maxAck e := by
  have h := cstep_ok hi op
  unfold evOf
  generalize cstep s op = q at h ⊢
  intro e hm
  rcases List.mem_append.1 hm with he | he
  · clear hm
    split at he <;> simp only [List.mem_cons, List.not_mem_nil, or_false] at he
    · cases he; trivial
    · next heq => cases he; exact h.ans _ (congrArg answer heq)
    · next heq => cases he; exact h.ans _ (congrArg answer heq)
    · next heq =>
      rcases he with rfl | rfl
      · trivial
      · exact h.ans _ (congrArg answer heq)
  · cases List.mem_singleton.1 he; exact rfl

/-- `σ` summarises a history after which `st` is stored and nothing above `ack` has been acknowledged -/
structure Rel (σ : C15.Sum) (st ack : Nat) : Prop where
  st : σ.maxStored ≤ st
  rs : σ.maxResp ≤ ack
  fl : ∀ p ∈ σ.floors, p.2 ≤ ack

theorem Rel.mono {σ : C15.Sum} {st ack st' ack' : Nat} (h : Rel σ st ack) (h1 : st ≤ st')
    (h2 : ack ≤ ack') : Rel σ st' ack' :=
  ⟨Nat.le_trans h.st h1, Nat.le_trans h.rs h2, fun p hp => Nat.le_trans (h.fl p hp) h2⟩

/-- a response `st` is above every floor, because floors are acknowledged values and `ack ≤ st` -/
theorem Rel.check_of_shows {st ack : Nat} (hle : ack ≤ st) (es : List C15.Ev) :
    ∀ {σ : C15.Sum}, Rel σ st ack → (∀ e ∈ es, Shows st ack e) →
      C15.check es σ = true ∧ Rel (es.foldl C15.Sum.push σ) st ack := by
  induction es with
  | nil => intro σ h _; exact ⟨rfl, h⟩
  | cons e es ih =>
    intro σ h hes
    have he := hes e (List.mem_cons_self ..)
    have step : C15.okNext σ e = true ∧ Rel (σ.push e) st ack := by
      cases e with
      | begin r =>
        refine ⟨rfl, h.st, h.rs, fun p hp => ?_⟩
        rcases List.mem_cons.1 hp with rfl | hp
        · exact h.rs
        · exact h.fl p hp
      | resp r v =>
        obtain ⟨rfl, hv⟩ := he
        refine ⟨?_, h.st, Nat.max_le.2 ⟨h.rs, hv⟩, h.fl⟩
        simp only [C15.okNext, List.all_eq_true, Bool.or_eq_true, decide_eq_true_eq]
        exact fun p hp => Or.inr (Nat.le_trans (h.fl p hp) hle)
      | stored v =>
        cases he
        exact ⟨decide_eq_true h.st, Nat.max_le.2 ⟨h.st, Nat.le_refl _⟩, h.rs, h.fl⟩
    obtain ⟨h1, h2⟩ := ih step.2 fun e' he' => hes e' (List.mem_cons_of_mem _ he')
    exact ⟨Bool.and_eq_true_iff.2 ⟨step.1, h1⟩, h2⟩

theorem check_events (ops : List COp) :
    ∀ {s : CSt} {σ : C15.Sum}, Inv s → Rel σ s.stored s.maxAck → C15.check (events s ops) σ = true := by
  induction ops with
  | nil => intros; rfl
  | cons op ops ih =>
    intro s σ hi hr
    have ho := cstep_ok hi op
    obtain ⟨h5, h6⟩ :=
      Rel.check_of_shows ho.inv.ackLe (evOf s op) (hr.mono ho.stored ho.maxAck) (evOf_shows hi op)
    rw [events, C15.check_append, h5, Bool.true_and]
    exact ih ho.inv h6

theorem C15_holds_from {s : CSt} (hi : Inv s) (ops : List COp) : C15.Holds (events s ops) :=
  (C15.check_iff _).1 (check_events ops hi ⟨Nat.zero_le _, Nat.zero_le _, fun _ h => nomatch h⟩)

end PdModel.GcSafePoint
