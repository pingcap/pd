import PdModel.Spec.C12
/-! The documented order on rule-fit keys: `Key.cmp`, `lexCmp` and `fitCmp` are lexicographic three-way
    comparisons, treated one step at a time: `cmp3` compares a component (`Key.cmp` is three of them), `cmpThen`
    lets an earlier verdict decide before a later one (`lexCmp` along the lists, `fitCmp` before the orphans).
    Their Prop-level forms and the algebra of those. -/
namespace PdModel.Spec.C12

/-- compare `x` with `y`; `r` is the verdict of the remaining components, asked for only when `x = y` -/
def cmp3 (x y : Nat) (r : Int) : Int := if x < y then -1 else if x > y then 1 else r

theorem cmp3_of_lt {x y : Nat} (h : x < y) (r : Int) : cmp3 x y r = -1 := if_pos h

theorem cmp3_of_gt {x y : Nat} (h : y < x) (r : Int) : cmp3 x y r = 1 :=
  (if_neg (Nat.lt_asymm h)).trans (if_pos h)

theorem cmp3_self (x : Nat) (r : Int) : cmp3 x x r = r :=
  (if_neg (Nat.lt_irrefl x)).trans (if_neg (Nat.lt_irrefl x))

theorem cmp3_eq {x y : Nat} {r v : Int} :
    cmp3 x y r = v ↔ (x < y ∧ -1 = v) ∨ (x = y ∧ r = v) ∨ (y < x ∧ 1 = v) := by
  rcases Nat.lt_trichotomy x y with h | rfl | h
  · simp only [cmp3_of_lt h, h, true_and, Nat.ne_of_lt h, Nat.lt_asymm h, false_and, or_false]
  · simp only [cmp3_self, Nat.lt_irrefl, false_and, true_and, false_or, or_false]
  · simp only [cmp3_of_gt h, h, true_and, Nat.ne_of_gt h, Nat.lt_asymm h, false_and, false_or]

theorem cmp3_range {x y : Nat} {r : Int} (h : r = -1 ∨ r = 0 ∨ r = 1) :
    cmp3 x y r = -1 ∨ cmp3 x y r = 0 ∨ cmp3 x y r = 1 := by
  rcases Nat.lt_trichotomy x y with h' | rfl | h'
  · exact Or.inl (cmp3_of_lt h' r)
  · rwa [cmp3_self]
  · exact Or.inr (Or.inr (cmp3_of_gt h' r))

theorem cmp3_swap (x y : Nat) (r : Int) : cmp3 y x (-r) = -cmp3 x y r := by
  rcases Nat.lt_trichotomy x y with h | rfl | h
  · rw [cmp3_of_lt h, cmp3_of_gt h]; rfl
  · rw [cmp3_self, cmp3_self]
  · rw [cmp3_of_gt h, cmp3_of_lt h]

theorem cmp3_succ (x y : Nat) (r : Int) : cmp3 (x + 1) (y + 1) r = cmp3 x y r := by
  simp only [cmp3, gt_iff_lt, Nat.add_lt_add_iff_right]

theorem cmp3_ne_one (x y : Nat) : cmp3 x y 0 ≠ 1 ↔ x ≤ y := by
  rw [Ne, cmp3_eq, ← Nat.not_lt]
  simp only [Int.reduceNeg, reduceCtorEq, and_false, false_or, and_true, Int.reduceEq]

/-- the verdict `c`, or `r` when `c` is a draw: `Ordering.then` on the verdicts -1, 0, 1 of the Go comparisons -/
def cmpThen (c r : Int) : Int := if c ≠ 0 then c else r

theorem cmpThen_neg (c r : Int) : cmpThen (-c) (-r) = -cmpThen c r := by
  by_cases h : c = 0
  · subst h; rfl
  · exact (if_pos (mt Int.neg_eq_zero.1 h)).trans (congrArg _ (if_pos h).symm)

/- "Not better" in the two shapes that are used: `LexLE` is written in the first, `fitCmp_ne_one` is stated in the
   second, the product of two preorders.  Core has both for `Ordering.then` (`isLE_then_iff_or`, `isLE_then_iff_and`). -/
theorem cmpThen_ne_one_iff_or {c r : Int} (hc : c = -1 ∨ c = 0 ∨ c = 1) :
    cmpThen c r ≠ 1 ↔ c = -1 ∨ (c = 0 ∧ r ≠ 1) := by
  rcases hc with rfl | rfl | rfl <;> simp [cmpThen]

theorem cmpThen_ne_one_iff_and {c r : Int} (hc : c = -1 ∨ c = 0 ∨ c = 1) :
    cmpThen c r ≠ 1 ↔ c ≠ 1 ∧ (-c ≠ 1 → r ≠ 1) := by
  rcases hc with rfl | rfl | rfl <;> simp [cmpThen]

/-- the mismatches are compared with the sides exchanged: fewer is better -/
theorem Key.cmp_eq (a b : Key) :
    Key.cmp a b = cmp3 a.n b.n (cmp3 b.mis a.mis (cmp3 a.score b.score 0)) := rfl

/-- `a` is strictly worse than `b` -/
def Key.lt (a b : Key) : Prop :=
  a.n < b.n ∨ (a.n = b.n ∧ (a.mis > b.mis ∨ (a.mis = b.mis ∧ a.score < b.score)))

def Key.eqv (a b : Key) : Prop := a.n = b.n ∧ a.mis = b.mis ∧ a.score = b.score

theorem Key.cmp_eq_neg_one (a b : Key) : Key.cmp a b = -1 ↔ Key.lt a b := by
  simp only [Key.cmp_eq, cmp3_eq, Key.lt, @eq_comm _ b.mis, gt_iff_lt, Int.reduceNeg, reduceCtorEq, and_false,
    or_false, and_true]

theorem Key.cmp_eq_zero (a b : Key) : Key.cmp a b = 0 ↔ Key.eqv a b := by
  simp only [Key.cmp_eq, cmp3_eq, Key.eqv, @eq_comm _ b.mis, and_true, Int.reduceNeg, reduceCtorEq, Int.reduceEq,
    and_false, or_false, false_or]

theorem Key.cmp_range (a b : Key) : Key.cmp a b = -1 ∨ Key.cmp a b = 0 ∨ Key.cmp a b = 1 :=
  cmp3_range (cmp3_range (cmp3_range (Or.inr (Or.inl rfl))))

theorem Key.cmp_antisymm (a b : Key) : Key.cmp a b = - Key.cmp b a := by
  rw [Key.cmp_eq, Key.cmp_eq, ← cmp3_swap, ← cmp3_swap, ← cmp3_swap]; rfl

theorem Key.cmp_eq_one (a b : Key) : Key.cmp a b = 1 ↔ Key.lt b a := by
  rw [← Key.cmp_eq_neg_one, Key.cmp_antisymm a b]; omega

theorem Key.eqv_iff {a b : Key} : Key.eqv a b ↔ a = b := by
  cases a; cases b; simp only [Key.eqv, Key.mk.injEq]

theorem Key.eqv_refl (a : Key) : Key.eqv a a := Key.eqv_iff.2 rfl
theorem Key.eqv_symm {a b : Key} (h : Key.eqv a b) : Key.eqv b a := Key.eqv_iff.2 (Key.eqv_iff.1 h).symm
theorem Key.eqv_trans {a b c : Key} (h : Key.eqv a b) : Key.eqv b c → Key.eqv a c := Key.eqv_iff.1 h ▸ id
theorem Key.eqv_lt {a b c : Key} (h : Key.eqv a b) : Key.lt b c → Key.lt a c := Key.eqv_iff.1 h ▸ id
theorem Key.lt_eqv {a b c : Key} (h : Key.lt a b) (e : Key.eqv b c) : Key.lt a c := Key.eqv_iff.1 e ▸ h

theorem Key.lt_irrefl (a : Key) : ¬ Key.lt a a := by unfold Key.lt; omega
theorem Key.lt_trans {a b c : Key} : Key.lt a b → Key.lt b c → Key.lt a c := by
  unfold Key.lt; omega
theorem Key.lt_asymm {a b : Key} (h : Key.lt a b) : ¬ Key.lt b a :=
  fun h' => Key.lt_irrefl a (Key.lt_trans h h')
theorem Key.not_lt_of_eqv {a b : Key} (e : Key.eqv a b) : ¬ Key.lt a b :=
  fun h => Key.lt_irrefl b (Key.eqv_iff.1 e ▸ h)

theorem lexCmp_range (as bs : List Key) : lexCmp as bs = -1 ∨ lexCmp as bs = 0 ∨ lexCmp as bs = 1 := by
  fun_induction lexCmp as bs with
  | case1 a as b bs h => exact Key.cmp_range a b
  | case2 a as b bs h ih => exact ih
  | case3 => exact Or.inr (Or.inl rfl)

theorem lexCmp_cons (a b : Key) (as bs : List Key) :
    lexCmp (a :: as) (b :: bs) = cmpThen (Key.cmp a b) (lexCmp as bs) := rfl

theorem lexCmp_antisymm (as bs : List Key) : lexCmp as bs = - lexCmp bs as := by
  induction as generalizing bs with
  | nil => cases bs <;> rfl
  | cons a as ih =>
    cases bs with
    | nil => rfl
    | cons b bs => rw [lexCmp_cons, lexCmp_cons, ← cmpThen_neg, ← Key.cmp_antisymm, ← ih]

/-- `as` is not better than `bs`, rule by rule (lists of different length: only the common prefix counts) -/
def LexLE : List Key → List Key → Prop
  | a :: as, b :: bs => Key.lt a b ∨ (Key.eqv a b ∧ LexLE as bs)
  | _, _ => True

theorem lexCmp_ne_one (as bs : List Key) : lexCmp as bs ≠ 1 ↔ LexLE as bs := by
  induction as generalizing bs with
  | nil => exact iff_of_true (by decide : (0 : Int) ≠ 1) trivial
  | cons a as ih =>
    cases bs with
    | nil => exact iff_of_true (by decide : (0 : Int) ≠ 1) trivial
    | cons b bs =>
      rw [lexCmp_cons, LexLE, ← Key.cmp_eq_neg_one, ← Key.cmp_eq_zero, ← ih]
      exact cmpThen_ne_one_iff_or (Key.cmp_range a b)

theorem LexLE.refl (as : List Key) : LexLE as as := by
  induction as with
  | nil => trivial
  | cons a as ih => exact Or.inr ⟨Key.eqv_refl a, ih⟩

/-- only the common prefix is compared, so the middle list has to reach as far as the first -/
theorem LexLE.trans {as bs cs : List Key} (h : as.length ≤ bs.length) :
    LexLE as bs → LexLE bs cs → LexLE as cs := by
  induction as generalizing bs cs with
  | nil => intro _ _; cases cs <;> trivial
  | cons a as ih =>
    cases bs with
    | nil => exact absurd h (Nat.not_succ_le_zero _)
    | cons b bs =>
      cases cs with
      | nil => intro _ _; trivial
      | cons c cs =>
        rintro (x | ⟨x, xs⟩) (y | ⟨y, ys⟩)
        · exact Or.inl (Key.lt_trans x y)
        · exact Or.inl (Key.lt_eqv x y)
        · exact Or.inl (Key.eqv_lt x y)
        · exact Or.inr ⟨Key.eqv_trans x y, ih (Nat.le_of_succ_le_succ h) xs ys⟩

theorem LexLE.of_lt_head {k k' : Key} {ks ks' bs : List Key} (hk : Key.lt k k') :
    LexLE (k' :: ks') bs → LexLE (k :: ks) bs := by
  cases bs with
  | nil => intro _; trivial
  | cons b bs =>
    rintro (h | ⟨e, _⟩)
    · exact Or.inl (Key.lt_trans hk h)
    · exact Or.inl (Key.lt_eqv hk e)

/-- with `refl` and `trans`: a partial order on key lists of one length (`Key.eqv` is equality) -/
theorem LexLE.antisymm {as bs : List Key} (h : as.length = bs.length) : LexLE as bs → LexLE bs as → as = bs := by
  induction as generalizing bs with
  | nil => intro _ _; exact (List.eq_nil_of_length_eq_zero h.symm).symm
  | cons a as ih =>
    cases bs with
    | nil => cases h
    | cons b bs =>
      rintro (h1 | ⟨e1, h1⟩) (h2 | ⟨e2, h2⟩)
      · exact absurd h2 (Key.lt_asymm h1)
      · exact absurd h1 (Key.not_lt_of_eqv (Key.eqv_symm e2))
      · exact absurd h2 (Key.not_lt_of_eqv (Key.eqv_symm e1))
      · rw [Key.eqv_iff.1 e1, ih (Nat.succ.inj h) h1 h2]

/-- the orphans are compared with the sides exchanged: fewer is better -/
theorem fitCmp_eq (a b : List Key × Nat) : fitCmp a b = cmpThen (lexCmp a.1 b.1) (cmp3 b.2 a.2 0) := by
  refine congrArg (cmpThen _) ?_
  rcases Nat.lt_trichotomy a.2 b.2 with h | h | h
  · rw [if_pos h, cmp3_of_gt h]
  · rw [h, cmp3_self, if_neg (Nat.lt_irrefl _), if_neg (Nat.lt_irrefl _)]
  · rw [if_neg (Nat.lt_asymm h), if_pos h, cmp3_of_lt h]

theorem fitCmp_antisymm (a b : List Key × Nat) : fitCmp a b = - fitCmp b a := by
  rw [fitCmp_eq, fitCmp_eq, ← cmpThen_neg, ← lexCmp_antisymm, ← cmp3_swap]; rfl

theorem fitCmp_ne_one (a b : List Key × Nat) :
    fitCmp a b ≠ 1 ↔ LexLE a.1 b.1 ∧ (LexLE b.1 a.1 → b.2 ≤ a.2) := by
  rw [fitCmp_eq, cmpThen_ne_one_iff_and (lexCmp_range ..), ← lexCmp_antisymm, lexCmp_ne_one, lexCmp_ne_one,
    cmp3_ne_one]

/-- the peer count raised by one: leaves room below every key for "no fit yet" (`okey` in `Lemmas/FitSearch`) -/
def Key.up (k : Key) : Key := { k with n := k.n + 1 }

theorem Key.cmp_up (a b : Key) : Key.cmp a.up b.up = Key.cmp a b := cmp3_succ ..

theorem Key.lt_up (a b : Key) : Key.lt a.up b.up ↔ Key.lt a b := by
  rw [← Key.cmp_eq_neg_one, ← Key.cmp_eq_neg_one, Key.cmp_up]
theorem Key.eqv_up (a b : Key) : Key.eqv a.up b.up ↔ Key.eqv a b := by
  rw [← Key.cmp_eq_zero, ← Key.cmp_eq_zero, Key.cmp_up]

theorem LexLE_up (as bs : List Key) : LexLE (as.map Key.up) (bs.map Key.up) ↔ LexLE as bs := by
  induction as generalizing bs with
  | nil => simp [LexLE]
  | cons a as ih =>
    cases bs with
    | nil => simp [LexLE]
    | cons b bs => simp only [List.map_cons, LexLE, Key.lt_up, Key.eqv_up, ih bs]

end PdModel.Spec.C12
