import PdModel.Lemmas.DrAutoSync
import PdModel.Generated.DrAutoSync
/-!
Quantifiers: every history of operations (manager starts/restarts on the same storage, configuration
updates between majority and dr-auto-sync incl. label-key changes, ticks, store up/down/tombstone
events with any labels, region reports in any order with any range, state and state id, region removals,
time-out inputs, scan sizes), every AllocID result and every failure flag of the file replication and of
the storage write at every switch.  No bound on the length of the history or on the number of regions.
The only hypothesis, where state ids matter, is that the id allocator never returns an id twice
(property C04, proved separately): `(allIds ops).Nodup`.
-/
namespace PdModel.DrAutoSync
open PdModel.Spec

def observe : St → List Op → List C19.Obs
  | _, [] => []
  | s, op :: ops =>
    { cause := causeOf s op, reports := (step s op).1.log.map toReport, before := toSpec (startOf s op),
      evs := specEvs (step s op).2.evs, after := toSpec (step s op).1.served } :: observe (step s op).1 ops

/-- all ids handed out by the id allocator during a history, in order -/
def allIds (ops : List Op) : List Nat := ops.flatMap opIds

theorem C19_holds_from (s : St) (hinv : Inv s) (ops : List Op) (used : List Nat)
    (hf : Fresh (allIds ops) used) : C19.Holds used (observe s ops) := by
  induction ops generalizing s used with
  | nil => trivial
  | cons op ops ih =>
    simp only [observe, C19.Holds]
    obtain ⟨rest, hrest⟩ := (step_part s op).ids
    rw [show allIds (op :: ops) = opIds op ++ allIds ops from List.flatMap_cons, ← hrest] at hf
    refine ⟨sw_to_run ((step_part s op).sw.mono (opOk_allowed s op hinv)) hf.prefix.prefix, ?_⟩
    rw [idsOf_specEvs]
    exact ih _ (inv_step s op hinv) _ (hf.suffix fun i hi => List.mem_append_left _ hi)

/-- For every history of the model in which the id allocator never repeats an id, what is observed
    satisfies the specification `Spec.C19.Holds`: every change of the served replication state is
    a switch  *obtain a fresh id ; offer the new status to all members ; persist it – all while the old
    state is still served –* and only then serve it; a failed id allocation or persist leaves the served
    state unchanged; a switch to `async` happens only in a tick whose facts say that one data centre has
    lost as many stores as it has replicas while a majority of the replicas can still be up and the wait
    time-out has passed (or on a change of the label key); `async → sync_recover` only in a tick in which
    both data centres have fewer failed stores than replicas (or when dr-auto-sync is switched on); and
    `sync_recover → sync` only when every key of the key space lies in a region that has reported integrity
    under the state id of that `sync_recover` state (or at the very first start). -/
theorem C19_holds (batch minSample : Nat) (ops : List Op) (hfresh : (allIds ops).Nodup) :
    C19.Holds [] (observe (init batch minSample) ops) :=
  C19_holds_from _ (inv_init _ _) ops [] ⟨hfresh, fun _ _ => by simp⟩

/-- instantiated with the scan sizes extracted from `/repo/server/replication/replication_mode.go` -/
theorem C19_holds_extracted (ops : List Op) (hfresh : (allIds ops).Nodup) :
    C19.Holds [] (observe (init Generated.DrAutoSync.regionScanBatchSize Generated.DrAutoSync.regionMinSampleSize) ops) :=
  C19_holds _ _ ops hfresh

/-- The events of every operation from every state form a sequence of attempted switches
    `alloc ; file ; save [; publish]` in which the file replication and the save of each switch happen
    while the previous state is still in memory, a publish follows exactly the successful saves, and the
    state served in the end is the last published one (or the initial one). -/
theorem persist_before_publish (s : St) (op : Op) :
    Sw (OpOk s op) (startOf s op) (step s op).2.evs (step s op).1.served := (step_part s op).sw

/-- whenever a new state is published, the events of that operation contain, immediately before the
    publish and in this order: the allocation of its id, its replication to all members, its successful
    save; the last two saw the same in-memory state -/
theorem publish_preceded_by_offer_and_persist (s : St) (op : Op) (st : DrState) (id : Nat)
    (h : Ev.publish st id ∈ (step s op).2.evs) :
    ∃ pre post okf seen, (step s op).2.evs =
      pre ++ [.alloc id, .file st id okf seen, .save st id true seen, .publish st id] ++ post :=
  have ⟨pre, post, okf, seen, _, e⟩ := (step_part s op).sw.publish_split h
  ⟨pre, post, okf, seen, e⟩

/-- an operation without a successful save (AllocID failed, or every SaveReplicationStatus failed – with
    or without having written) serves afterwards what was served before -/
theorem failed_persist_served_unchanged (s : St) (op : Op)
    (h : ∀ st id seen, Ev.save st id true seen ∉ (step s op).2.evs) :
    (step s op).1.served = startOf s op := (step_part s op).sw.unchanged h

theorem publish_opOk {s : St} {op : Op} {st : DrState} {id : Nat} (h : Ev.publish st id ∈ (step s op).2.evs) :
    ∃ cur, OpOk s op cur (st, id) :=
  have ⟨_, _, _, cur, hok, _⟩ := (step_part s op).sw.publish_split h
  ⟨cur, hok⟩

/-- a switch to `async` is made only by a tick in dr-auto-sync mode that finds ¬canSync ∧ hasMajority ∧
    time-out passed in a state other than `async`, or by a configuration update that changes the label key -/
theorem to_async_only_if (s : St) (op : Op) (id : Nat) (h : Ev.publish .async id ∈ (step s op).2.evs) :
    (∃ xs, op = .tick xs ∧ s.mgr = true ∧ s.cfg.dr = true ∧ ¬ (factsOf s).canSync ∧ (factsOf s).hasMajority ∧
        timeoutPassed s = true ∧ s.dr.state ≠ .async) ∨
    (∃ c x, op = .cfg c x ∧ s.cfg.dr = true ∧ c.dr = true ∧ s.cfg.labelKey ≠ c.labelKey) := by
  obtain ⟨cur, hok⟩ := publish_opOk h
  cases op <;> simp only [OpOk] at hok
  · exact nomatch hok.1
  · next c x =>
    obtain ⟨_, _, ⟨hc, _⟩ | ⟨_, h1, h2, h3⟩⟩ := hok
    · exact nomatch hc
    · exact .inr ⟨c, x, rfl, h1, h2, h3⟩
  · next xs =>
    obtain ⟨hm, hdr, hc, _⟩ := hok
    have := (asyncCond_iff s).1 hc
    exact .inl ⟨xs, rfl, hm, hdr, this.1, this.2.1, this.2.2.1, this.2.2.2⟩

/-- a switch to `sync_recover` is made only by a tick in dr-auto-sync mode that starts in `async` and finds
    both data centres with fewer failed stores than replicas, or by a configuration update that switches
    from majority to dr-auto-sync -/
theorem to_sync_recover_only_if (s : St) (op : Op) (id : Nat)
    (h : Ev.publish .syncRecover id ∈ (step s op).2.evs) :
    (∃ xs, op = .tick xs ∧ s.mgr = true ∧ s.cfg.dr = true ∧ (factsOf s).canSync ∧ s.dr.state = .async) ∨
    (∃ c x, op = .cfg c x ∧ s.cfg.dr = false ∧ c.dr = true) := by
  obtain ⟨cur, hok⟩ := publish_opOk h
  cases op <;> simp only [OpOk] at hok
  · exact nomatch hok.1
  · next c x =>
    obtain ⟨_, _, ⟨_, h1, h2⟩ | ⟨hc, _⟩⟩ := hok
    · exact .inr ⟨c, x, rfl, h1, h2⟩
    · exact nomatch hc
  · next xs =>
    obtain ⟨hm, hdr, h1, h2, rfl⟩ := hok
    exact .inl ⟨xs, rfl, hm, hdr, (canSyncNow_iff s).1 h1, h2⟩

/-- the cursor invariant holds in every reachable state: the regions passed by the recovery cursor form a
    contiguous chain from the empty key to the cursor, their number is the recovery count, while the state
    is `sync_recover` each of them reported integrity under the current state id, and each was reported -/
theorem inv_reachable (batch minSample : Nat) (ops : List Op) : Inv (run (init batch minSample) ops) :=
  inv_run _ ops (inv_init _ _)

/-- the clause "to sync only if" from every state that satisfies the cursor invariant -/
theorem sync_only_if_covered (s : St) (hinv : Inv s) (op : Op) (id : Nat)
    (h : Ev.publish .sync id ∈ (step s op).2.evs) :
    (∃ c x, op = .new c x ∧ c.dr = true ∧ s.stored = none) ∨
    (∃ xs, op = .tick xs ∧ s.cfg.dr = true ∧
      (decision s xs).dr.state = .syncRecover ∧ (decision s xs).dr = (beforeScan s xs).dr ∧
      (decision s xs).passed ≠ [] ∧ Chain 0 (decision s xs).passed 0 ∧
      (∀ r ∈ (decision s xs).passed, r.st = .integrity ∧ r.sid = (decision s xs).dr.id ∧ r ∈ s.log) ∧
      C19.Covered (s.log.map toReport) (decision s xs).dr.id) := by
  obtain ⟨cur, hok⟩ := publish_opOk h
  cases op <;> simp only [OpOk] at hok
  · next c x => exact .inl ⟨c, x, rfl, hok.2.1, hok.2.2.1⟩
  · obtain ⟨_, _, ⟨hc, _⟩ | ⟨hc, _⟩⟩ := hok <;> exact nomatch hc
  · next xs =>
    obtain ⟨_, hdr, hsr, hfin, rfl⟩ := hok
    refine .inr ⟨xs, rfl, hdr, ?_⟩
    have hc := decision_covered s xs hinv hsr hfin
    have hd : (decision s xs).dr = _ := scanned_dr _
    generalize decision s xs = d at hsr hc hd ⊢
    exact ⟨hsr, hd, hc⟩

/-- In every reachable state, if an operation declares `sync` then either it is the first start in
    dr-auto-sync mode with nothing persisted, or it is a tick and, on the state `d` the tick decided on:
    the state is `sync_recover`, with the id it had before the tick's scan; the regions passed by the cursor are a
    non-empty contiguous chain from the empty start key to the open end; every one of them reported integrity under
    the id of that `sync_recover` state and is in the log of reports; hence every key is covered. -/
theorem to_sync_only_if_all_regions_contiguous_integrity (batch minSample : Nat) (ops : List Op) (op : Op)
    (id : Nat) (h : Ev.publish .sync id ∈ (step (run (init batch minSample) ops) op).2.evs) :
    let s := run (init batch minSample) ops
    (∃ c x, op = .new c x ∧ c.dr = true ∧ s.stored = none) ∨
    (∃ xs, op = .tick xs ∧ s.cfg.dr = true ∧
      (decision s xs).dr.state = .syncRecover ∧ (decision s xs).dr = (beforeScan s xs).dr ∧
      (decision s xs).passed ≠ [] ∧ Chain 0 (decision s xs).passed 0 ∧
      (∀ r ∈ (decision s xs).passed, r.st = .integrity ∧ r.sid = (decision s xs).dr.id ∧ r ∈ s.log) ∧
      C19.Covered (s.log.map toReport) (decision s xs).dr.id) :=
  sync_only_if_covered _ (inv_reachable batch minSample ops) op id h

/-- the cursor only moves over regions that are in the region cache at that tick and report integrity
    under the state id that is current at that moment ("… under the current state id when it was passed") -/
theorem cursor_passes_only_cached_integrity_regions (s : St) :
    ∀ r ∈ (scanned s).passed, r ∈ s.passed ∨ (r ∈ s.regions ∧ r.st = .integrity ∧ r.sid = s.dr.id) := by
  obtain ⟨more, a⟩ := scanned_advance s
  intro r hr
  rw [a.passed] at hr
  exact (List.mem_append.1 hr).imp_right (a.ok r)

theorem majority_mode_tick_noop (s : St) (xs : List SwitchIn) (h : s.cfg.dr = false) : tick s xs = (s, []) := by
  unfold tick; rw [h]; rfl

/-- the state ids served during a history, in order -/
def servedIds : St → List Op → List Nat
  | _, [] => []
  | s, op :: ops => publishIds (step s op).2.evs ++ servedIds (step s op).1 ops

theorem servedIds_sublist (s : St) (ops : List Op) : (servedIds s ops).Sublist (allIds ops) := by
  induction ops generalizing s with
  | nil => exact List.Sublist.refl _
  | cons op ops ih =>
    simp only [servedIds, allIds, List.flatMap_cons]
    exact ((sw_publishIds_sublist (step_part s op).sw).trans (step_part s op).ids.sublist).append (ih _)

/-- if the id allocator never returns an id twice (C04), no state id is ever served by two different switches of a history -/
theorem state_id_fresh (s : St) (ops : List Op) (hfresh : (allIds ops).Nodup) : (servedIds s ops).Nodup :=
  (servedIds_sublist s ops).nodup hfresh

/-- a sample that is not all recovered (`sr < st`) weighs on at least `st` unchecked regions: the estimate stays below 1 -/
theorem progress_lt (rc st tu sr : Nat) (h1 : sr < st) (h2 : st ≤ tu) : rc * st + tu * sr < st * (rc + tu) := by
  rw [Nat.mul_add, Nat.mul_comm st rc, Nat.mul_comm st tu]
  exact Nat.add_lt_add_left (Nat.mul_lt_mul_of_pos_left h1 (by omega)) _

/-- the exact value of the progress estimate is 1 exactly when the cursor is at the end of the key
    space with at least one region passed; otherwise it is a proper fraction below 1 -/
theorem exact_progress_eq_one_iff (s : St) :
    0 < (exactProgress s).2 ∧ (exactProgress s).1 ≤ (exactProgress s).2 ∧
    ((exactProgress s).1 = (exactProgress s).2 ↔ (s.recKey = 0 ∧ 0 < s.recCount)) := by
  unfold exactProgress
  split
  · next hf => exact ⟨Nat.one_pos, Nat.le_refl _, fun _ => (finished_iff s).1 hf, fun _ => rfl⟩
  · next hf =>
    rw [finished_iff] at hf
    simp only [estimateInputs]
    generalize hst : (if s.sampleTotal ≤ s.sampleRec then s.sampleRec + 1 else s.sampleTotal) = st
    have hlt : s.sampleRec < st := by rw [← hst]; split <;> omega
    generalize htu : (if s.total < s.recCount + st then st else s.total - s.recCount) = tu
    have hge : st ≤ tu := by rw [← htu]; split <;> omega
    have := progress_lt s.recCount st tu s.sampleRec hlt hge
    exact ⟨Nat.zero_lt_of_lt this, Nat.le_of_lt this, fun h => absurd h (Nat.ne_of_lt this), fun h => absurd h hf⟩

/-- in every history whose region reports have non-empty ranges the region cache of the model stays
    ordered and non-overlapping, and the fuel-bounded loop that models `updateProgress` is never cut
    short: the model's scan is the code's scan for every number of regions and every batch size -/
theorem scan_loop_never_truncated (batch minSample : Nat) (ops : List Op) (hops : ∀ op ∈ ops, op.wf) :
    CacheOk (run (init batch minSample) ops).regions ∧ (run (init batch minSample) ops).exhausted = false := by
  have := good_run (init batch minSample) ops hops ⟨⟨by simp [init], by simp [init]⟩, rfl⟩
  exact ⟨this.cache, this.fuel⟩

/-- the converse direction, for every number of regions and every positive batch size: in `sync_recover`
    with the cursor at the start, if the cached regions cover the whole key space contiguously and all report
    integrity under the current state id, the recovery part of one tick scans to the end and – the id
    allocation and the save succeeding – declares `sync` under the new id -/
theorem complete_reports_declare_sync (s : St) (x : SwitchIn) (xs : List SwitchIn) (id : Nat)
    (hst : s.dr.state = .syncRecover) (hc : CacheOk s.regions) (hne : s.regions ≠ [])
    (hcur : s.recKey = 0 ∧ s.recCount = 0) (hch : Chain 0 s.regions 0)
    (hall : ∀ r ∈ s.regions, r.st = .integrity ∧ r.sid = s.dr.id) (hb : 0 < s.batch)
    (hx : x.id = some id) (hsave : x.save = 0) :
    finished (scanned s) = true ∧ (recoverPhase s (x :: xs)).1.served = (.sync, id) := by
  have hfin : finished (updateProgress s).1 = true := by
    unfold updateProgress
    exact loop_completes _ s [] s.regions rfl hc (hcur.1 ▸ hch) hall (fun h => absurd h hne) hb (by omega)
  have hfin' : finished (scanned s) = true := by
    unfold scanned estimate
    rw [if_pos hfin]
    exact hfin
  refine ⟨hfin', ?_⟩
  rw [recoverPhase_eq]
  simp only [hst, beq_self_eq_true, if_true, hfin']
  show (switchTo (scanned s) .sync x).1.served = _
  unfold switchTo
  rw [hx]
  dsimp only
  rw [if_pos hsave]
  rfl

/-- the decision of tickDR before the repair: `progress == 1.0` on the float32 estimate -/
def unrepairedDecision (s : St) : Bool := (estimateF32 s).bits == F32.one.bits

/-- 2^24 regions passed, the cursor in the middle of the key space, one region outstanding -/
def f9Witness : St :=
  { recKey := 10, recCount := 16777216, sampleRec := 0, sampleTotal := 1, total := 16777217 }

/-- F9: on the witness the float32 estimate is exactly 1.0 (so the unrepaired code declared `sync`) although
    the scan is not finished and the exact estimate is 16777216/16777217; one region fewer and the float
    is below 1 -/
theorem f9_float32_estimate_rounds_to_one :
    unrepairedDecision f9Witness = true ∧ finished f9Witness = false ∧
    exactProgress f9Witness = (16777216, 16777217) ∧
    unrepairedDecision { f9Witness with recCount := 16777215, total := 16777216 } = false := by decide

/-! ### non-vacuity: a concrete history through all three states, with a failed persist, scan batches of
    two regions and regions that reported the id before the cluster reached it -/

def demoCfg : Config := { dr := true, pRep := 2, dRep := 1 }

def demoOps : List Op :=
  [.store ⟨1, 1, false, false⟩, .store ⟨2, 1, false, false⟩, .store ⟨3, 2, false, false⟩,
   .new demoCfg { id := some 1 },
   .store ⟨3, 2, true, false⟩,
   .tick [{ id := some 2 }, { id := some 3 }],                      -- sync → async
   .store ⟨3, 2, false, false⟩,
   .fill 5 .integrity 4,
   .region ⟨4, 30, 40, .majority, 4⟩,
   .tick [{ id := some 4, fileOk := false }, { id := some 5 }],     -- async → sync_recover, scan stops at region 4
   .region ⟨4, 30, 40, .integrity, 4⟩,
   .tick [{ id := some 6, save := 1 }, { id := some 7 }],           -- scan completes, the save fails
   .tick [{ id := some 8 }, { id := some 9 }]]                      -- sync_recover → sync

example : servedIds (init 2 2) demoOps = [1, 2, 4, 8] ∧ (run (init 2 2) demoOps).served = (.sync, 8) ∧
    (run (init 2 2) (demoOps.take 10)).recKey = 30 ∧ (allIds demoOps).Nodup := by decide

/-- structure obligations re-checked against the facts regenerated from the Go source on every run:
    every state switch is `AllocID ; drPersistStatus ; SaveReplicationStatus ; m.drAutoSync = dr` in this
    order at the top level of its function, a failed save returns before the assignment, the recovery
    cursor is reset only after the save, the switches and UpdateConfig hold the manager's lock for their
    whole body, and tickDR tries the switch to async first, then the switch to sync_recover, then scans, and
    decides only after the scan. -/
theorem persist_before_publish_in_source :
    Generated.DrAutoSync.toAsyncPersistBeforePublish = true ∧
    Generated.DrAutoSync.toSyncRecoverPersistBeforePublish = true ∧
    Generated.DrAutoSync.toSyncPersistBeforePublish = true ∧
    Generated.DrAutoSync.toSyncRecoverResetsCursorAfterPublish = true ∧
    Generated.DrAutoSync.toSyncLocked = true ∧ Generated.DrAutoSync.toAsyncLocked = true ∧
    Generated.DrAutoSync.toSyncRecoverLocked = true ∧ Generated.DrAutoSync.updateConfigLocked = true ∧
    Generated.DrAutoSync.tickScansBeforeDeciding = true ∧
    Generated.DrAutoSync.tickRecoverSwitchBeforeScan = true ∧
    Generated.DrAutoSync.tickAsyncPhaseFirst = true := by decide

end PdModel.DrAutoSync
