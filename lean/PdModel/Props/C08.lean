import PdModel.Lemmas.BuilderJoint
import PdModel.Lemmas.BuilderCalls
import PdModel.Lemmas.BuilderLeave
import PdModel.Lemmas.BuilderSingle
import PdModel.Generated.Builder
namespace PdModel.Builder
open PdModel.Steps PdModel.Spec

/-- the order of planners, preference functions and leader-target conditions the model follows is
    the one extracted from the Go source on this run -/
theorem builder_structure_as_modelled :
    PdModel.Generated.Builder.peerPlanOrder =
      ["planReplace", "planPromotePeer", "planDemotePeer", "planRemovePeer", "planAddPeer"] ∧
    PdModel.Generated.Builder.planPreferOrder =
      ["planPreferReplaceByNearest", "planPreferUpStoreAsLeader", "planPreferOldPeerAsLeader",
       "planPreferAddOrPromoteTargetLeader", "planPreferTargetLeader", "planPreferLessLeaderTransfer"] ∧
    PdModel.Generated.Builder.leaderPreferOrder =
      ["preferLeaderRoleAsLeader", "preferUpStoreAsLeader", "preferCurrentLeader",
       "preferKeepVoterAsLeader", "preferOldPeerAsLeader"] ∧
    PdModel.Generated.Builder.leaderTargetConditions =
      ["isTombstone", "isOffline", "isDown", "pauseLeaderTransfer", "isDisconnected", "isBusy",
       "hasRejectLeaderProperty"] := ⟨rfl, rfl, rfl, rfl⟩

/-- **C08, joint consensus.**  For every recorded request on a well-formed region (`Recorded`): if
    `prepareBuild` succeeds, decides for joint consensus and `buildStepsWithJointConsensus` returns
    steps, these steps are a safe plan that reaches the requested peers, roles and leader.
    No bound on the number of stores or peers; store states, labels, rules, flags are arbitrary. -/
theorem build_joint_safe (b0 b1 b2 : B) (nid : Nat) (rec : Recorded b0)
    (h1 : prepareBuild b0 nid = .ok b1) (hj : b1.useJoint = true) (h2 : buildJoint b1 = .ok b2) :
    C08.SafePlan ⟨b0.originPeers, b0.originLeader⟩ (requestedTarget b0) b2.steps := by
  have hp := prepared_of rec h1
  have hd : b0.allowDemote = true := rec.demote (prepareBuild_useJoint h1 hj)
  -- the target leader: the one requested, or the store of a target voter
  obtain ⟨bc, hb2, k1, htv, hreq, c1, cP, cD, cR, cL⟩ := buildJoint_ok
    (by rw [hp.keeps.targetPeers]; exact rec.plainT)
    (by rw [hp.leader, hp.keeps.targetPeers]; exact reqLeader_voter rec) h2
  rw [hp.keeps.targetPeers] at htv
  rw [hp.leader] at hreq
  have k := hp.keeps.trans k1
  have ctx := jd_ctx rec hd hp.toAdd
  have hRS := jd_R_stores rec hd hp.toAdd
  obtain ⟨hA1, hA2, hA3⟩ := jd_A_facts rec hd hp.toAdd
  have eR : pmSorted bc.toRemove = jdR b0 := by rw [cR, hp.toRemove]; rfl
  have eP : bc.toPromote = jdPm b0 b1.toAdd := by rw [cP, hp.toPromote]; rfl
  have eD : bc.toDemote = jdDm b0 := by rw [cD, hp.toRemove, hp.toDemote]; rfl
  have eCur : bc.cur.leader = bc.originLeader := by rw [cL, hp.cur, k.originLeader]
  obtain ⟨pt, hptT, hpts, hptr⟩ := htv
  have hpt : pmGet b0.targetPeers bc.targetLeader = some pt := hpts ▸ pmGet_of_mem rec.nodupT hptT
  have htT : bc.targetLeader ∈ stores b0.targetPeers := mem_stores.2 ⟨pt, hptT, hpts⟩
  have hfT : finV b0.targetPeers bc.targetLeader = true := finV_iff.2 ⟨pt, hptT, hpts, hptr⟩
  obtain ⟨pl, hplO, hpls, hplr⟩ := rec.leader
  have hOS : ∀ p ∈ b0.originPeers, p ∈ jdS b0 b1.toAdd := fun p hp =>
    (jd_mem_S p).2 (Or.inl hp)
  obtain ⟨mid, m1, m2, m3⟩ := jointMid_spec bc (jdS b0 b1.toAdd) eCur
    (by rw [k.originLeader, ← hpls]; exact rec.store0 pl hplO)
    (by rw [k.originPeers]; exact hOS) (by rw [k.originPeers]; exact rec.plainO)
    (by rw [k.targetPeers]; exact rec.plainT) (by rw [k.targetPeers]; exact ⟨pt, hpt, hptr⟩)
  rw [k.targetPeers, eP, eD, k.originLeader] at m3
  have hsteps : b2.steps = (jdA b1.toAdd).map (addStep b1.lightWeight) ++ (mid ++ (jdR b0).map rmStep) := by
    rw [hb2, m1, m2, eR, c1, hp.steps]
    simp [jdA, List.append_assoc]
  have hvS : votersOf (jdS b0 b1.toAdd) = votersOf b0.originPeers := by
    simp [votersOf, jdS, List.countP_append, List.countP_map, asLearner, Function.comp_def]
  have hmin := minVoters_eq rec
  have sa := adds_safe (C08.minVoters ⟨b0.originPeers, b0.originLeader⟩ (requestedTarget b0))
    b1.lightWeight (jdA b1.toAdd) ⟨b0.originPeers, b0.originLeader⟩ rec.nodupO hA1
    (fun a ha => (hA2 a ha).1) (by rw [plain_voterCount rec.plainO, hmin]; exact Nat.min_le_left _ _)
  have hlS : b0.originLeader ∈ stores (jdS b0 b1.toAdd) :=
    mem_stores.2 ⟨pl, hOS pl hplO, hpls⟩
  obtain ⟨sc, fc⟩ := joint_core_safe ctx (jdR b0) hRS b0.originLeader bc.targetLeader (reqLeader b0)
    (C08.minVoters ⟨b0.originPeers, b0.originLeader⟩ (requestedTarget b0)) hlS htT hfT hreq
    (by rw [hmin, hvS]; exact Nat.le_refl _) mid m3
  exact hsteps ▸ (sa.append ⟨sc, rfl⟩).final fc

/-- **C08 through the entry point.**  `NewBuilder(cluster, region).<any recording calls>.Build()` on a
    well-formed region that is not in a joint state: whenever the build takes the joint-consensus path and
    returns an operator, its steps are a safe plan for the placement the calls asked for. -/
theorem buildWith_joint_safe (c : Cluster) (origin : Region) (uh : List Nat) (skip : Bool)
    (calls : List Call) (nid : Nat) (b2 : B) (hg : GoodOrigin origin)
    (h : buildWith c origin uh skip calls nid = .ok b2) :
    ∃ b0, (∃ bn, newBuilder c origin uh skip = .ok bn ∧ applyCalls bn calls = .ok b0) ∧
      ∀ b1, prepareBuild b0 nid = .ok b1 → b1.useJoint = true →
        C08.SafePlan origin (requestedTarget b0) b2.steps := by
  obtain ⟨bn, b0, hn, hc, hb⟩ := buildWith_ok h
  refine ⟨b0, ⟨bn, hn, hc⟩, fun b1 hp hj => ?_⟩
  obtain ⟨rec, e1, e2⟩ := recorded_of_calls hg hn hc
  have h2 := build_ok hb hp
  rw [hj, if_pos rfl] at h2
  have := build_joint_safe b0 b1 b2 nid rec hp hj h2
  rw [e1, e2] at this
  exact this

/-- **C08, leave joint.**  `CreateLeaveJointStateOperator` on a well-formed region in a joint state: if a
    target leader was found (`targetLeader ≠ 0`), the steps – an optional leader transfer and the `Leave` –
    are a safe plan that ends with incoming → voter, demoting → learner. -/
theorem build_leave_joint_safe (c : Cluster) (origin : Region) (uh : List Nat) (b : B)
    (hwf : C08.WellFormed origin) (h : createLeaveJoint c origin uh = .ok b) (ht : b.targetLeader ≠ 0) :
    C08.SafePlan origin ⟨origin.peers.map (fun p => (p.store, leaveRole p.role)), 0⟩ b.steps := by
  have hn : (stores origin.peers).Nodup := hwf.1
  obtain ⟨hv, hsteps⟩ := createLeaveJoint_steps hn h ht
  obtain ⟨pt, hpt, hpts, hfull⟩ := hv
  have hm0 : C08.minVoters origin ⟨origin.peers.map (fun p => (p.store, leaveRole p.role)), 0⟩ ≤ C08.voterCount origin :=
    Nat.min_le_left _ _
  obtain ⟨s1, s2⟩ := leave_step_safe origin.peers b.targetLeader _ hn ⟨pt, hpt, hpts, hfull⟩ hm0
  have hfv : C08.isFullVoter origin b.targetLeader = true := hpts ▸ fullVoter_of_mem hn hpt hfull
  exact hsteps ▸ ((transferIf_safe b.targetLeader hfv hn hm0).append (.step s1)).final s2

/-- **C08, single change** (the only way `buildStepsWithoutJointConsensus` runs while joint consensus is
    on, and every `Create{Add,Remove,Promote}…Operator` / leader transfer): for every recorded request on
    a well-formed region whose peer ids are distinct, if `prepareBuild` leaves at most one pending peer
    change and the greedy loop returns steps, they are a safe plan for the requested placement. -/
theorem build_single_change_safe (b0 b1 b2 : B) (nid : Nat) (rec : Recorded b0)
    (hids : (b0.originPeers.map (·.id)).Nodup)
    (h1 : prepareBuild b0 nid = .ok b1) (hpc : pendingCount b1 ≤ 1) (h2 : buildNoJoint b1 = .ok b2) :
    C08.SafePlan ⟨b0.originPeers, b0.originLeader⟩ (requestedTarget b0) b2.steps := by
  have hp := prepared_of rec h1
  rw [buildNoJoint_eq] at h2
  cases hl : planLoop (pendingCount b1) b1 with
  | error e => rw [hl] at h2; cases h2
  | ok b' =>
    rw [hl] at h2
    obtain ⟨_, h2⟩ := ok_of_guard h2
    cases h2
    obtain ⟨hr, hT, hL⟩ := planLoop_single rec hp hids hpc hl
    exact finish_safe (reqLeader b0) hr.inv hT rec.nodupT rec.plainT hr.same hL (reqLeader_voter rec)

/-- the same through the entry point `NewBuilder(region).<any recording calls>.Build()` -/
theorem buildWith_single_change_safe (c : Cluster) (origin : Region) (uh : List Nat) (skip : Bool)
    (calls : List Call) (nid : Nat) (b2 : B) (hg : GoodOrigin origin)
    (hids : (origin.peers.map (·.id)).Nodup)
    (h : buildWith c origin uh skip calls nid = .ok b2) :
    ∃ b0, (∃ bn, newBuilder c origin uh skip = .ok bn ∧ applyCalls bn calls = .ok b0) ∧
      ∀ b1, prepareBuild b0 nid = .ok b1 → b1.useJoint = false → pendingCount b1 ≤ 1 →
        C08.SafePlan origin (requestedTarget b0) b2.steps := by
  obtain ⟨bn, b0, hn, hc, hb⟩ := buildWith_ok h
  refine ⟨b0, ⟨bn, hn, hc⟩, fun b1 hp hj hpc => ?_⟩
  obtain ⟨rec, e1, e2⟩ := recorded_of_calls hg hn hc
  have h2 := build_ok hb hp
  rw [hj, if_neg Bool.false_ne_true] at h2
  have := build_single_change_safe b0 b1 b2 nid rec (by rw [e1]; exact hids) hp hpc h2
  rw [e1, e2] at this
  exact this

def stepsOf (r : Except Err B) : List Step :=
  match r with
  | .ok b => b.steps
  | .error _ => []

def threeStores (sj oj : Bool) : Cluster :=
  { stores := [{ id := 1 }, { id := 2 }, { id := 3 }], supportJoint := sj, optJoint := oj }

def originF5a : Region := ⟨[⟨1, 11, .learner⟩, ⟨2, 12, .voter⟩, ⟨3, 13, .voter⟩], 3⟩
def targetF5a : C08.Target := ⟨[(2, .learner), (3, .voter)], 0⟩
def stepsF5a : List Step :=
  stepsOf (buildWith (threeStores false false) originF5a [] false
    [.setPeers [⟨2, 0, .learner⟩, ⟨3, 0, .voter⟩]] 100)

/-- F5a: without joint-consensus support a voter→learner change in place makes the builder add the
    learner on the store whose voter is still there -/
theorem build_nojoint_counterexample_occupied :
    stepsF5a = [.addLearner 2 100, .removePeer 1 11, .removePeer 2 12] ∧
    ¬ C08.SafePlan originF5a targetF5a stepsF5a ∧
    C08.firstViolation originF5a targetF5a stepsF5a = some (0, .precondition) := by
  refine ⟨by decide, ?_, by decide⟩
  rw [← C08.checkSafePlan_iff]; decide

def originF5b : Region := ⟨[⟨1, 11, .voter⟩, ⟨2, 12, .voter⟩], 1⟩
def targetF5b : C08.Target := ⟨[(1, .learner), (2, .voter), (3, .voter)], 0⟩
def stepsF5b : List Step :=
  stepsOf (buildWith (threeStores true false) originF5b [] false
    [.setPeers [⟨1, 0, .learner⟩, ⟨2, 0, .voter⟩, ⟨3, 0, .voter⟩]] 100)

/-- F5b: demotion allowed but joint consensus switched off: the voter is demoted before the new
    voter is added, one voter is left although origin and target have two -/
theorem build_nojoint_counterexample_voters :
    stepsF5b = [.transferLeader 1 2, .demoteFollower 1 11, .addLearner 3 100, .promoteLearner 3 100] ∧
    ¬ C08.SafePlan originF5b targetF5b stepsF5b ∧
    C08.firstViolation originF5b targetF5b stepsF5b = some (1, .votersBelowMin) := by
  refine ⟨by decide, ?_, by decide⟩
  rw [← C08.checkSafePlan_iff]; decide

end PdModel.Builder
