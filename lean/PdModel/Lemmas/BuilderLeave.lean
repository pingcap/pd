import PdModel.Lemmas.BuilderPrepare
import PdModel.Lemmas.BuilderCalls
/-! CreateLeaveJointStateOperator: shape of the steps and safety. -/
namespace PdModel.Builder
open PdModel.Steps PdModel.Spec PdModel.Spec.C08

theorem leaveJointFirst_eq (b : B) : ∃ t, leaveJointFirst b = { b with targetLeader := t } ∧
    (t = 0 ∨ ∃ p ∈ b.originPeers, p.store = t ∧ p.role ≠ .learner ∧ p.role ≠ .demoting) := by
  unfold leaveJointFirst
  split
  · next leader hl =>
    split
    · next ha => exact ⟨_, rfl, Or.inr ⟨leader, (pmGet_some hl).1, (pmGet_some hl).2, allowLeader_role ha⟩⟩
    · exact ⟨_, rfl, Or.inl rfl⟩
  · exact ⟨_, rfl, Or.inl rfl⟩

theorem leaveJointLeader_eq (b : B) (hT : b.targetPeers = b.originPeers) : ∃ t f,
    leaveJointLeader b = { b with targetLeader := t, force := f, cur := ⟨b.originPeers, b.originLeader⟩ } ∧
    (t = 0 ∨ ∃ p ∈ b.originPeers, p.store = t ∧ p.role ≠ .learner ∧ p.role ≠ .demoting) := by
  obtain ⟨t1, e1, h1⟩ := leaveJointFirst_eq b
  obtain ⟨t3, e3, h3⟩ := setTarget_eq (startCurrent (leaveJointFirst b))
  have h3' : t3 = 0 ∨ ∃ p ∈ b.originPeers, p.store = t3 ∧ p.role ≠ .learner ∧ p.role ≠ .demoting := by
    rw [e1] at h3
    rcases h3 with ⟨_, e⟩ | ⟨_, h⟩
    · exact e ▸ h1
    · exact hT ▸ h
  unfold leaveJointLeader
  rw [e3, e1]
  by_cases h0 : t3 = 0
  · subst h0
    obtain ⟨t4, e4, h4⟩ := setTarget_eq
      (forceLeader { startCurrent { b with targetLeader := t1 } with targetLeader := 0 })
    refine ⟨t4, true, e4, ?_⟩
    rcases h4 with ⟨hne, _⟩ | ⟨_, h⟩
    · exact absurd rfl hne
    · exact hT ▸ h
  · exact ⟨t3, b.force, if_neg (by simpa using h0), h3'⟩

theorem execChangePeerV2_leave_steps (b : B) :
    (execChangePeerV2 b false true).steps =
      b.steps ++ (if b.originLeader != b.targetLeader then [.transferLeader b.cur.leader b.targetLeader] else []) ++
      [.leave (toItems (pmSorted b.toPromote)) (toItems (pmSorted b.toDemote))] ∧
    (execChangePeerV2 b false true).targetLeader = b.targetLeader := by
  cases hc : (b.originLeader != b.targetLeader) <;>
    simp [execChangePeerV2, hc, execTransferLeader, List.append_assoc]

theorem full_of_not_learner_demoting {r : Role} (h1 : r ≠ .learner) (h2 : r ≠ .demoting) :
    r = .voter ∨ r = .incoming := by
  cases r <;> simp_all

/-- what `CreateLeaveJointStateOperator` returns when it finds a target leader: an optional transfer to a
    voter of the incoming configuration, then the `Leave` naming every incoming / demoting peer -/
theorem createLeaveJoint_steps {c : Cluster} {origin : Region} {uh : List Nat} {b : B}
    (hn : (stores origin.peers).Nodup) (h : createLeaveJoint c origin uh = .ok b) (ht : b.targetLeader ≠ 0) :
    (∃ p ∈ origin.peers, p.store = b.targetLeader ∧ (p.role = .voter ∨ p.role = .incoming)) ∧
    b.steps =
      (if origin.leader != b.targetLeader then [.transferLeader origin.leader b.targetLeader] else []) ++
      [.leave (toItems (pmSorted (origin.peers.filter (fun o => o.role == .incoming))))
              (toItems (pmSorted (origin.peers.filter (fun o => o.role == .demoting))))] := by
  unfold createLeaveJoint at h
  split at h; · cases h
  next bn hbn =>
  obtain ⟨_, h⟩ := ok_of_guard h
  obtain ⟨t, f, e, hl⟩ := leaveJointLeader_eq
    { bn with toPromote := bn.originPeers.filter (fun o => o.role == .incoming),
              toDemote := bn.originPeers.filter (fun o => o.role == .demoting) }
    (by rw [newBuilder_ok hn hbn])
  simp only [e] at h
  cases newBuilder_ok hn hbn
  by_cases h0 : t = 0
  · subst h0
    simp only [beq_self_eq_true, if_true, Except.ok.injEq] at h
    exact absurd (h ▸ (execChangePeerV2_leave_steps _).2) ht
  · rw [if_neg (by simpa using h0)] at h
    have hb : b.targetLeader = t ∧ b.steps = (if origin.leader != t then [.transferLeader origin.leader t] else []) ++
        [.leave (toItems (pmSorted (origin.peers.filter (fun o => o.role == .incoming))))
                (toItems (pmSorted (origin.peers.filter (fun o => o.role == .demoting))))] := by
      split at h <;> cases h <;>
        exact ⟨(execChangePeerV2_leave_steps _).2, (execChangePeerV2_leave_steps _).1.trans (List.nil_append _ ▸ rfl)⟩
    rw [hb.1, hb.2]
    rcases hl with e0 | ⟨p, hp, hps, h1, h2⟩
    · exact absurd e0 h0
    · exact ⟨⟨p, hp, hps, full_of_not_learner_demoting h1 h2⟩, rfl⟩

theorem leave_step_safe (O : List Peer) (t m : Nat) (hn : (stores O).Nodup)
    (ht : ∃ p ∈ O, p.store = t ∧ (p.role = .voter ∨ p.role = .incoming))
    (hm : m ≤ voterCount ⟨O, t⟩) :
    let P := toItems (pmSorted (O.filter (fun o => o.role == .incoming)))
    let D := toItems (pmSorted (O.filter (fun o => o.role == .demoting)))
    StepOk m ⟨O, t⟩ (.leave P D) ∧
    Final ⟨O.map (fun p => (p.store, leaveRole p.role)), 0⟩ (apply ⟨O, t⟩ (.leave P D)) := by
  intro P D
  obtain ⟨pt, hpt, hpts, hptr⟩ := ht
  have hgt : pmGet O t = some pt := hpts ▸ pmGet_of_mem hn hpt
  refine ⟨leave_stepOk _ _ hn ?_ ?_ hm, ?_⟩
  · apply checkSafety_leave
    · rw [countJoint_split]
      simp only [P, D, toItems, List.length_map, length_pmSorted]
    · intro it hit
      obtain ⟨x, hx, rfl⟩ := mem_toItems_sorted hit
      have hx' := List.mem_filter.1 hx
      exact ⟨x, pmGet_of_mem hn hx'.1, rfl, by simpa using hx'.2⟩
    · intro it hit
      obtain ⟨x, hx, rfl⟩ := mem_toItems_sorted hit
      have hx' := List.mem_filter.1 hx
      refine ⟨x, pmGet_of_mem hn hx'.1, rfl, by simpa using hx'.2, ?_⟩
      intro e
      simp only at e
      cases eq_of_mem_store hn hx'.1 hpt (e.trans hpts.symm)
      have : pt.role = .demoting := by simpa using hx'.2
      rcases hptr with h | h <;> rw [h] at this <;> cases this
  · exact hpts ▸ fullVoter_of_mem (r := ⟨O, t⟩) hn hpt hptr
  · rw [apply_leave]
    refine ⟨?_, ?_, ?_, ?_, Or.inl rfl⟩
    · intro q hq
      obtain ⟨p, hp, rfl⟩ := List.mem_map.1 hq
      exact List.mem_map.2 ⟨p, hp, rfl⟩
    · intro x hx
      obtain ⟨p, hp, rfl⟩ := List.mem_map.1 hx
      exact ⟨leaveF p, List.mem_map.2 ⟨p, hp, rfl⟩, rfl, rfl⟩
    · rw [onePerStore_iff, stores_map leaveF_store]; exact hn
    · simp only [isFullVoter, storePeer_eq_pmGet, pmGet_map leaveF_store, hgt, Option.map_some, leaveF]
      rcases hptr with h | h <;> simp [h, leaveRole]

end PdModel.Builder
