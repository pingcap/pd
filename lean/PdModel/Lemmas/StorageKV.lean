import PdModel.Lemmas.StorageLoad
/-! Save / Remove / Load on the kv of one namespace, and histories of saves and deletes. -/
namespace PdModel.StorageLoad
open PdModel.PadKey

variable {V : Type}

theorem kvLoad_cons (e : Nat × V) (kv : KV V) (j : Nat) :
    kvLoad (e :: kv) j = if j = e.1 then some e.2 else kvLoad kv j := by
  unfold kvLoad
  by_cases h : j = e.1
  · simp [h]
  · simp [h, Ne.symm h]

theorem kvLoad_append (a b : KV V) (j : Nat) : kvLoad (a ++ b) j = (kvLoad a j).or (kvLoad b j) := by
  unfold kvLoad
  rw [List.find?_append, Option.map_or]

theorem kvLoad_eq_none {kv : KV V} {j : Nat} (h : ∀ e ∈ kv, e.1 ≠ j) : kvLoad kv j = none := by
  unfold kvLoad
  rw [List.find?_eq_none.2 fun e he => by simpa using h e he]
  rfl

theorem kvLoad_kvRemove (kv : KV V) (id j : Nat) :
    kvLoad (kvRemove kv id) j = if j = id then none else kvLoad kv j := by
  split
  · next h => exact kvLoad_eq_none fun e he => by simpa [h] using (List.mem_filter.1 he).2
  · next h =>
    unfold kvLoad kvRemove
    rw [List.find?_filter]
    congr 2
    funext x
    by_cases hx : x.1 = j
    · simp [hx, h]
    · simp [hx]

theorem sorted_kvRemove (kv : KV V) (hs : Sorted kv) (id : Nat) : Sorted (kvRemove kv id) :=
  sorted_filter kv hs _

/-- the shape of `batchPut` and `weightsSave` -/
theorem kvLoad_put (kv : KV V) (id : Nat) (v : V) (j : Nat) :
    kvLoad (kvRemove kv id ++ [(id, v)]) j = if j = id then some v else kvLoad kv j := by
  rw [kvLoad_append, kvLoad_kvRemove, kvLoad_cons]
  by_cases h : j = id
  · simp [h]
  · simp [h, kvLoad]

theorem mem_iff_kvLoad (kv : KV V) (hs : Sorted kv) (e : Nat × V) : e ∈ kv ↔ kvLoad kv e.1 = some e.2 := by
  induction kv with
  | nil => simp [kvLoad]
  | cons x kv ih =>
    obtain ⟨hlt, hs'⟩ := List.pairwise_cons.1 hs
    rw [kvLoad_cons, List.mem_cons]
    split
    · next hx =>
      constructor
      · rintro (rfl | he)
        · rfl
        · have := hlt e he; omega
      · intro h; exact Or.inl (Prod.ext hx (Option.some.inj h).symm)
    · next hx =>
      rw [← ih hs']
      exact ⟨fun h => h.resolve_left fun he => hx (he ▸ rfl), Or.inr⟩

theorem keyLtId_iff {a b : Nat} (ha : a ≤ maxU64) (hb : b ≤ maxU64) : keyLtId a b = true ↔ a < b := by
  rw [keyLtId_of_le ha hb, decide_eq_true_eq]

/-! The cases of `kvSave`: an empty kv; `id` before the first key; after it; equal to it. -/

theorem kvSave_forall {P : Nat × V → Prop} {kv : KV V} {id : Nat} {v : V} (hk : ∀ e ∈ kv, P e) (hv : P (id, v)) :
    ∀ e ∈ kvSave kv id v, P e := by
  fun_induction kvSave kv id v with
  | case1 => exact List.forall_mem_cons.2 ⟨hv, hk⟩
  | case2 => exact List.forall_mem_cons.2 ⟨hv, hk⟩
  | case3 k x rest id v _ _ ih =>
    obtain ⟨hx, hk'⟩ := List.forall_mem_cons.1 hk
    exact List.forall_mem_cons.2 ⟨hx, ih hk' hv⟩
  | case4 => exact List.forall_mem_cons.2 ⟨hv, (List.forall_mem_cons.1 hk).2⟩

theorem kvLoad_kvSave {kv : KV V} (hk : ∀ e ∈ kv, e.1 ≤ maxU64) {id : Nat} (hid : id ≤ maxU64) (v : V) (j : Nat) :
    kvLoad (kvSave kv id v) j = if j = id then some v else kvLoad kv j := by
  fun_induction kvSave kv id v with
  | case1 => exact kvLoad_cons ..
  | case2 => exact kvLoad_cons ..
  | case3 k x rest id v _ h2 ih =>
    obtain ⟨he, hk'⟩ := List.forall_mem_cons.1 hk
    rw [kvLoad_cons, kvLoad_cons, ih hk' hid]
    by_cases hj : j = k
    · rw [if_pos hj, if_neg (Nat.ne_of_lt (hj ▸ (keyLtId_iff he hid).1 h2)), if_pos hj]
    · rw [if_neg hj, if_neg hj]
  | case4 k x rest id v h1 h2 =>
    obtain ⟨he, _⟩ := List.forall_mem_cons.1 hk
    have : k = id := Nat.le_antisymm (Nat.le_of_not_lt (mt (keyLtId_iff hid he).2 h1))
      (Nat.le_of_not_lt (mt (keyLtId_iff he hid).2 h2))
    subst this
    rw [kvLoad_cons, kvLoad_cons]
    by_cases hj : j = k
    · rw [if_pos hj, if_pos hj]
    · rw [if_neg hj, if_neg hj, if_neg hj]

theorem sorted_kvSave {kv : KV V} (hs : Sorted kv) (hk : ∀ e ∈ kv, e.1 ≤ maxU64) {id : Nat} (hid : id ≤ maxU64)
    (v : V) : Sorted (kvSave kv id v) := by
  fun_induction kvSave kv id v with
  | case1 => exact List.pairwise_singleton _ _
  | case2 k x rest id v h1 =>
    have h := (keyLtId_iff hid (hk _ (List.mem_cons_self ..))).1 h1
    exact List.pairwise_cons.2 ⟨List.forall_mem_cons.2 ⟨h, fun a ha => Nat.lt_trans h ((List.pairwise_cons.1 hs).1 a ha)⟩, hs⟩
  | case3 k x rest id v _ h2 ih =>
    obtain ⟨he, hk'⟩ := List.forall_mem_cons.1 hk
    obtain ⟨hlt, hs'⟩ := List.pairwise_cons.1 hs
    exact List.pairwise_cons.2 ⟨kvSave_forall hlt ((keyLtId_iff he hid).1 h2), ih hs' hk' hid⟩
  | case4 k x rest id v _ h2 =>
    obtain ⟨he, _⟩ := List.forall_mem_cons.1 hk
    obtain ⟨hlt, hs'⟩ := List.pairwise_cons.1 hs
    have hle : id ≤ k := Nat.le_of_not_lt (mt (keyLtId_iff he hid).2 h2)
    exact List.pairwise_cons.2 ⟨fun a ha => Nat.lt_of_le_of_lt hle (hlt a ha), hs'⟩

inductive KOp (V : Type) where
  | save (id : Nat) (v : V)
  | delete (id : Nat)

def KOp.id : KOp V → Nat
  | .save id _ => id
  | .delete id => id

def kstep (kv : KV V) : KOp V → KV V
  | .save id v => kvSave kv id v
  | .delete id => kvRemove kv id

def runKV (kv : KV V) (ops : List (KOp V)) : KV V := ops.foldl kstep kv

/-- what the client expects `Load(id)` to return: the value saved last, unless deleted since -/
def specStep (j : Nat) (acc : Option V) : KOp V → Option V
  | .save id v => if j = id then some v else acc
  | .delete id => if j = id then none else acc

def specGet (ops : List (KOp V)) (j : Nat) : Option V := ops.foldl (specStep j) none

theorem kstep_forall (P : Nat → Prop) {kv : KV V} {op : KOp V} (hk : ∀ e ∈ kv, P e.1) (hop : P op.id) :
    ∀ e ∈ kstep kv op, P e.1 := by
  cases op with
  | save id v => exact kvSave_forall hk hop
  | delete id => exact fun e he => hk e (List.mem_filter.1 he).1

theorem runKV_forall (P : Nat → Prop) (ops : List (KOp V)) :
    ∀ kv : KV V, (∀ op ∈ ops, P op.id) → (∀ e ∈ kv, P e.1) → ∀ e ∈ runKV kv ops, P e.1 := by
  induction ops with
  | nil => intro kv _ hk; exact hk
  | cons op ops ih =>
    intro kv hid hk
    obtain ⟨hop, hid'⟩ := List.forall_mem_cons.1 hid
    exact ih (kstep kv op) hid' (kstep_forall P hk hop)

theorem kstep_spec {kv : KV V} (hs : Sorted kv) (hk : ∀ e ∈ kv, e.1 ≤ maxU64) (op : KOp V) (hop : op.id ≤ maxU64) :
    Sorted (kstep kv op) ∧ ∀ j, kvLoad (kstep kv op) j = specStep j (kvLoad kv j) op := by
  cases op with
  | save id v => exact ⟨sorted_kvSave hs hk hop v, kvLoad_kvSave hk hop v⟩
  | delete id => exact ⟨sorted_kvRemove kv hs id, kvLoad_kvRemove kv id⟩

theorem runKV_spec (ops : List (KOp V)) :
    ∀ kv : KV V, (∀ op ∈ ops, op.id ≤ maxU64) → Sorted kv → (∀ e ∈ kv, e.1 ≤ maxU64) →
      Sorted (runKV kv ops) ∧ ∀ j, kvLoad (runKV kv ops) j = ops.foldl (specStep j) (kvLoad kv j) := by
  induction ops with
  | nil => intro kv _ hs _; exact ⟨hs, fun _ => rfl⟩
  | cons op ops ih =>
    intro kv hid hs hk
    obtain ⟨hop, hid'⟩ := List.forall_mem_cons.1 hid
    obtain ⟨h1, h2⟩ := kstep_spec hs hk op hop
    obtain ⟨h3, h4⟩ := ih (kstep kv op) hid' h1 (kstep_forall (· ≤ maxU64) hk hop)
    exact ⟨h3, fun j => (h4 j).trans (by rw [h2 j]; rfl)⟩

end PdModel.StorageLoad
