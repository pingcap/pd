import PdModel.Lemmas.RuleSpec
import PdModel.Lemmas.RuleStore
import PdModel.Generated.Rules
namespace PdModel.Rules
open PdModel.Spec.C13

/-- structure obligations re-checked against the source on every run: tryCommitPatch builds the rule list
    before it trims and saves, saves before it commits (persist → publish), re-adjusts the served
    configuration on each of its error paths (repair F6b), and the listed entry points (the readers GetAllRules and
    GetRulesByKey among them; SetRule and Batch are in `rules_lock_facts`) hold the manager's mutex for their whole
    body. -/
theorem rules_structure_facts :
    PdModel.Generated.Rules.buildBeforeSave = true ∧
    PdModel.Generated.Rules.trimBeforeSave = true ∧
    PdModel.Generated.Rules.saveBeforeCommit = true ∧
    PdModel.Generated.Rules.errorPathsReadjust = true ∧
    PdModel.Generated.Rules.deleteRuleLocked = true ∧
    PdModel.Generated.Rules.setRulesLocked = true ∧
    PdModel.Generated.Rules.setRuleGroupLocked = true ∧
    PdModel.Generated.Rules.deleteRuleGroupLocked = true ∧
    PdModel.Generated.Rules.setAllGroupBundlesLocked = true ∧
    PdModel.Generated.Rules.setGroupBundleLocked = true ∧
    PdModel.Generated.Rules.deleteGroupBundleLocked = true ∧
    PdModel.Generated.Rules.getAllRulesLocked = true ∧
    PdModel.Generated.Rules.getRulesByKeyLocked = true ∧
    -- loadRules writes the restored rules before it removes the stale keys (a failure in between loses nothing)
    PdModel.Generated.Rules.loadRulesSaveBeforeDelete = true := by decide


/-- **the manager's mutex makes one update one atomic step**: every mutating entry point (and Initialize) takes
    `m.Lock()` with `defer m.Unlock()` before it touches the configuration, the index or the patch machinery and
    performs no other lock operation; tryCommitPatch, savePatch, beginPatch, loadRules, loadGroups and the patch /
    config helpers never lock or unlock themselves – so the lock is held from the first read of the served
    configuration until after commit (or the error return), storage writes included.  Re-extracted on every run. -/
theorem rules_lock_facts :
    PdModel.Generated.Rules.setRuleLockToEnd = true ∧
    PdModel.Generated.Rules.deleteRuleLockToEnd = true ∧
    PdModel.Generated.Rules.setRulesLockToEnd = true ∧
    PdModel.Generated.Rules.batchLockToEnd = true ∧
    PdModel.Generated.Rules.setRuleGroupLockToEnd = true ∧
    PdModel.Generated.Rules.deleteRuleGroupLockToEnd = true ∧
    PdModel.Generated.Rules.setAllGroupBundlesLockToEnd = true ∧
    PdModel.Generated.Rules.setGroupBundleLockToEnd = true ∧
    PdModel.Generated.Rules.deleteGroupBundleLockToEnd = true ∧
    PdModel.Generated.Rules.initializeLockToEnd = true ∧
    PdModel.Generated.Rules.setKeyTypeLockToEnd = true ∧
    PdModel.Generated.Rules.tryCommitNoLockOps = true ∧
    PdModel.Generated.Rules.savePatchNoLockOps = true ∧
    PdModel.Generated.Rules.beginPatchNoLockOps = true ∧
    PdModel.Generated.Rules.loadRulesNoLockOps = true ∧
    PdModel.Generated.Rules.loadGroupsNoLockOps = true ∧
    PdModel.Generated.Rules.patchCommitNoLockOps = true ∧
    PdModel.Generated.Rules.patchTrimNoLockOps = true ∧
    PdModel.Generated.Rules.configAdjustNoLockOps = true := by decide

/-! The key-range index (rule_list.go).  Hypotheses on the rule set handed to buildRuleList (both are invariants
of the manager, `ConfigWF.grules`):
`RulesWF` – different entries have different (group, id), rules of one group point to one group
configuration; `RangeWF` – a bounded range is non-empty (adjustRule). -/

/-- for every key the index returns exactly the configured rules whose range
    contains the key, in the documented order. -/
theorem rules_by_key_exact (rules : List GRule) (hw : RulesWF rules) (hr : RangeWF rules) (rl : RuleList)
    (h : buildRuleList rules = .ok rl) (k : Nat) : getRulesByKey rl k = some (coverList rules k) :=
  getRulesByKey_built (built_of_ok hw hr h) k

/-- the unstable sort: whatever order `sort.Slice` leaves among points with equal keys, the result is the same -/
theorem build_tie_order_independent (rules : List GRule) (hw : RulesWF rules) (hr : RangeWF rules)
    (P : List Point) (hperm : P.Perm (rules.flatMap pointsOf)) (hsorted : P.Pairwise (fun a b => a.key ≤ b.key)) :
    buildSorted P = buildRuleList rules := by
  rw [buildRuleList_eq hw hr]
  exact buildSorted_eq hw hr ⟨hperm, hsorted⟩

/-- override semantics: of the rules of a key, in apply order, exactly those remain
    that no rule applied *after* them disables: a later rule of the same group with the override flag, or a
    later rule of another group whose group configuration has the override flag. -/
theorem apply_rules_exact (rules : List GRule) (hw : RulesWF rules) (k : Nat) :
    prepareRulesForApply (coverList rules k) = applyPos (coverList rules k) ∧
    (prepareRulesForApply (coverList rules k)).Sublist (coverList rules k) ∧
    ∀ r, r ∈ prepareRulesForApply (coverList rules k) ↔
      (r ∈ coverList rules k ∧ ∀ y ∈ coverList rules k, RLt r y → ovG y r = false) := by
  have e := prepare_coverList hw k
  refine ⟨e, e ▸ applyPos_sublist _, fun r => ?_⟩
  rw [e]
  exact mem_applyPos_sorted _ (coverList_spec rules hw k).2 r

/-- a region [s, e) (e = 0: unbounded) gets the rules of its segment
    (those covering its start key, after override) iff no start or end key of a rule lies strictly inside
    it, and nothing otherwise. -/
theorem region_rules_iff_single_segment (rules : List GRule) (hw : RulesWF rules) (hr : RangeWF rules)
    (rl : RuleList) (h : buildRuleList rules = .ok rl) (s e : Nat) :
    getRulesForApplyRegion rl s e =
      if (bkeys rules).any (inside s e) then none else some (prepareRulesForApply (coverList rules s)) :=
  getRulesForApplyRegion_built (built_of_ok hw hr h) s e

/-- the split keys of (s, e) are exactly the start and end keys of rules strictly
    inside it, ascending and without repetition. -/
theorem split_keys_exact (rules : List GRule) (hw : RulesWF rules) (hr : RangeWF rules)
    (rl : RuleList) (h : buildRuleList rules = .ok rl) (s e : Nat) :
    getSplitKeys rl s e = (bkeys rules).filter (inside s e) ∧
    (getSplitKeys rl s e).Pairwise (· < ·) ∧
    ∀ b, b ∈ getSplitKeys rl s e ↔
      ((∃ r ∈ rules, b = r.rule.start ∨ (r.rule.end_ ≠ 0 ∧ b = r.rule.end_)) ∧ inside s e b = true) := by
  have e1 := getSplitKeys_built (built_of_ok hw hr h) s e
  refine ⟨e1, by rw [e1]; exact (bkeys_sorted rules).filter _, fun b => ?_⟩
  rw [e1, List.mem_filter, mem_bkeys]

/-- a rule set that leaves some key without any rule is refused (a leading gap too: repair F6a) -/
theorem gap_rejected (rules : List GRule) (hw : RulesWF rules) (hr : RangeWF rules) (k : Nat)
    (hgap : ∀ r ∈ rules, covers r.rule k = false) : ∃ e, buildRuleList rules = .error e :=
  rejected_of_not_segOK hw hr k fun h => h.1 <| by
    rw [coverList, List.filter_eq_nil_iff.2 fun r hr' => by simp [hgap r hr']]
    rfl

theorem interior_or_trailing_gap_rejected (rules : List GRule) (hw : RulesWF rules) (hr : RangeWF rules) (k : Nat)
    (hgap : ∀ r ∈ rules, covers r.rule k = false) : ∃ e, buildRuleList rules = .error e :=
  gap_rejected rules hw hr k hgap

/-- an accepted rule set covers every key -/
theorem accepted_covers_every_key (rules : List GRule) (hw : RulesWF rules) (hr : RangeWF rules)
    (rl : RuleList) (h : buildRuleList rules = .ok rl) (k : Nat) : ∃ r ∈ rules, covers r.rule k = true := by
  have := (built_key_ok (built_of_ok hw hr h) k).1
  cases hc : coverList rules k with
  | nil => exact absurd hc this
  | cons r _ =>
    have hm : r ∈ coverList rules k := by rw [hc]; exact List.mem_cons_self
    exact ⟨r, ((coverList_spec rules hw k).1 r).1 hm⟩

set_option linter.unusedVariables false in
/-- if the rules that apply to some key (after override) contain
    more than one leader replica, or no leader or voter replica at all, the rule set is refused … -/
theorem no_voter_or_two_leaders_rejected (rules : List GRule) (hw : RulesWF rules) (hr : RangeWF rules)
    (hcount : ∀ r ∈ rules, 0 ≤ r.rule.count) (k : Nat)
    (hbad : leaderSum (prepareRulesForApply (coverList rules k)) > 1 ∨
            leaderSum (prepareRulesForApply (coverList rules k)) +
              voterSum (prepareRulesForApply (coverList rules k)) < 1) :
    ∃ e, buildRuleList rules = .error e := by
  refine rejected_of_not_segOK hw hr k fun h => ?_
  -- the contrapositive of `accepted_valid_everywhere`: the sign of the counts plays no part
  have := checkApplyRules_ok _ h.2
  omega

/-- … and every accepted rule set gives every key at most one leader and at least one leader or voter replica -/
theorem accepted_valid_everywhere (rules : List GRule) (hw : RulesWF rules) (hr : RangeWF rules)
    (rl : RuleList) (h : buildRuleList rules = .ok rl) (k : Nat) :
    leaderSum (prepareRulesForApply (coverList rules k)) ≤ 1 ∧
    leaderSum (prepareRulesForApply (coverList rules k)) + voterSum (prepareRulesForApply (coverList rules k)) ≥ 1 :=
  checkApplyRules_ok _ (built_key_ok (built_of_ok hw hr h) k).2


/-! Updates (rule_manager.go, config.go, storage).  One update = one `step` (the manager's mutex).  `f : Fail` is the storage-failure input of the step:
`none` – every write succeeds; `some (k, wrote)` – the (k+1)-th write of the update fails after the writes
`wrote` were done (any subset the Go map order allows). -/

/-- invariant of the manager: the served configuration is a well-formed map of validated rules and the
    served index is the index of that configuration -/
structure StWF (s : St) : Prop where
  cfg   : ConfigWF s.mgr.cfg
  index : buildRuleList s.mgr.cfg.grules = .ok s.mgr.ruleList

/-- state after a save that failed once the writes `wrote` were done -/
def failState (s : St) (p : Patch) (wrote : List (Bool × K)) : St :=
  { mgr := s.mgr,
    store := List.foldl Storage.apply s.store (List.filter (fun w => wrote.contains w.target) (p.trim s.mgr.cfg).writes) }

/-- state after an accepted update: all writes done, the patch committed, the new index published -/
def okState (s : St) (p : Patch) (rl : RuleList) : St :=
  { mgr := { cfg := (p.trim s.mgr.cfg).commit s.mgr.cfg, ruleList := rl },
    store := List.foldl Storage.apply s.store (p.trim s.mgr.cfg).writes }

theorem tryCommit_cases (s : St) (p : Patch) (f : Fail) :
    (∃ e, buildRuleList (p.grules s.mgr.cfg) = .error e ∧ tryCommitPatch s p f = (s, .rejBuild)) ∨
    ∃ rl, buildRuleList (p.grules s.mgr.cfg) = .ok rl ∧
      (tryCommitPatch s p f = (s, .bad) ∨
       (∃ k wrote, f = some (k, wrote) ∧ tryCommitPatch s p f = (failState s p wrote, .errStorage)) ∨
       tryCommitPatch s p f = (okState s p rl, .ok)) := by
  unfold tryCommitPatch failState okState
  dsimp only
  cases hb : buildRuleList (p.grules s.mgr.cfg) with
  | error e => exact Or.inl ⟨e, rfl, rfl⟩
  | ok rl =>
    refine Or.inr ⟨rl, rfl, ?_⟩
    rcases f with _ | ⟨k, wrote⟩
    · exact Or.inr (Or.inr rfl)
    · dsimp only
      by_cases h1 : k < (p.trim s.mgr.cfg).writes.length
      · rw [if_pos h1]
        by_cases h2 : wroteOK (p.trim s.mgr.cfg).writes k wrote = true
        · rw [if_pos h2]; exact Or.inr (Or.inl ⟨k, wrote, rfl, rfl⟩)
        · rw [if_neg h2]; exact Or.inl rfl
      · rw [if_neg h1]; exact Or.inr (Or.inr rfl)

theorem tryCommit_none (s : St) (p : Patch) (rl : RuleList) (hb : buildRuleList (p.grules s.mgr.cfg) = .ok rl) :
    tryCommitPatch s p none = (okState s p rl, .ok) := by
  unfold tryCommitPatch
  dsimp only
  rw [hb]
  rfl

theorem step_of_patch (s : St) (op : Op) (f : Fail) (p : Patch) (hp : patchOf s.mgr.cfg op = some p) :
    step s op f = tryCommitPatch s p f := by
  have happly : applyOp s op f = tryCommitPatch s p f := by rw [applyOp, hp]
  unfold step
  split
  · split
    · next k _ hn => rw [patchOf, Option.isNone_iff_eq_none.1 hn] at hp; cases hp
    · exact happly
  · exact happly

theorem step_no_patch (s : St) (op : Op) (f : Fail) (hp : patchOf s.mgr.cfg op = none) :
    step s op f = (s, .notFound) ∨ step s op f = (s, .rejContent) := by
  have happly : applyOp s op f = (s, .rejContent) := by rw [applyOp, hp]
  unfold step
  split
  · split
    · exact Or.inl rfl
    · exact Or.inr happly
  · exact Or.inr happly

/-- an update is refused and nothing changes; or its save fails after some of the writes and the manager is
    untouched; or it is accepted: every write done, the trimmed patch committed, the index of the patched view
    published -/
theorem step_cases (s : St) (op : Op) (f : Fail) :
    (∃ o, step s op f = (s, o) ∧ o ≠ .errStorage ∧ o ≠ .ok) ∨
    ∃ p rl, patchOf s.mgr.cfg op = some p ∧ buildRuleList (p.grules s.mgr.cfg) = .ok rl ∧
      ((∃ k wrote, f = some (k, wrote) ∧ step s op f = (failState s p wrote, .errStorage)) ∨
       step s op f = (okState s p rl, .ok)) := by
  cases hp : patchOf s.mgr.cfg op with
  | none => rcases step_no_patch s op f hp with e | e <;> exact Or.inl ⟨_, e, by decide, by decide⟩
  | some p =>
    rw [step_of_patch s op f p hp]
    rcases tryCommit_cases s p f with ⟨_, _, e⟩ | ⟨rl, hb, e | e | e⟩
    · exact Or.inl ⟨_, e, by decide, by decide⟩
    · exact Or.inl ⟨_, e, by decide, by decide⟩
    · exact Or.inr ⟨p, rl, rfl, hb, Or.inl e⟩
    · exact Or.inr ⟨p, rl, rfl, hb, Or.inr e⟩

/-- the invariant is kept by every update of every kind, whatever the storage does -/
theorem step_wf (s : St) (h : StWF s) (op : Op) (f : Fail) : StWF (step s op f).1 := by
  rcases step_cases s op f with ⟨_, e, _⟩ | ⟨p, rl, hp, hb, ⟨_, _, _, e⟩ | e⟩
  · rw [e]; exact h
  · rw [e]; exact ⟨h.cfg, h.index⟩
  · have hpw := patchOf_wf hp
    rw [e]
    exact ⟨commit_wf _ h.cfg _ (trim_wf _ p hpw), (commit_build _ h.cfg p hpw).trans hb⟩

/-- a history: updates with their failure inputs -/
def runOps (s : St) : List (Op × Fail) → St
  | [] => s
  | (op, f) :: rest => runOps (step s op f).1 rest

theorem run_wf (s : St) (h : StWF s) (ops : List (Op × Fail)) : StWF (runOps s ops) := by
  induction ops generalizing s with
  | nil => exact h
  | cons x xs ih => exact ih _ (step_wf s h x.1 x.2)

/-- after any history of updates (accepted, rejected, failed) from a state satisfying the invariant, GetRulesByKey / GetRulesForApplyRegion / GetSplitKeys answer from the served configuration as
    `rules_by_key_exact`, `region_rules_iff_single_segment`, `split_keys_exact` say. -/
theorem served_index_exact (s : St) (h : StWF s) (ops : List (Op × Fail)) (k sk ek : Nat) :
    let s' := runOps s ops
    getRulesByKey s'.mgr.ruleList k = some (coverList s'.mgr.cfg.grules k) ∧
    getRulesForApplyRegion s'.mgr.ruleList sk ek =
      (if (bkeys s'.mgr.cfg.grules).any (inside sk ek) then none
       else some (prepareRulesForApply (coverList s'.mgr.cfg.grules sk))) ∧
    getSplitKeys s'.mgr.ruleList sk ek = (bkeys s'.mgr.cfg.grules).filter (inside sk ek) ∧
    (∃ r ∈ s'.mgr.cfg.grules, covers r.rule k = true) := by
  intro s'
  have h' := run_wf s h ops
  have hw := h'.cfg.grules
  exact ⟨rules_by_key_exact _ hw.1 hw.2 _ h'.index k,
    region_rules_iff_single_segment _ hw.1 hw.2 _ h'.index sk ek,
    (split_keys_exact _ hw.1 hw.2 _ h'.index sk ek).1,
    accepted_covers_every_key _ hw.1 hw.2 _ h'.index k⟩

/-- **all-or-nothing, rejected**: an update that is refused (content, invalid resulting rule set, missing rule)
    changes nothing – neither what is served nor what is stored. -/
theorem rejected_changes_nothing (s : St) (op : Op) (f : Fail)
    (h : (step s op f).2 = .rejContent ∨ (step s op f).2 = .rejBuild ∨ (step s op f).2 = .notFound) :
    (step s op f).1 = s := by
  rcases step_cases s op f with ⟨_, e, _⟩ | ⟨p, rl, _, _, ⟨_, _, _, e⟩ | e⟩
  · rw [e]
  · rw [e] at h; simp at h
  · rw [e] at h; simp at h

/-- the result is `rejBuild` exactly when `buildRuleList` of the patched view fails (`gap_rejected`,
    `no_voter_or_two_leaders_rejected`, `accepted_valid_everywhere` say what that means for the keys) -/
theorem rejBuild_iff (s : St) (p : Patch) (f : Fail) :
    (tryCommitPatch s p f).2 = .rejBuild ↔ ∃ e, buildRuleList (p.grules s.mgr.cfg) = .error e := by
  rcases tryCommit_cases s p f with ⟨e, hb, e1⟩ | ⟨rl, hb, e1 | ⟨_, _, _, e1⟩ | e1⟩
  · rw [e1]; exact ⟨fun _ => ⟨e, hb⟩, fun _ => rfl⟩
  all_goals rw [e1, hb]; simp

/-- when a write of savePatch fails, what is served (rules, groups, index)
    is exactly what was served before. -/
theorem failed_save_served_unchanged (s : St) (op : Op) (f : Fail) (h : (step s op f).2 = .errStorage) :
    (step s op f).1.mgr = s.mgr := by
  rcases step_cases s op f with ⟨_, e, _⟩ | ⟨p, rl, _, _, ⟨_, _, _, e⟩ | e⟩
  · rw [e]
  · rw [e]; rfl
  · rw [e] at h; cases h

/-- if storage and served agree, an accepted update whose writes
    all succeed leaves them in agreement (so a restarted manager finds exactly the served rules and groups
    in storage, `load_serves_storage`). -/
theorem accepted_failure_free_storage_eq_served (s : St) (h : StWF s) (hsync : InSync s) (op : Op) :
    InSync (step s op none).1 := by
  rcases step_cases s op none with ⟨_, e, _⟩ | ⟨p, rl, hp, _, ⟨_, _, hf, _⟩ | e⟩
  · rw [e]; exact hsync
  · cases hf
  · rw [e]; exact accept_sync s h.cfg hsync p (patchOf_wf hp) rl

/-- failure-free histories: storage = served after every update -/
theorem failure_free_history_in_sync (s : St) (h : StWF s) (hsync : InSync s) (ops : List Op) :
    InSync (runOps s (ops.map (fun op => (op, none)))) := by
  induction ops generalizing s with
  | nil => exact hsync
  | cons op rest ih =>
    exact ih _ (step_wf s h op none) (accepted_failure_free_storage_eq_served s h hsync op)

/-- storage and served agree; an update fails at some write (any k, any admissible set of
    completed writes); the *same* update, retried and not failing, is accepted and storage and served agree
    again. -/
theorem retry_converges (s : St) (h : StWF s) (hsync : InSync s) (op : Op) (k : Nat) (wrote : List (Bool × K))
    (hfail : (step s op (some (k, wrote))).2 = .errStorage) :
    (step (step s op (some (k, wrote))).1 op none).2 = .ok ∧
    InSync (step (step s op (some (k, wrote))).1 op none).1 := by
  rcases step_cases s op (some (k, wrote)) with ⟨_, e, hne, _⟩ | ⟨p, rl, hp, hb, ⟨_, wrote', _, e⟩ | e⟩
  · rw [e] at hfail; exact absurd hfail hne
  · -- the retried update sees the same served configuration, hence builds the same patch and the same index
    rw [e, step_of_patch (failState s p wrote') op none p hp, tryCommit_none (failState s p wrote') p rl hb]
    exact ⟨rfl, retry_sync s h.cfg hsync p (patchOf_wf hp) rl _⟩
  · rw [e] at hfail; cases hfail


/-- the parameters the harness uses: Initialize(3, ["zone","host"]), default rule pd/default -/
def ip0 : InitParams := { maxReplica := 3, lbl := 2, pdGroup := 4, defaultId := 6 }

/-- a fresh manager on an empty storage -/
def fresh : St :=
  match initMgr ip0 {} with
  | (.ok m, store) => { mgr := m, store := store }
  | (.error _, store) => { store := store }

theorem fresh_cfg : fresh.mgr.cfg = { rules := [defaultRule 3 2 4 6], groups := [defaultGroup 4] } := by decide

theorem fresh_store : fresh.store = { rules := [((4, 6), some (defaultRule 3 2 4 6))], groups := [] } := by decide

theorem fresh_wf : StWF fresh :=
  ⟨by rw [fresh_cfg]; exact ⟨List.pairwise_singleton _ _, by decide, List.pairwise_singleton _ _⟩, by rfl⟩

theorem fresh_sync : InSync fresh := by
  constructor
  · intro k
    rw [storeGetR, getR, fresh_store, fresh_cfg, mapGet_cons, mapGet_cons]
    by_cases e : ((4, 6) : K) = k
    · rw [if_pos e, if_pos (show (defaultRule 3 2 4 6).key = k from e)]
    · rw [if_neg e, if_neg (show ¬ (defaultRule 3 2 4 6).key = k from e)]; rfl
  · intro id
    rw [getG, getG, fresh_store, fresh_cfg, mapGet_cons]
    split <;> rfl

/-- **every reachable state** (any history from a fresh manager, any failures) serves an exact index -/
theorem reachable_wf (ops : List (Op × Fail)) : StWF (runOps fresh ops) := run_wf fresh fresh_wf ops

/-- **every failure-free history** from a fresh manager keeps storage = served -/
theorem reachable_failure_free_in_sync (ops : List Op) :
    InSync (runOps fresh (ops.map (fun op => (op, none)))) :=
  failure_free_history_in_sync fresh fresh_wf fresh_sync ops

/-! non-vacuity: a history with nested ranges and an override.  All five updates are accepted: the delete of
    pd/default leaves every key covered, and after it the batch has one write left, so its failure input (the second
    write fails) does not fire. -/
def rA : Rule := { group := 1, id := 1, index := 0, override := false, start := 0, end_ := 3, role := .voter, count := 1, lbl := 0 }
def rB : Rule := { group := 1, id := 2, index := 1, override := true, start := 2, end_ := 0, role := .voter, count := 2, lbl := 0 }
def demoHistory : List (Op × Fail) :=
  [(.setRule rA, none), (.setRule rB, none), (.deleteRule (4, 6), none),      -- accepted: [0,2) keeps rA, [3,∞) keeps rB
   (.batch [.add { rA with id := 3, start := 0, end_ := 0 }, .del (4, 6)], some (1, [(true, (1, 3))])),
   (.batch [.add { rA with id := 3, start := 0, end_ := 0 }, .del (4, 6)], none)]

example : (getAllRules (runOps fresh demoHistory).mgr).map (·.rule.key) = [(1, 1), (1, 3), (1, 2)] := by decide +kernel
example : (getRulesByKey (runOps fresh demoHistory).mgr.ruleList 2).map (·.map (·.rule.key)) = some [(1, 1), (1, 3), (1, 2)] := by decide +kernel
example : (getRulesForApplyRegion (runOps fresh demoHistory).mgr.ruleList 2 3).map (·.map (·.rule.key)) = some [(1, 2)] := by decide +kernel
example : getRulesForApplyRegion (runOps fresh demoHistory).mgr.ruleList 1 3 = none := by decide +kernel
example : getSplitKeys (runOps fresh demoHistory).mgr.ruleList 0 0 = [2, 3] := by decide +kernel

/-- **F6d (known finding)**: SetGroupBundle writes its rule, the group write fails (served unchanged); a
    *different* update is then accepted: the storage still holds rule g/a, which is not served – a restarted
    manager would serve it.  (`retry_converges` is the positive part: retrying the *same* update repairs it.) -/
def f6dHistory : List (Op × Fail) :=
  [(.setBundle ⟨1, 1, false, [{ rA with end_ := 0 }]⟩, some (1, [(true, (1, 1))])),
   (.setRule { rA with id := 2, end_ := 0 }, none)]

theorem failed_save_then_other_update_counterexample :
    ¬ InSync (runOps fresh f6dHistory) := by
  intro h
  have := h.rules (1, 1)
  revert this
  decide +kernel

/-- the general statement that does hold is `accepted_failure_free_storage_eq_served` (no failure since storage
    and served agreed) together with `retry_converges`; with a failed save in between, agreement after a
    *different* accepted update is not guaranteed (`failed_save_then_other_update_counterexample`). -/
theorem accepted_storage_eq_served_partial (s : St) (h : StWF s) (hsync : InSync s) (op : Op) (f : Fail)
    (hnofail : f = none) : InSync (step s op f).1 := by
  subst hnofail; exact accepted_failure_free_storage_eq_served s h hsync op


theorem step_storeWF (s : St) (h : StoreWF s.store) (op : Op) (f : Fail) : StoreWF (step s op f).1.store := by
  rcases step_cases s op f with ⟨_, e, _⟩ | ⟨p, rl, _, _, ⟨_, _, _, e⟩ | e⟩
  · rw [e]; exact h
  · rw [e]; exact storeWF_fold _ h
  · rw [e]; exact storeWF_fold _ h

theorem run_storeWF (s : St) (h : StoreWF s.store) (ops : List (Op × Fail)) : StoreWF (runOps s ops).store := by
  induction ops generalizing s with
  | nil => exact h
  | cons x xs ih => exact ih _ (step_storeWF s h x.1 x.2)

theorem fresh_storeWF : StoreWF fresh.store := by
  rw [fresh_store]
  exact ⟨List.pairwise_singleton _ _, fun kv hkv => ⟨defaultRule 3 2 4 6, List.mem_singleton.1 hkv⟩,
    List.Pairwise.nil⟩

/-- **a restarted PD loads exactly what is being served** – whenever storage and served agree and the storage is as
    savePatch leaves it (`StoreWF`: one entry per key, every rule under its own key; in particular after every update
    of a failure-free history, `failure_free_restart_loads_served`): a second manager initialised
    from the same storage has the same rules, the same group configurations and the same index, and leaves
    the storage untouched. -/
theorem restart_loads_served (ip : InitParams) (s : St) (h : StWF s) (hsync : InSync s) (hst : StoreWF s.store) :
    ∃ m', initMgr ip s.store = (.ok m', s.store) ∧ m'.ruleList = s.mgr.ruleList ∧
      (∀ k, getR k m'.cfg.rules = getR k s.mgr.cfg.rules) ∧
      (∀ id, m'.cfg.getGroup id = s.mgr.cfg.getGroup id) :=
  load_serves_storage ip s h.cfg h.index hsync hst

theorem failure_free_restart_loads_served (ip : InitParams) (ops : List Op) :
    let s := runOps fresh (ops.map (fun op => (op, none)))
    ∃ m', initMgr ip s.store = (.ok m', s.store) ∧ m'.ruleList = s.mgr.ruleList ∧
      (∀ k, getR k m'.cfg.rules = getR k s.mgr.cfg.rules) ∧
      (∀ id, m'.cfg.getGroup id = s.mgr.cfg.getGroup id) :=
  restart_loads_served ip _ (reachable_wf _) (reachable_failure_free_in_sync ops) (run_storeWF fresh fresh_storeWF _)


/-- in every state satisfying the invariant (hence in every reachable state) the
    functions of `Spec.C13`, evaluated on the served rules and groups (which is what the monitor does with the
    implementation's `GetAllRules` / `GetRuleGroups`), give exactly the answers of the served index, and every key
    has a valid rule set. -/
theorem spec_functions_agree (s : St) (h : StWF s) (k sk ek : Nat) :
    (getRulesByKey s.mgr.ruleList k).map (·.map (·.rule)) = some (rulesAt ⟨s.mgr.cfg.rules, s.mgr.cfg.groups⟩ k) ∧
    (getRulesForApplyRegion s.mgr.ruleList sk ek).map (·.map (·.rule)) =
      applyFor ⟨s.mgr.cfg.rules, s.mgr.cfg.groups⟩ sk ek ∧
    getSplitKeys s.mgr.ruleList sk ek = splitKeys ⟨s.mgr.cfg.rules, s.mgr.cfg.groups⟩ sk ek ∧
    keyOK ⟨s.mgr.cfg.rules, s.mgr.cfg.groups⟩ k = true := by
  have hw := h.cfg.grules
  have hb := built_of_ok hw.1 hw.2 h.index
  refine ⟨?_, region_applyFor _ hw.1 hb sk ek, ?_, keyOK_built _ hw.1 hb k⟩
  · rw [rules_by_key_exact _ hw.1 hw.2 _ h.index k]
    simp only [Option.map_some, coverList_rulesAt]
  · rw [(split_keys_exact _ hw.1 hw.2 _ h.index sk ek).1, bkeys_splitKeys]

theorem reachable_spec_functions_agree (ops : List (Op × Fail)) (k sk ek : Nat) :
    let s := runOps fresh ops
    (getRulesByKey s.mgr.ruleList k).map (·.map (·.rule)) = some (rulesAt ⟨s.mgr.cfg.rules, s.mgr.cfg.groups⟩ k) ∧
    (getRulesForApplyRegion s.mgr.ruleList sk ek).map (·.map (·.rule)) =
      applyFor ⟨s.mgr.cfg.rules, s.mgr.cfg.groups⟩ sk ek ∧
    getSplitKeys s.mgr.ruleList sk ek = splitKeys ⟨s.mgr.cfg.rules, s.mgr.cfg.groups⟩ sk ek ∧
    keyOK ⟨s.mgr.cfg.rules, s.mgr.cfg.groups⟩ k = true :=
  spec_functions_agree _ (reachable_wf ops) k sk ek


theorem initMgrF_none (ip : InitParams) (store : Storage) :
    (initMgrF ip store none).2 = (initMgr ip store).2 ∧
    ((initMgrF ip store none).1.isSome ↔ ∃ m, (initMgr ip store).1 = .ok m) := by
  unfold initMgrF
  cases h : initMgr ip store with
  | mk r st => cases r <;> simp

/-- **F6f (known finding)**: rule g2/aa is stored under the foreign key g2/a, and its own key g2/aa holds the only copy
    of the (also misplaced) rule pd/ab.  A healthy start-up serves both.  If the second write of the repair fails,
    pd/ab has already been overwritten by the restored g2/aa and is not yet re-saved: the next, healthy start-up no
    longer serves it. -/
def chainedStore : Storage :=
  { rules := [((2, 1), some { rA with group := 2, id := 2, end_ := 0 }),
              ((2, 2), some { rA with group := 4, id := 3, end_ := 0 }),
              ((4, 6), some (defaultRule 3 2 4 6))] }

theorem failed_initialize_chained_counterexample :
    (match (initMgr ip0 chainedStore).1 with
      | .ok m => (getR (4, 3) m.cfg.rules).isSome | .error _ => false) = true ∧
    (initMgrF ip0 chainedStore (some 1)).1.isNone = true ∧
    (match (initMgr ip0 (initMgrF ip0 chainedStore (some 1)).2).1 with
      | .ok m => (getR (4, 3) m.cfg.rules).isSome | .error _ => true) = false := by decide +kernel

end PdModel.Rules
