import PdModel.Prelude.ListFacts
/-
C15 – "GC safe points never move backwards", stated over what clients and an observer of the storage
can see.  No implementation identifiers.

Cluster safe point.  Events, in real-time order:
  `begin r`     request `r` (an update or a read of the safe point) is issued
  `resp r v`    request `r` is answered with safe point `v`
  `stored v`    the durably stored safe point is observed to be `v`
The property: the stored value never decreases, and every response reports a value at least as large as
every value acknowledged before the request began.

Service safe points.  One observation per answered registration request: what was asked, the time the
server used, the minimum it reported, and the registered records before and after.
-/
namespace PdModel.Spec.C15

inductive Ev where
  | begin (r : Nat)
  | resp (r : Nat) (v : Nat)
  | stored (v : Nat)
  deriving Repr, DecidableEq

/-- the property of the cluster safe point (positions `i < j < k` in the event list) -/
def Holds (evs : List Ev) : Prop :=
  (∀ (i j u v : Nat), i < j → evs[i]? = some (.stored u) → evs[j]? = some (.stored v) → u ≤ v) ∧
  (∀ (i j k r r' a b : Nat), i < j → j < k →
      evs[i]? = some (.resp r' a) → evs[j]? = some (.begin r) → evs[k]? = some (.resp r b) → a ≤ b)

/-- what the incremental checker remembers of the events seen so far -/
structure Sum where
  maxStored : Nat := 0
  maxResp   : Nat := 0
  /-- (request, largest response before it began) -/
  floors    : List (Nat × Nat) := []
  deriving Repr

def Sum.push (s : Sum) : Ev → Sum
  | .begin r => { s with floors := (r, s.maxResp) :: s.floors }
  | .resp _ v => { s with maxResp := max s.maxResp v }
  | .stored v => { s with maxStored := max s.maxStored v }

def summ (evs : List Ev) : Sum := evs.foldl Sum.push {}

/-- is the next event acceptable after a history with summary `s`? -/
def okNext (s : Sum) : Ev → Bool
  | .begin _ => true
  | .resp r v => s.floors.all (fun p => p.1 != r || decide (p.2 ≤ v))
  | .stored v => decide (s.maxStored ≤ v)

/-- executable checker -/
def check : List Ev → Sum → Bool
  | [], _ => true
  | e :: es, s => okNext s e && check es (s.push e)

/-- a field of the summary that is the maximum of the values `val` picks from the events -/
theorem fold_max (get : Sum → Nat) (val : Ev → Option Nat)
    (hpush : ∀ s e, get (s.push e) = match val e with | some u => max (get s) u | none => get s)
    (p : List Ev) (s : Sum) (v : Nat) :
    get (p.foldl Sum.push s) ≤ v ↔ get s ≤ v ∧ ∀ e ∈ p, ∀ u, val e = some u → u ≤ v := by
  induction p generalizing s with
  | nil => exact ⟨fun h => ⟨h, fun _ h => nomatch h⟩, And.left⟩
  | cons e p ih =>
    rw [List.foldl_cons, ih, hpush, List.forall_mem_cons]
    cases val e with
    | none => exact ⟨fun ⟨h1, h2⟩ => ⟨h1, nofun, h2⟩, fun ⟨h1, _, h2⟩ => ⟨h1, h2⟩⟩
    | some w =>
      dsimp only
      rw [Nat.max_le]
      exact ⟨fun ⟨⟨h1, hw⟩, h2⟩ => ⟨h1, fun u hu => by cases hu; exact hw, h2⟩,
        fun ⟨h1, hw, h2⟩ => ⟨⟨h1, hw w rfl⟩, h2⟩⟩

theorem fold_maxStored (p : List Ev) (s : Sum) (v : Nat) :
    (p.foldl Sum.push s).maxStored ≤ v ↔ s.maxStored ≤ v ∧ ∀ u, Ev.stored u ∈ p → u ≤ v := by
  rw [fold_max (·.maxStored) (fun | .stored u => some u | _ => none) (by intro s e; cases e <;> rfl)]
  exact and_congr_right' ⟨fun h u hu => h _ hu u rfl, fun h e he u hu => by cases e <;> cases hu; exact h u he⟩

theorem fold_maxResp (p : List Ev) (s : Sum) (v : Nat) :
    (p.foldl Sum.push s).maxResp ≤ v ↔ s.maxResp ≤ v ∧ ∀ r a, Ev.resp r a ∈ p → a ≤ v := by
  rw [fold_max (·.maxResp) (fun | .resp _ a => some a | _ => none) (by intro s e; cases e <;> rfl)]
  exact and_congr_right' ⟨fun h r a ha => h _ ha a rfl, fun h e he u hu => by cases e <;> cases hu; exact h _ u he⟩

theorem fold_floors (p : List Ev) (s : Sum) (r f : Nat) :
    (r, f) ∈ (p.foldl Sum.push s).floors ↔
      (r, f) ∈ s.floors ∨ ∃ j, p[j]? = some (.begin r) ∧ f = ((p.take j).foldl Sum.push s).maxResp := by
  induction p generalizing s with
  | nil => exact ⟨Or.inl, fun h => h.elim id fun ⟨_, h, _⟩ => nomatch h⟩
  | cons e p ih =>
    -- position `j + 1` of `e :: p` is position `j` of `p`, by computation
    rw [List.foldl_cons, ih]
    constructor
    · rintro (h | ⟨j, h1, h2⟩)
      · cases e with
        | begin r0 =>
          rcases List.mem_cons.1 h with h | h
          · cases h; exact Or.inr ⟨0, rfl, rfl⟩
          · exact Or.inl h
        | resp _ _ => exact Or.inl h
        | stored _ => exact Or.inl h
      · exact Or.inr ⟨j + 1, h1, h2⟩
    · rintro (h | ⟨j, h1, h2⟩)
      · refine Or.inl ?_
        cases e with
        | begin r0 => exact List.mem_cons_of_mem _ h
        | resp _ _ => exact h
        | stored _ => exact h
      · cases j with
        | zero => cases h1; exact Or.inl (h2 ▸ List.mem_cons_self ..)
        | succ j => exact Or.inr ⟨j, h1, h2⟩

theorem summ_snoc (p : List Ev) (e : Ev) : summ (p ++ [e]) = (summ p).push e := by
  simp [summ, List.foldl_append]

theorem okNext_stored (p : List Ev) (v : Nat) :
    okNext (summ p) (.stored v) = true ↔ ∀ u, Ev.stored u ∈ p → u ≤ v := by
  rw [okNext, decide_eq_true_eq, summ, fold_maxStored]
  exact and_iff_right (Nat.zero_le _)

theorem okNext_resp (p : List Ev) (r b : Nat) :
    okNext (summ p) (.resp r b) = true ↔
      ∀ j, p[j]? = some (.begin r) → ∀ r' a, Ev.resp r' a ∈ p.take j → a ≤ b := by
  simp only [okNext, List.all_eq_true, or_eq_true_imp, bne_eq_false_iff_eq, decide_eq_true_eq, summ]
  constructor
  · intro h j hj r' a ha
    have hf := h (r, _) ((fold_floors p {} r _).2 (Or.inr ⟨j, hj, rfl⟩)) rfl
    exact ((fold_maxResp (p.take j) {} b).1 hf).2 r' a ha
  · rintro h ⟨r0, f⟩ hf rfl
    rcases (fold_floors p {} r0 f).1 hf with hf | ⟨j, hj, rfl⟩
    · cases hf
    · exact (fold_maxResp (p.take j) {} b).2 ⟨Nat.zero_le _, h j hj⟩

theorem holds_prefix (l m : List Ev) (h : Holds (l ++ m)) : Holds l :=
  have pre {i : Nat} {x : Ev} (hx : l[i]? = some x) := getElem?_append_of_some m hx
  ⟨fun i j u v hij hi hj => h.1 i j u v hij (pre hi) (pre hj),
    fun i j k r r' a b hij hjk hi hj hk => h.2 i j k r r' a b hij hjk (pre hi) (pre hj) (pre hk)⟩

theorem holds_snoc (p : List Ev) (e : Ev) :
    Holds (p ++ [e]) ↔ Holds p ∧ okNext (summ p) e = true := by
  constructor
  · intro h
    refine ⟨holds_prefix _ _ h, ?_⟩
    have hlast : (p ++ [e])[p.length]? = some e := List.getElem?_concat_length
    have pre {i : Nat} {x : Ev} (hx : p[i]? = some x) := getElem?_append_of_some [e] hx
    cases e with
    | begin r => rfl
    | stored v =>
      rw [okNext_stored]
      intro u hu
      obtain ⟨i, hi⟩ := List.mem_iff_getElem?.1 hu
      exact h.1 i p.length u v (lt_length_of_getElem? hi) (pre hi) hlast
    | resp r b =>
      rw [okNext_resp]
      intro j hj r' a ha
      obtain ⟨i, hij, hi⟩ := mem_take_iff_getElem?.1 ha
      exact h.2 i j p.length r r' a b hij (lt_length_of_getElem? hj) (pre hi) (pre hj) hlast
  · -- only the last of the positions a clause speaks of can be the new event
    rintro ⟨hp, hok⟩
    refine ⟨?_, ?_⟩
    · intro i j u v hij hi hj
      have hi' := getElem?_snoc_of_lt hij hj hi
      rcases getElem?_snoc_cases hj with ⟨_, hj'⟩ | ⟨_, rfl⟩
      · exact hp.1 i j u v hij hi' hj'
      · exact (okNext_stored p v).1 hok u (List.mem_iff_getElem?.2 ⟨i, hi'⟩)
    · intro i j k r r' a b hij hjk hi hj hk
      have hj' := getElem?_snoc_of_lt hjk hk hj
      have hi' := getElem?_snoc_of_lt hij hj hi
      rcases getElem?_snoc_cases hk with ⟨_, hk'⟩ | ⟨_, rfl⟩
      · exact hp.2 i j k r r' a b hij hjk hi' hj' hk'
      · exact (okNext_resp p r b).1 hok j hj' r' a (mem_take_iff_getElem?.2 ⟨i, hij, hi'⟩)

theorem check_append (l m : List Ev) (s : Sum) :
    check (l ++ m) s = (check l s && check m (l.foldl Sum.push s)) := by
  induction l generalizing s with
  | nil => rfl
  | cons e l ih => simp only [List.cons_append, check, List.foldl_cons, ih, Bool.and_assoc]

theorem check_summ (p es : List Ev) (hp : Holds p) :
    check es (summ p) = true ↔ Holds (p ++ es) := by
  induction es generalizing p with
  | nil => simp [check, hp]
  | cons e es ih =>
    rw [check, Bool.and_eq_true, ← summ_snoc, List.append_cons p e es]
    constructor
    · rintro ⟨h1, h2⟩
      have hpe := (holds_snoc p e).2 ⟨hp, h1⟩
      exact (ih _ hpe).1 h2
    · intro h
      have hpe := holds_prefix _ _ h
      exact ⟨((holds_snoc p e).1 hpe).2, (ih _ hpe).2 h⟩

theorem holds_nil : Holds [] := by
  constructor <;> intros <;> simp at *

theorem check_iff (evs : List Ev) : check evs {} = true ↔ Holds evs := by
  have := check_summ [] evs holds_nil
  simpa [summ] using this

/-! ### service safe points -/

structure Rec where
  id  : String
  sp  : Nat
  exp : Int          -- expiry (seconds); `never` = unlimited
  deriving Repr, DecidableEq

def never : Int := 9223372036854775807

structure Obs where
  gcWorker : String        -- the garbage collector's own service id
  svc      : String
  ttl      : Int
  sp       : Nat
  now      : Int
  minSp    : Nat           -- the minimum service safe point reported in the response
  before   : List Rec
  after    : List Rec
  deriving Repr

/-- a registration is live while it has not expired; the garbage collector's own registration always is -/
def live (gc : String) (now : Int) (r : Rec) : Prop := r.id = gc ∨ now ≤ r.exp

instance (gc : String) (now : Int) (r : Rec) : Decidable (live gc now r) := by unfold live; infer_instance

/-- the reported minimum is not above the safe point of any live registered service -/
def MinNotAboveLive (o : Obs) : Prop := ∀ r ∈ o.after, live o.gcWorker o.now r → o.minSp ≤ r.sp

/-- a registration below the current minimum (the smallest safe point among the live registrations
    there were) is not recorded: the record of that service, if there is one afterwards, stays above
    the refused value -/
def BelowMinNotRecorded (o : Obs) : Prop :=
  0 < o.ttl → (∃ r ∈ o.before, live o.gcWorker o.now r) →
    (∀ r ∈ o.before, live o.gcWorker o.now r → o.sp < r.sp) →
    ∀ r ∈ o.after, r.id = o.svc → o.sp < r.sp

/-- the garbage collector's own entry exists with unlimited lifetime -/
def GcWorkerPresent (o : Obs) : Prop := ∃ r ∈ o.after, r.id = o.gcWorker ∧ r.exp = never

/-- expired registrations and registrations renewed with a non-positive TTL are gone -/
def ExpiredGone (o : Obs) : Prop :=
  (∀ r ∈ o.after, o.now ≤ r.exp) ∧ (o.ttl ≤ 0 → ∀ r ∈ o.after, r.id ≠ o.svc)

/-- the garbage collector's own registration is never removed: by no request of any kind, through no interface -/
def GcWorkerKept (gc : String) (before after : List Rec) : Prop :=
  (∃ r ∈ before, r.id = gc) → ∃ r ∈ after, r.id = gc

def chkKept (gc : String) (before after : List Rec) : Bool :=
  !before.any (fun r => r.id == gc) || after.any (fun r => r.id == gc)

def SvcHolds (o : Obs) : Prop :=
  MinNotAboveLive o ∧ BelowMinNotRecorded o ∧ GcWorkerPresent o ∧ ExpiredGone o

def chkMin (o : Obs) : Bool :=
  o.after.all (fun r => !decide (live o.gcWorker o.now r) || decide (o.minSp ≤ r.sp))
def chkBelow (o : Obs) : Bool :=
  !decide (0 < o.ttl) || !o.before.any (fun r => decide (live o.gcWorker o.now r)) ||
  !o.before.all (fun r => !decide (live o.gcWorker o.now r) || decide (o.sp < r.sp)) ||
  o.after.all (fun r => r.id != o.svc || decide (o.sp < r.sp))
def chkGc (o : Obs) : Bool := o.after.any (fun r => r.id == o.gcWorker && r.exp == never)
def chkExpired (o : Obs) : Bool :=
  o.after.all (fun r => decide (o.now ≤ r.exp)) && (!decide (o.ttl ≤ 0) || o.after.all (fun r => r.id != o.svc))

def svcCheck (o : Obs) : Bool := chkMin o && chkBelow o && chkGc o && chkExpired o

theorem chkKept_iff (gc : String) (before after : List Rec) :
    chkKept gc before after = true ↔ GcWorkerKept gc before after := by
  simp only [chkKept, GcWorkerKept, or_eq_true_imp, Bool.not_eq_false', List.any_eq_true, beq_iff_eq]

theorem chkMin_iff (o : Obs) : chkMin o = true ↔ MinNotAboveLive o := by
  simp only [chkMin, MinNotAboveLive, List.all_eq_true, or_eq_true_imp, Bool.not_eq_false', decide_eq_true_eq]

theorem chkBelow_iff (o : Obs) : chkBelow o = true ↔ BelowMinNotRecorded o := by
  simp only [chkBelow, BelowMinNotRecorded, or_eq_true_imp, Bool.or_eq_false_iff, and_imp, Bool.not_eq_false',
    bne_eq_false_iff_eq, List.all_eq_true, List.any_eq_true, decide_eq_true_eq]

theorem chkGc_iff (o : Obs) : chkGc o = true ↔ GcWorkerPresent o := by
  simp only [chkGc, GcWorkerPresent, List.any_eq_true, Bool.and_eq_true, beq_iff_eq]

theorem chkExpired_iff (o : Obs) : chkExpired o = true ↔ ExpiredGone o := by
  simp only [chkExpired, ExpiredGone, Bool.and_eq_true, List.all_eq_true, or_eq_true_imp, Bool.not_eq_false',
    decide_eq_true_eq, bne_iff_ne, ne_eq]

theorem svcCheck_iff (o : Obs) : svcCheck o = true ↔ SvcHolds o := by
  simp only [svcCheck, SvcHolds, Bool.and_eq_true, chkMin_iff, chkBelow_iff, chkGc_iff, chkExpired_iff,
    and_assoc]

end PdModel.Spec.C15
