import PdModel.Model.Fit
import PdModel.Lemmas.FitOrder
import PdModel.Lemmas.FitBasic
/-! Candidates, rule fits and keys of the model in the terms of the specification, and what a valid
    assignment implies: lengths, the partition of the peers, equally good keys. -/
namespace PdModel.Fit
open PdModel.Spec.C12

/-- the store a peer was resolved to is one of the stores of the store set -/
def Ctx.WF (c : Ctx) : Prop := ∀ p ∈ c.peers, ∀ s, p.store = some s → s ∈ c.stores

theorem eligible_eq (p : PeerInfo) (r : Rule) :
    (matchLabelConstraints p.store r.constraints && matchRoleLoose p r.role) = eligible p r := by
  unfold eligible
  cases h : p.store with
  | none => simp [matchLabelConstraints]
  | some s => simp [matchLabelConstraints_eq, matchRoleLoose_eq]

theorem candidates_def (c : Ctx) (r : Rule) (used : List Nat) :
    candidates c r used = if checkRule r c.stores then cands c.peers r used else [] := by
  unfold candidates cands elig
  congr 2; funext i
  cases c.peers[i]? <;> simp only [eligible_eq, Bool.false_and]

theorem candidates_sublist (c : Ctx) (r : Rule) (used : List Nat) :
    (candidates c r used).Sublist (cands c.peers r used) := by
  rw [candidates_def]; split
  · exact List.Sublist.refl _
  · exact List.nil_sublist _

/-- `checkRule` only spares the loop over the peers: with a consistent store set a rule that no store
    matches has no candidate anyway -/
theorem candidates_eq (c : Ctx) (hwf : c.WF) (r : Rule) (used : List Nat) :
    candidates c r used = cands c.peers r used := by
  rw [candidates_def]; split
  · rfl
  · next hck =>
    refine (List.filter_eq_nil_iff.2 fun i _ hi => hck ?_).symm
    simp only [elig, eligible] at hi
    cases hp : c.peers[i]? with
    | none => simp [hp] at hi
    | some p =>
      cases hs : p.store with
      | none => simp [hp, hs] at hi
      | some s =>
        simp only [hp, hs, Bool.and_eq_true] at hi
        exact List.any_eq_true.2 ⟨s, hwf p (List.mem_of_getElem? hp) s hs, (matchLabelConstraints_eq s _).trans hi.1.1⟩

theorem strictAtM_eq (c : Ctx) (r : Rule) (i : Nat) : strictAtM c r i = strictAt c.peers r i := by
  unfold strictAtM strictAt
  cases c.peers[i]? <;> simp [matchRoleStrict_eq]

theorem newRuleFit_score (c : Ctx) (r : Rule) (sel : List Nat) :
    (newRuleFit c r sel).score = isoScore r.locationLabels (storesOf c.peers sel) := by
  simp only [newRuleFit, isolationScore_eq, Ctx.get, storesOf, List.filterMap_filterMap]

theorem newRuleFit_mismatch (c : Ctx) (r : Rule) (sel : List Nat) :
    (newRuleFit c r sel).mismatch = sel.filter (fun i => !strictAt c.peers r i) := by
  simp only [newRuleFit, strictAtM_eq]

theorem newRuleFit_key (c : Ctx) (r : Rule) (sel : List Nat) :
    (newRuleFit c r sel).key = keyOf c.peers r sel := by
  simp only [RuleFit.key, keyOf, newRuleFit_score, newRuleFit_mismatch]
  rfl

theorem compareRuleFit_eq (a b : RuleFit) : compareRuleFit a b = Key.cmp a.key b.key := rfl

/-- the rule fits of the assignment `A` -/
def fitsM (c : Ctx) : List Rule → List (List Nat) → List RuleFit
  | r :: rs, a :: as => newRuleFit c r a :: fitsM c rs as
  | _, _ => []

theorem fitsM_keys (c : Ctx) (rules : List Rule) (A : List (List Nat)) :
    (fitsM c rules A).map (·.key) = keysOf c.peers rules A := by
  fun_induction fitsM c rules A with
  | case1 r rs a as ih => simp only [keysOf, List.map_cons, newRuleFit_key, ih]
  | case2 rules A h => rw [keysOf.eq_2 _ _ _ h]; rfl

theorem fitsM_spec (c : Ctx) {rules : List Rule} {A : List (List Nat)} (h : A.length = rules.length) :
    (fitsM c rules A).map (·.peers) = A ∧ fitsExact c.peers rules (fitsM c rules A) := by
  induction rules generalizing A with
  | nil => cases List.eq_nil_of_length_eq_zero h; exact ⟨rfl, trivial⟩
  | cons r rs ih =>
    cases A with
    | nil => cases h
    | cons a as =>
      obtain ⟨h1, h2⟩ := ih (Nat.succ.inj h)
      exact ⟨congrArg (a :: ·) h1, newRuleFit_mismatch c r a, newRuleFit_score c r a, h2⟩

theorem orphanPeers_eq (c : Ctx) (A : List (List Nat)) : orphanPeers c A.flatten = orphansOf c.peers A := rfl

theorem validFrom_length {peers : List PeerInfo} {rules : List Rule} {used : List Nat} {A : List (List Nat)}
    (h : ValidFrom peers rules used A) : A.length = rules.length := by
  fun_induction ValidFrom peers rules used A with
  | case1 => rfl
  | case2 r rs used a as ih => exact congrArg (· + 1) (ih h.2.2.2)
  | case3 => exact False.elim h

theorem keysOf_length (peers : List PeerInfo) {rules : List Rule} {A : List (List Nat)}
    (h : A.length = rules.length) : (keysOf peers rules A).length = rules.length := by
  induction rules generalizing A with
  | nil => rfl
  | cons r rs ih =>
    cases A with
    | nil => cases h
    | cons a as => exact congrArg (· + 1) (ih (Nat.succ.inj h))

theorem validFrom_empty (peers : List PeerInfo) (rules : List Rule) (used : List Nat) :
    ValidFrom peers rules used (rules.map (fun _ => [])) := by
  induction rules generalizing used with
  | nil => trivial
  | cons r rs ih =>
    simp only [List.map_cons, ValidFrom, List.Pairwise.nil, List.not_mem_nil, false_imp_iff,
      implies_true, List.length_nil, Nat.zero_le, true_and, List.append_nil]
    exact ih used

theorem validFrom_flatten {peers : List PeerInfo} {rules : List Rule} {used : List Nat} {A : List (List Nat)}
    (h : ValidFrom peers rules used A) : A.flatten.Nodup ∧ ∀ i ∈ A.flatten, i < peers.length ∧ i ∉ used := by
  fun_induction ValidFrom peers rules used A with
  | case1 => exact ⟨List.nodup_nil, nofun⟩
  | case2 r rs used a as ih =>
    obtain ⟨hp, hm, _, hv⟩ := h
    obtain ⟨n1, n2⟩ := ih hv
    simp only [List.flatten_cons, List.nodup_append, List.mem_append]
    refine ⟨⟨hp.imp Nat.ne_of_lt, n1, fun x hx y hy hxy => (n2 y hy).2 (List.mem_append_right _ (hxy ▸ hx))⟩, ?_⟩
    rintro i (hi | hi)
    · exact ⟨elig_lt (hm i hi).1, (hm i hi).2⟩
    · exact ⟨(n2 i hi).1, fun hu => (n2 i hi).2 (List.mem_append_left _ hu)⟩
  | case3 => exact False.elim h

theorem partition_perm {peers : List PeerInfo} {rules : List Rule} {A : List (List Nat)}
    (h : Valid peers rules A) : (A.flatten ++ orphansOf peers A).Perm (List.range peers.length) := by
  obtain ⟨n1, n2⟩ := validFrom_flatten h
  -- the assigned positions are, up to order, the positions that `orphansOf` filters out
  have hp : A.flatten.Perm ((List.range peers.length).filter (A.flatten.contains ·)) := by
    rw [List.perm_ext_iff_of_nodup n1 (List.nodup_range.sublist List.filter_sublist)]
    intro a
    simp only [List.mem_filter, List.mem_range, List.contains_eq_mem, decide_eq_true_eq]
    exact ⟨fun ha => ⟨(n2 a ha).1, ha⟩, fun ha => ha.2⟩
  exact (hp.append_right _).trans (List.filter_append_perm _ _)

theorem orphans_length {peers : List PeerInfo} {rules : List Rule} {A : List (List Nat)}
    (h : Valid peers rules A) : A.flatten.length + (orphansOf peers A).length = peers.length := by
  have := (partition_perm h).length_eq
  simpa using this

theorem flatten_length_keys (peers : List PeerInfo) {rules : List Rule} {A : List (List Nat)}
    (h : A.length = rules.length) : A.flatten.length = ((keysOf peers rules A).map (·.n)).sum := by
  induction rules generalizing A with
  | nil => cases List.eq_nil_of_length_eq_zero h; rfl
  | cons r rs ih =>
    cases A with
    | nil => cases h
    | cons a as => rw [List.flatten_cons, List.length_append, ih (Nat.succ.inj h)]; rfl

/-- among valid assignments the orphan count never decides: keys that are equally good rule by rule are the same
    keys (`LexLE.antisymm`), and the keys say how many peers are placed -/
theorem orphans_length_of_lexLE {peers : List PeerInfo} {rules : List Rule} {A B : List (List Nat)}
    (hA : Valid peers rules A) (hB : Valid peers rules B)
    (h1 : LexLE (keysOf peers rules A) (keysOf peers rules B))
    (h2 : LexLE (keysOf peers rules B) (keysOf peers rules A)) :
    (orphansOf peers A).length = (orphansOf peers B).length := by
  have la := validFrom_length hA
  have lb := validFrom_length hB
  have h := orphans_length hA
  rw [flatten_length_keys peers la, LexLE.antisymm ((keysOf_length peers la).trans (keysOf_length peers lb).symm) h1 h2,
    ← flatten_length_keys peers lb] at h
  exact Nat.add_left_cancel (h.trans (orphans_length hB).symm)

end PdModel.Fit
