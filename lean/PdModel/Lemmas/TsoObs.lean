import PdModel.Model.Tso
/-! What the operations of the TSO model do to the state, before any invariant: the outcomes of the guarded
save, of the window writers built on it, of a timestamp request and of SetTSO. -/
namespace PdModel.Tso

@[simp] theorem setMem_mems (s : St) (m i : Nat) (x : Mem) :
    (s.setMem m x).mems i = if i = m then x else s.mems i := rfl
@[simp] theorem setMem_stored (s : St) (m : Nat) (x : Mem) : (s.setMem m x).stored = s.stored := rfl
@[simp] theorem setMem_leader (s : St) (m : Nat) (x : Mem) : (s.setMem m x).leader = s.leader := rfl
@[simp] theorem setMem_grants (s : St) (m : Nat) (x : Mem) : (s.setMem m x).grants = s.grants := rfl
@[simp] theorem setMem_cfg (s : St) (m : Nat) (x : Mem) : (s.setMem m x).cfg = s.cfg := rfl

theorem setMem_mems_self (s : St) (m : Nat) (x : Mem) : (s.setMem m x).mems m = x := if_pos rfl

theorem setMem_setMem (s : St) (m : Nat) (x y : Mem) : (s.setMem m x).setMem m y = s.setMem m y := by
  have : ∀ i, (if i = m then y else if i = m then x else s.mems i) = if i = m then y else s.mems i :=
    fun i => by split <;> rfl
  simp only [St.setMem, this]

theorem setMem_self (s : St) (m : Nat) : s.setMem m (s.mems m) = s := by
  have : ∀ i, (if i = m then s.mems m else s.mems i) = s.mems i := fun i => by split <;> simp [*]
  simp only [St.setMem, this]

theorem stepDown_cfg (s : St) (m : Nat) : (stepDown s m).cfg = s.cfg := rfl
theorem stepDown_mems_self (s : St) (m : Nat) :
    (stepDown s m).mems m = { s.mems m with phys := none, logical := 0, pend := none, lease := false } := if_pos rfl

theorem msOf_mono {a b : Nat} (h : a ≤ b) : msOf a ≤ msOf b := Nat.div_le_div_right h

theorem msOf_lt_of_add {a b : Nat} (h : a + 1000000 ≤ b) : msOf a < msOf b :=
  have : msOf (a + 1000000) = msOf a + 1 := Nat.add_div_right a (by decide)
  Nat.lt_of_lt_of_le (by rw [this]; exact Nat.lt_succ_self _) (msOf_mono h)

theorem msOf_mul (t : Nat) : msOf (t * 1000000) = t := Nat.mul_div_cancel t (by decide)

theorem needSave_false {ls : Option Nat} {b : Nat} (h : needSave ls b = false) :
    ∃ l, ls = some l ∧ b < l := by
  cases ls with
  | none => cases h
  | some l => exact ⟨l, rfl, by simpa [needSave] using h⟩

theorem needSave_true {ls : Option Nat} {b : Nat} (h : needSave ls b = true) :
    ∀ l, ls = some l → l ≤ b := by
  intro l hl; subst hl; simpa [needSave] using h

theorem syncNext_ge (c : Cfg) (l now : Nat) : l + c.guard ≤ syncNext c (some l) now := by
  unfold syncNext; simp only; split
  · exact Nat.le_refl _
  · next h => exact Nat.le_of_not_lt h

theorem updDecide_some {c : Cfg} {x : Mem} {now next : Nat} {save : Option Nat}
    (h : updDecide c x now = some (next, save)) :
    ∃ p, x.phys = some p ∧ (next = now ∧ p + c.guard < now ∨ next = p + 1000000) ∧
      save = if needSave x.lastSaved (next + c.guard) then some (next + c.saveInterval) else none := by
  unfold updDecide at h
  split at h
  · cases h
  · next p hp =>
    refine ⟨p, hp, ?_⟩
    by_cases h1 : now > p + c.guard
    · simp only [if_pos h1, Option.some.injEq, Prod.mk.injEq] at h
      exact ⟨.inl ⟨h.1.symm, h1⟩, h.1 ▸ h.2.symm⟩
    · by_cases h2 : x.logical > c.maxLogical / 2
      · simp only [if_neg h1, if_pos h2, Option.some.injEq, Prod.mk.injEq] at h
        exact ⟨.inr h.1.symm, h.1 ▸ h.2.symm⟩
      · simp only [if_neg h1, if_neg h2] at h; cases h

/-- what `loadTimestamp` returns covers the other allocators' windows too -/
theorem optMax_ge_right (a : Option Nat) (E : Nat) : ∃ L, optMax a (some E) = some L ∧ E ≤ L := by
  cases a with
  | none => exact ⟨E, rfl, Nat.le_refl _⟩
  | some x => exact ⟨max x E, rfl, Nat.le_max_right _ _⟩

theorem setPhys_cases (x : Mem) (next : Nat) :
    ((∀ p, x.phys = some p → msOf p < msOf next) ∧ setPhys x next = { x with phys := some next, logical := 0 }) ∨
    (∃ p, x.phys = some p ∧ msOf next ≤ msOf p ∧ setPhys x next = x) := by
  unfold setPhys
  cases hp : x.phys with
  | none => exact .inl ⟨nofun, rfl⟩
  | some p =>
    by_cases h : msOf next > msOf p
    · exact .inl ⟨fun q hq => by cases hq; exact h, if_pos h⟩
    · exact .inr ⟨p, rfl, Nat.le_of_not_lt h, if_neg h⟩

theorem setPhys_forward (x : Mem) (next : Nat) (h : ∀ p, x.phys = some p → msOf p < msOf next) :
    setPhys x next = { x with phys := some next, logical := 0 } := by
  rcases setPhys_cases x next with ⟨_, h'⟩ | ⟨p, hp, hle, _⟩
  · exact h'
  · exact absurd (h p hp) (Nat.not_lt.2 hle)

theorem setPhys_lease (x : Mem) (n : Nat) : (setPhys x n).lease = x.lease := by
  rcases setPhys_cases x n with ⟨_, e⟩ | ⟨_, _, _, e⟩ <;> rw [e]

def Out.isTs : Out → Bool
  | .ts _ _ => true
  | _ => false

/-- the three outcomes of `Commit` -/
theorem saveTxn_cases (s : St) (m sv : Nat) (f : Fault) :
    (s.leader = m ∧ m ≠ 0 ∧ f = .none ∧ saveTxn s m sv f =
        (({ s with stored := some sv } : St).setMem m { s.mems m with lastSaved := some sv }, true, .ok)) ∨
    (s.leader = m ∧ m ≠ 0 ∧ f = .errAfter ∧ saveTxn s m sv f = ({ s with stored := some sv }, true, .errSave)) ∨
    (∃ o, (o = .errSave ∨ o = .errConflict) ∧ saveTxn s m sv f = (s, false, o)) := by
  by_cases hl : s.leader = m ∧ m ≠ 0
  · cases f
    · exact .inl ⟨hl.1, hl.2, rfl, by simp only [saveTxn, if_pos hl]; rfl⟩
    · exact .inr (.inr ⟨_, .inl rfl, rfl⟩)
    · exact .inr (.inl ⟨hl.1, hl.2, rfl, by simp only [saveTxn, if_pos hl]; rfl⟩)
  · cases f
    · exact .inr (.inr ⟨_, .inr rfl, by simp only [saveTxn, if_neg hl]; rfl⟩)
    · exact .inr (.inr ⟨_, .inl rfl, rfl⟩)
    · exact .inr (.inr ⟨_, .inl rfl, by simp only [saveTxn, if_neg hl]; rfl⟩)

/-- The shape `updFinish`, `syncFinish` and the saving branch of `resetUser` share: save `sv`; on an acknowledged
    commit publish `g` of the member's record, otherwise hand the error to the caller, who does `fin`. -/
def saveThen (s : St) (m sv : Nat) (f : Fault) (g : Mem → Mem) (fin : St → St) : St × Out :=
  let r := saveTxn s m sv f
  if r.2.2 = .ok then (r.1.setMem m (g (r.1.mems m)), .ok) else (fin r.1, r.2.2)

theorem updFinish_some (s : St) (m next sv : Nat) (f : Fault) :
    updFinish s m next (some sv) f =
      saveThen s m sv f (fun x => setPhys { x with pend := none } next) (fun t => stepDown t m) := rfl

theorem syncFinish_eq (s : St) (m : Nat) (last : Option Nat) (now : Nat) (f : Fault) :
    syncFinish s m last now f =
      saveThen s m (syncNext s.cfg last now + s.cfg.saveInterval) f
        (fun x => setPhys { x with pend := none } (syncNext s.cfg last now)) (fun t => stepDown t m) := rfl

theorem saveThen_cases (s : St) (m sv : Nat) (f : Fault) (g : Mem → Mem) (fin : St → St) :
    (s.leader = m ∧ m ≠ 0 ∧ saveThen s m sv f g fin =
        (({ s with stored := some sv } : St).setMem m (g { s.mems m with lastSaved := some sv }), .ok)) ∨
    (∃ o, o ≠ .ok ∧ o.isTs = false ∧
      ((s.leader = m ∧ m ≠ 0 ∧ f = .errAfter ∧ saveThen s m sv f g fin = (fin { s with stored := some sv }, o)) ∨
        saveThen s m sv f g fin = (fin s, o))) := by
  unfold saveThen
  rcases saveTxn_cases s m sv f with ⟨hl, h0, _, h⟩ | ⟨hl, h0, hf, h⟩ | ⟨o, ho, h⟩ <;> rw [h]
  · exact .inl ⟨hl, h0, (if_pos rfl).trans (by rw [setMem_mems_self, setMem_setMem])⟩
  · exact .inr ⟨.errSave, nofun, rfl, .inl ⟨hl, h0, hf, if_neg nofun⟩⟩
  · rcases ho with rfl | rfl
    · exact .inr ⟨.errSave, nofun, rfl, .inr (if_neg nofun)⟩
    · exact .inr ⟨.errConflict, nofun, rfl, .inr (if_neg nofun)⟩

theorem saveThen_ok {s : St} {m sv : Nat} {f : Fault} {g : Mem → Mem} {fin : St → St}
    (h : (saveThen s m sv f g fin).2 = .ok) : (saveThen s m sv f g fin).1 =
      ({ s with stored := some sv } : St).setMem m (g { s.mems m with lastSaved := some sv }) := by
  rcases saveThen_cases s m sv f g fin with ⟨_, _, e⟩ | ⟨o, ho, _, ⟨_, _, _, e⟩ | e⟩
  · rw [e]
  · rw [e] at h; exact absurd h ho
  · rw [e] at h; exact absurd h ho

theorem saveThen_err {s : St} {m sv : Nat} {f : Fault} {g : Mem → Mem} {fin : St → St}
    (h : (saveThen s m sv f g fin).2 ≠ .ok) : ∃ st', (saveThen s m sv f g fin).1 = fin { s with stored := st' } := by
  rcases saveThen_cases s m sv f g fin with ⟨_, _, e⟩ | ⟨o, _, _, ⟨_, _, _, e⟩ | e⟩
  · rw [e] at h; exact absurd rfl h
  · rw [e]; exact ⟨_, rfl⟩
  · rw [e]; exact ⟨s.stored, rfl⟩

structure Quiet (s : St) (r : St × Out) : Prop where
  cfg    : r.1.cfg = s.cfg
  grants : r.1.grants = s.grants
  noTs   : r.2.isTs = false

theorem saveThen_quiet {s : St} {m sv : Nat} {f : Fault} {g : Mem → Mem} {fin : St → St}
    (hcfg : ∀ t, (fin t).cfg = t.cfg) (hgr : ∀ t, (fin t).grants = t.grants) :
    Quiet s (saveThen s m sv f g fin) := by
  rcases saveThen_cases s m sv f g fin with ⟨_, _, h⟩ | ⟨o, _, ho, ⟨_, _, _, h⟩ | h⟩ <;> rw [h]
  · exact ⟨rfl, rfl, rfl⟩
  · exact ⟨hcfg _, hgr _, ho⟩
  · exact ⟨hcfg _, hgr _, ho⟩

theorem updFinish_quiet (s : St) (m next : Nat) (save : Option Nat) (f : Fault) :
    Quiet s (updFinish s m next save f) := by
  cases save with
  | none => exact ⟨rfl, rfl, rfl⟩
  | some sv => rw [updFinish_some]; exact saveThen_quiet (fun _ => rfl) (fun _ => rfl)

theorem syncFinish_quiet (s : St) (m : Nat) (last : Option Nat) (now : Nat) (f : Fault) :
    Quiet s (syncFinish s m last now f) := by
  rw [syncFinish_eq]; exact saveThen_quiet (fun _ => rfl) (fun _ => rfl)

theorem resetUser_cases (s : St) (m tms tlog : Nat) (ig : Bool) (f : Fault) :
    (∃ o, o.isTs = false ∧ resetUser s m tms tlog ig f = (s, o)) ∨
    (∃ p, (s.mems m).lease = true ∧ (s.mems m).phys = some p ∧
      (msOf p < tms ∨ (tms = msOf p ∧ (s.mems m).logical < tlog)) ∧
      resetUser s m tms tlog ig f =
        if needSave (s.mems m).lastSaved (tms * 1000000 + s.cfg.guard) then
          saveThen s m (tms * 1000000 + s.cfg.saveInterval) f
            (fun y => { y with phys := some (tms * 1000000), logical := tlog }) id
        else (s.setMem m { s.mems m with phys := some (tms * 1000000), logical := tlog }, .ok)) := by
  cases hl : (s.mems m).lease with
  | false => exact .inl ⟨_, rfl, by simp only [resetUser, hl]; rfl⟩
  | true =>
    cases hp : (s.mems m).phys with
    | none => exact .inl ⟨_, rfl, by simp only [resetUser, hl, hp]; rfl⟩
    | some p =>
      unfold resetUser
      simp only [hl, hp, Bool.not_true, Bool.false_eq_true, if_false]
      by_cases h1 : tms < msOf p
      · rw [if_pos h1]; exact .inl ⟨_, by cases ig <;> rfl, rfl⟩
      rw [if_neg h1]
      by_cases h2 : tms = msOf p ∧ tlog ≤ (s.mems m).logical
      · rw [if_pos h2]; exact .inl ⟨_, by cases ig <;> rfl, rfl⟩
      rw [if_neg h2]
      by_cases h3 : tms - msOf p ≥ s.cfg.maxResetGapMs
      · rw [if_pos h3]; exact .inl ⟨_, rfl, rfl⟩
      · rw [if_neg h3]; exact .inr ⟨p, trivial, rfl, by omega, rfl⟩

theorem resetUser_quiet (s : St) (m tms tlog : Nat) (ig : Bool) (f : Fault) :
    Quiet s (resetUser s m tms tlog ig f) := by
  rcases resetUser_cases s m tms tlog ig f with ⟨o, ho, h⟩ | ⟨p, _, _, _, h⟩ <;> rw [h]
  · exact ⟨rfl, rfl, ho⟩
  · split
    · exact saveThen_quiet (fun _ => rfl) (fun _ => rfl)
    · exact ⟨rfl, rfl, rfl⟩

/-- state and answer after member `m` is granted the `count` raw values above `l` at physical time `p` (ns) -/
def granted (s : St) (m l count p : Nat) : St × Out :=
  ({ s.setMem m { s.mems m with logical := l + count } with
       grants := ⟨m, msOf p, l, l + count, p, s.stored⟩ :: s.grants },
   .ts (msOf p) ((l + count) * 2 ^ s.cfg.bits + s.cfg.suffix))

/-- `l` is the counter reached by the attempts that granted nothing: each overflowing one adds `count`, and so does a
    last one that finds the lease gone -/
theorem getTSLoop_cases (s : St) (m count fuel : Nat) :
    ∃ l, (s.mems m).logical ≤ l ∧
      ((∃ o, o.isTs = false ∧ getTSLoop s m count fuel = (s.setMem m { s.mems m with logical := l }, o)) ∨
       (∃ p, (s.mems m).lease = true ∧ (s.mems m).phys = some p ∧
          (l + count) * 2 ^ s.cfg.bits + s.cfg.suffix < s.cfg.maxLogical ∧
          getTSLoop s m count fuel = granted s m l count p)) := by
  induction fuel generalizing s with
  | zero => exact ⟨_, Nat.le_refl _, .inl ⟨_, rfl, by rw [setMem_self]; rfl⟩⟩
  | succ fuel ih =>
    rcases Option.eq_none_or_eq_some (s.mems m).phys with hp | ⟨p, hp⟩
    · rcases Bool.eq_false_or_eq_true (s.mems m).lease with hl | hl
      · have : getTSLoop s m count (fuel + 1) = getTSLoop s m count fuel := by
          simp only [getTSLoop, hp, hl, if_pos]
        rw [this]; exact ih s
      · refine ⟨_, Nat.le_refl _, .inl ⟨.errUninit, rfl, ?_⟩⟩
        rw [setMem_self]; simp only [getTSLoop, hp, hl]; rfl
    · by_cases hov : ((s.mems m).logical + count) * 2 ^ s.cfg.bits + s.cfg.suffix ≥ s.cfg.maxLogical
      · have : getTSLoop s m count (fuel + 1) =
            getTSLoop (s.setMem m { s.mems m with logical := (s.mems m).logical + count }) m count fuel := by
          simp only [getTSLoop, hp, if_pos hov]
        obtain ⟨l, hl, h⟩ := ih (s.setMem m { s.mems m with logical := (s.mems m).logical + count })
        simp only [granted, setMem_mems_self, setMem_setMem, setMem_cfg, setMem_stored, setMem_grants] at hl h
        rw [this]
        exact ⟨l, Nat.le_trans (Nat.le_add_right ..) hl, h⟩
      · rcases Bool.eq_false_or_eq_true (s.mems m).lease with hl | hl
        · refine ⟨_, Nat.le_refl _, .inr ⟨p, hl, hp, Nat.lt_of_not_ge hov, ?_⟩⟩
          simp only [granted, getTSLoop, hp, if_neg hov, hl]; rfl
        · refine ⟨_, Nat.le_add_right _ count, .inl ⟨.errNotLeader, rfl, ?_⟩⟩
          simp only [getTSLoop, hp, if_neg hov, hl]; rfl

theorem getTSLoop_stored (s : St) (m count fuel : Nat) : (getTSLoop s m count fuel).1.stored = s.stored := by
  obtain ⟨l, _, ⟨o, _, e⟩ | ⟨p, _, _, _, e⟩⟩ := getTSLoop_cases s m count fuel <;> rw [e] <;> rfl

/-- the retry loop of `getTS` is the iteration of single attempts (`Op.tryTS`): between two attempts the
    caller only sleeps, so a history may interleave anything there -/
theorem getTSLoop_succ (s : St) (m count n : Nat) :
    getTSLoop s m count (n + 1) =
      (if (getTSLoop s m count 1).2 = .errExceeded then getTSLoop (getTSLoop s m count 1).1 m count n
       else getTSLoop s m count 1) := by
  cases hph : (s.mems m).phys with
  | none =>
    cases hl : (s.mems m).lease <;> simp [getTSLoop, hph, hl]
  | some p =>
    by_cases hov : ((s.mems m).logical + count) * 2 ^ s.cfg.bits + s.cfg.suffix ≥ s.cfg.maxLogical
    · simp [getTSLoop, hph, hov]
    · cases hl : (s.mems m).lease <;> simp [getTSLoop, hph, hov, hl]

end PdModel.Tso
