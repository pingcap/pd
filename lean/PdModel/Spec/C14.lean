import PdModel.Prelude.ListFacts
import PdModel.Prelude.StoreCfgMap
/-
C14 – "Store lifecycle is a one-way state machine and stays durable", stated over what can be observed
from outside: before and after every operation the served store records (`GetStores`, with weights and
the number of region peers the store holds) and the stored ones (`LoadStores` + the weight keys), the
kind of the operation, whether it reported success, and which store writes the storage refused.
No implementation identifiers.  `checkStep` is the executable form of `StepOk` that the monitor runs on the
implementation's own observations; `checkStep_iff` says that it decides the property.
-/
namespace PdModel.Spec.C14
open PdModel.AMap

inductive Life where
  | up | offline | tombstone
  deriving DecidableEq, Repr, Inhabited

/-- a store record as a client / an operator sees it -/
structure Rec where
  addr      : String
  state     : Life
  destroyed : Bool                 -- "declared physically destroyed"
  version   : Nat × Nat × Nat
  start     : Nat
  labels    : List (String × String)
  deriving DecidableEq, Repr, Inhabited

/-- served: record, balance weights (fixed point), region peers held -/
structure SRec where
  rec_    : Rec
  lw      : Nat
  rw      : Nat
  regions : Nat
  deriving DecidableEq, Repr, Inhabited

/-- stored: record and the weight keys (absent = none) -/
structure DRec where
  rec_ : Rec
  lw   : Option Nat
  rw   : Option Nat
  deriving DecidableEq, Repr, Inhabited

structure Obs where
  served : AMap SRec := []
  stored : AMap DRec := []
  deriving Repr, Inhabited

inductive Kind where
  | rpcPut (id : Nat)         -- registration through the RPC
  | rpcHeartbeat (id : Nat)   -- store heartbeat through the RPC
  | weight (id : Nat)         -- weight update of one store
  | sweep                     -- tombstone clean-up (several stores, stops at the first refused write)
  | directBury                -- the burying routine entered directly (by-passing the background check)
  | other
  deriving DecidableEq, Repr, Inhabited

structure Step where
  kind    : Kind
  pre     : Obs
  post    : Obs
  ok      : Bool            -- the operation reported success
  refused : Bool            -- the RPC answered "store is tombstone"
  crashed : Bool := false   -- the operation did not return (the handler panicked)
  failed  : List Nat        -- ids of the stores whose write the storage refused during the operation
  deriving Repr, Inhabited

def liveRec (r : Rec) : Bool := r.state != .tombstone && !r.destroyed

/-- allowed change of one store's record across one operation -/
def fwd (a b : Rec) : Bool :=
  (a.state != .tombstone || b.state == .tombstone) &&          -- tombstone is absorbing
  (a.state != .up || b.state != .tombstone) &&                 -- up is left through offline only
  (!(a.state == .offline && b.state == .up) || !a.destroyed) && -- back to up unless destroyed
  (!a.destroyed || b.destroyed)                                 -- the declaration is permanent

theorem fwd_iff (a b : Rec) : fwd a b = true ↔
    (a.state = .tombstone → b.state = .tombstone) ∧ (b.state = .tombstone → a.state ≠ .up) ∧
    (a.destroyed = true → ¬(a.state = .offline ∧ b.state = .up)) ∧ (a.destroyed = true → b.destroyed = true) := by
  simp only [fwd, Bool.and_eq_true, Bool.or_eq_true, bne_iff_ne, beq_iff_eq, Bool.not_eq_eq_eq_not, Bool.not_true, ne_eq,
    and_assoc, ← Bool.not_eq_true, ← Decidable.imp_iff_not_or, ← Decidable.imp_iff_or_not]

/-- same record and weights (region bookkeeping aside) -/
def sameServed (a b : Option SRec) : Bool :=
  match a, b with
  | none, none => true
  | some x, some y => x.rec_ == y.rec_ && x.lw == y.lw && x.rw == y.rw
  | _, _ => false

def targetOf : Kind → Option Nat
  | .rpcPut id => some id
  | .rpcHeartbeat id => some id
  | _ => none

/-- the state moves only forward; a record disappears only as a tombstone -/
def Forward (s : Step) : Prop :=
  ∀ (id : Nat) (a : SRec), get s.pre.served id = some a →
    match get s.post.served id with
    | some b => fwd a.rec_ b.rec_ = true
    | none => a.rec_.state = .tombstone

/-- the stored records move only forward as well: what is stored decides what a new leader serves -/
def StoredForward (s : Step) : Prop :=
  ∀ (id : Nat) (a : DRec), get s.pre.stored id = some a →
    match get s.post.stored id with
    | some b => fwd a.rec_ b.rec_ = true
    | none => a.rec_.state = .tombstone

/-- heartbeats and re-registrations of a tombstone store are refused and change nothing -/
def TombstoneRefused (s : Step) : Prop :=
  ∀ (id : Nat) (a : SRec), targetOf s.kind = some id → get s.pre.served id = some a → a.rec_.state = .tombstone →
    s.refused = true ∧ s.ok = false ∧
    (∀ j, get s.post.served j = get s.pre.served j) ∧ (∀ j, get s.post.stored j = get s.pre.stored j)

/-- a store is buried only while it holds no region peers -/
def BuryOnlyEmpty (s : Step) : Prop :=
  s.kind ≠ .directBury →
  ∀ (id : Nat) (a b : SRec), get s.pre.served id = some a → get s.post.served id = some b →
    a.rec_.state ≠ .tombstone → b.rec_.state = .tombstone → a.regions = 0

/-- stores that are neither tombstone nor destroyed have pairwise different addresses -/
def AddressesUnique (o : Obs) : Prop :=
  ∀ (i j : Nat) (a b : SRec), get o.served i = some a → get o.served j = some b → i ≠ j →
    liveRec a.rec_ = true → liveRec b.rec_ = true → a.rec_.addr ≠ b.rec_.addr

/-- after a successful operation stored = served (and the weight keys after a weight update) -/
def Durable (s : Step) : Prop :=
  s.ok = true →
    (∀ id, (get s.post.stored id).map (·.rec_) = (get s.post.served id).map (·.rec_)) ∧
    (∀ id, s.kind = .weight id → ∀ a, get s.post.served id = some a →
      ∃ d, get s.post.stored id = some d ∧ d.lw = some a.lw ∧ d.rw = some a.rw)

/-- a refused write leaves the served record of that store as it was; an operation on one store that
    reports failure leaves every served record as it was -/
def FailedUnchanged (s : Step) : Prop :=
  (∀ id ∈ s.failed, sameServed (get s.pre.served id) (get s.post.served id) = true) ∧
  (s.ok = false → s.kind ≠ .sweep → ∀ id, sameServed (get s.pre.served id) (get s.post.served id) = true)

/-- the property for one observed operation -/
structure StepOk (s : Step) : Prop where
  completes : s.crashed = false
  forward   : Forward s
  storedFwd : StoredForward s
  refused   : TombstoneRefused s
  bury      : BuryOnlyEmpty s
  addresses : AddressesUnique s.post
  durable   : Durable s
  failed    : FailedUnchanged s

/-- the property for a history -/
def Holds (steps : List Step) : Prop := ∀ s ∈ steps, StepOk s

def ids (s : Step) : List Nat :=
  keys s.pre.served ++ keys s.post.served ++ keys s.pre.stored ++ keys s.post.stored

def checkForward (s : Step) : Bool :=
  allGet s.pre.served (fun id a =>
    match get s.post.served id with
    | some b => fwd a.rec_ b.rec_
    | none => a.rec_.state == .tombstone)

def checkStoredForward (s : Step) : Bool :=
  allGet s.pre.stored (fun id a =>
    match get s.post.stored id with
    | some b => fwd a.rec_ b.rec_
    | none => a.rec_.state == .tombstone)

def refusedAt (s : Step) (id : Nat) : Bool :=
  match get s.pre.served id with
  | none => true
  | some a =>
    a.rec_.state != .tombstone ||
    (s.refused && !s.ok &&
      (ids s).all (fun j => get s.post.served j == get s.pre.served j && get s.post.stored j == get s.pre.stored j))

def checkRefused (s : Step) : Bool :=
  match targetOf s.kind with
  | none => true
  | some id => refusedAt s id

def checkBury (s : Step) : Bool :=
  s.kind == .directBury ||
  allGet s.pre.served (fun id a =>
    match get s.post.served id with
    | some b => a.rec_.state == .tombstone || b.rec_.state != .tombstone || a.regions == 0
    | none => true)

def checkAddresses (o : Obs) : Bool :=
  allGet o.served (fun i a => allGet o.served (fun j b =>
    i == j || !liveRec a.rec_ || !liveRec b.rec_ || a.rec_.addr != b.rec_.addr))

def checkDurable (s : Step) : Bool :=
  !s.ok ||
  ((ids s).all (fun id => (get s.post.stored id).map (·.rec_) == (get s.post.served id).map (·.rec_)) &&
   (match s.kind with
    | .weight id =>
      match get s.post.served id with
      | none => true
      | some a => match get s.post.stored id with
        | none => false
        | some d => d.lw == some a.lw && d.rw == some a.rw
    | _ => true))

def checkFailed (s : Step) : Bool :=
  s.failed.all (fun id => sameServed (get s.pre.served id) (get s.post.served id)) &&
  (s.ok || s.kind == .sweep || (ids s).all (fun id => sameServed (get s.pre.served id) (get s.post.served id)))

def checkStep (s : Step) : Bool :=
  !s.crashed && checkForward s && checkStoredForward s && checkRefused s && checkBury s && checkAddresses s.post && checkDurable s && checkFailed s

/-- names of the violated conjuncts (for the monitor's `sig=`) -/
def violated (s : Step) : List String :=
  (if s.crashed then ["operation-panicked"] else []) ++
  (if checkForward s then [] else ["state-moved-backwards"]) ++
  (if checkStoredForward s then [] else ["stored-state-moved-backwards"]) ++
  (if checkRefused s then [] else ["tombstone-not-refused"]) ++
  (if checkBury s then [] else ["buried-with-regions"]) ++
  (if checkAddresses s.post then [] else ["live-address-shared"]) ++
  (if checkDurable s then [] else ["stored-differs-from-served"]) ++
  (if checkFailed s then [] else ["failed-write-changed-served"])

theorem get_none_of_not_mem_ids (s : Step) (j : Nat) (h : j ∉ ids s) :
    get s.pre.served j = none ∧ get s.post.served j = none ∧ get s.pre.stored j = none ∧ get s.post.stored j = none := by
  simp only [ids, List.mem_append, not_or] at h
  exact ⟨get_none_of_not_mem_keys h.1.1.1, get_none_of_not_mem_keys h.1.1.2,
    get_none_of_not_mem_keys h.1.2, get_none_of_not_mem_keys h.2⟩

theorem all_ids_iff (s : Step) (p : Nat → Bool)
    (hp : ∀ j, get s.pre.served j = none → get s.post.served j = none → get s.pre.stored j = none →
      get s.post.stored j = none → p j = true) :
    (ids s).all p = true ↔ ∀ j, p j = true := by
  rw [List.all_eq_true]
  refine Iff.symm (forall_iff_forall_mem fun j hj => ?_)
  obtain ⟨h1, h2, h3, h4⟩ := get_none_of_not_mem_ids s j fun h => hj j h rfl
  exact hp j h1 h2 h3 h4

theorem checkForward_iff (s : Step) : checkForward s = true ↔ Forward s := by
  unfold checkForward Forward
  refine allGet_iff_of _ _ _ fun id a => ?_
  cases get s.post.served id with
  | none => exact beq_iff_eq
  | some b => exact Iff.rfl

theorem checkStoredForward_iff (s : Step) : checkStoredForward s = true ↔ StoredForward s := by
  unfold checkStoredForward StoredForward
  refine allGet_iff_of _ _ _ fun id a => ?_
  cases get s.post.stored id with
  | none => exact beq_iff_eq
  | some b => exact Iff.rfl

theorem checkRefused_iff (s : Step) : checkRefused s = true ↔ TombstoneRefused s := by
  unfold checkRefused TombstoneRefused
  cases targetOf s.kind with
  | none => exact ⟨fun _ _ _ h => (nomatch h), fun _ => rfl⟩
  | some id =>
    show refusedAt s id = true ↔ _
    unfold refusedAt
    cases ha : get s.pre.served id with
    | none => exact ⟨fun _ id' a' hid ha' => (by cases hid; exact nomatch ha.symm.trans ha'), fun _ => rfl⟩
    | some a =>
      rw [or_eq_true_imp, bne_eq_false_iff_eq, Bool.and_eq_true, Bool.and_eq_true, Bool.not_eq_true',
        all_ids_iff s _ (fun j h1 h2 h3 h4 => by rw [h1, h2, h3, h4]; rfl)]
      simp only [Bool.and_eq_true, beq_iff_eq]
      constructor
      · intro h id' a' hid ha' hst
        cases hid; cases ha.symm.trans ha'
        obtain ⟨⟨hr, hok⟩, hall⟩ := h hst
        exact ⟨hr, hok, fun j => (hall j).1, fun j => (hall j).2⟩
      · intro h hst
        obtain ⟨hr, hok, h1, h2⟩ := h id a rfl ha hst
        exact ⟨⟨hr, hok⟩, fun j => ⟨h1 j, h2 j⟩⟩

theorem checkBury_iff (s : Step) : checkBury s = true ↔ BuryOnlyEmpty s := by
  unfold checkBury BuryOnlyEmpty
  rw [or_eq_true_imp, beq_eq_false_iff_ne,
    allGet_iff_of _ _ (fun id a => ∀ b, get s.post.served id = some b →
      a.rec_.state ≠ .tombstone → b.rec_.state = .tombstone → a.regions = 0)]
  · exact imp_congr_right fun _ => ⟨fun h id a b ha => h id a ha b, fun h id a ha b => h id a b ha⟩
  · intro id a
    cases get s.post.served id with
    | none => exact ⟨fun _ _ => nofun, fun _ => rfl⟩
    | some b =>
      simp only [or_eq_true_imp, Bool.or_eq_false_iff, and_imp, beq_eq_false_iff_ne, bne_eq_false_iff_eq, beq_iff_eq,
        Option.some.injEq, forall_eq', ne_eq]

theorem checkAddresses_iff (o : Obs) : checkAddresses o = true ↔ AddressesUnique o := by
  unfold checkAddresses AddressesUnique
  simp only [allGet_iff, or_eq_true_imp, Bool.or_eq_false_iff, and_imp, beq_eq_false_iff_ne, Bool.not_eq_false',
    bne_iff_ne, ne_eq]
  exact ⟨fun h i j a b ha hb => h i a ha j b hb, fun h i a ha j b hb => h i j a b ha hb⟩

theorem checkDurable_iff (s : Step) : checkDurable s = true ↔ Durable s := by
  unfold checkDurable Durable
  rw [or_eq_true_imp, Bool.not_eq_false', Bool.and_eq_true, all_ids_iff s _ (fun j _ h2 _ h4 => by rw [h2, h4]; rfl)]
  simp only [beq_iff_eq]
  refine imp_congr_right fun _ => and_congr_right fun _ => ?_
  cases s.kind with
  | weight id =>
    dsimp only
    constructor
    · intro h id' hid a ha
      cases hid
      rw [ha] at h
      cases hd : get s.post.stored id with
      | none => rw [hd] at h; cases h
      | some d =>
        simp only [hd, Bool.and_eq_true, beq_iff_eq] at h
        exact ⟨d, rfl, h.1, h.2⟩
    · intro h
      cases ha : get s.post.served id with
      | none => rfl
      | some a =>
        obtain ⟨d, hd, h1, h2⟩ := h id rfl a ha
        show (match get s.post.stored id with
          | none => false
          | some d => d.lw == some a.lw && d.rw == some a.rw) = true
        rw [hd]
        exact Bool.and_eq_true_iff.2 ⟨beq_iff_eq.2 h1, beq_iff_eq.2 h2⟩
  | _ => exact ⟨fun _ _ h => (nomatch h), fun _ => rfl⟩

theorem checkFailed_iff (s : Step) : checkFailed s = true ↔ FailedUnchanged s := by
  unfold checkFailed FailedUnchanged
  rw [Bool.and_eq_true, List.all_eq_true, or_eq_true_imp, Bool.or_eq_false_iff, and_imp, beq_eq_false_iff_ne,
    all_ids_iff s _ (fun j h1 h2 _ _ => by rw [h1, h2]; rfl)]

theorem checkStep_iff (s : Step) : checkStep s = true ↔ StepOk s := by
  unfold checkStep
  simp only [Bool.and_eq_true, checkForward_iff, checkStoredForward_iff, checkRefused_iff, checkBury_iff, checkAddresses_iff,
    checkDurable_iff, checkFailed_iff, Bool.not_eq_true']
  constructor
  · rintro ⟨⟨⟨⟨⟨⟨⟨h0, h1⟩, h1'⟩, h2⟩, h3⟩, h4⟩, h5⟩, h6⟩; exact ⟨h0, h1, h1', h2, h3, h4, h5, h6⟩
  · rintro ⟨h0, h1, h1', h2, h3, h4, h5, h6⟩; exact ⟨⟨⟨⟨⟨⟨⟨h0, h1⟩, h1'⟩, h2⟩, h3⟩, h4⟩, h5⟩, h6⟩

def check (steps : List Step) : Bool := steps.all checkStep

theorem check_iff (steps : List Step) : check steps = true ↔ Holds steps := by
  unfold check Holds
  simp only [List.all_eq_true, checkStep_iff]

end PdModel.Spec.C14
