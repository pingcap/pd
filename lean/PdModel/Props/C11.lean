import PdModel.Lemmas.Scatter
import PdModel.Generated.Scatter
/-!
Region scatter (`plan true` = the repaired `scatterRegion`): for every history of the counters, every
store order, every Go map iteration order of the peer loops and of the leader loop, every verdict of the
placement safeguard and every cluster.  Well-formedness assumed: one peer per store in the region; the
iteration orders visit every peer exactly once.
Schedulers: one theorem per kind of call site, instantiated by the list of call sites and guarding
filters extracted from the source (`scheduler_sites_guarded`).
-/
namespace PdModel.Scatter
open PdModel.Spec.C10 PdModel.Filters PdModel.Spec

/-- the iteration orders visit every peer of the region exactly once -/
def OrdersOK (r : Region) (ch : Choices) : Prop :=
  (ch.order.filterMap r.storePeer ++ ch.sorder.filterMap r.storePeer).Perm r.peers

theorem plan_inv (o : Opts) (stores : List Store) (s : State) (r : Region) (group : String) (ch : Choices)
    (hr : r.stores.Nodup) (hord : OrdersOK r ch) :
    ∃ sel, Inv o (ch.storeOrder.filterMap (findStore stores)) r
      (ch.order.filterMap r.storePeer ++ ch.sorder.filterMap r.storePeer) []
      ((plan true o stores s r group ch).1.targets, sel) := by
  have inv0 : Inv o (ch.storeOrder.filterMap (findStore stores)) r []
      (ch.order.filterMap r.storePeer ++ ch.sorder.filterMap r.storePeer) ([], []) :=
    ⟨nofun, rfl, ((hord.map _).nodup_iff).2 hr, rfl, nofun, fun p hp => hord.subset hp⟩
  have inv1 := scatterGroup_inv group s.ordinary false ch.guard inv0
  -- the TiFlash peers were still to come during the first loop; nothing is after the second
  rw [← List.append_nil (ch.sorder.filterMap r.storePeer), List.nil_append] at inv1
  exact ⟨_, scatterGroup_inv group _ true ch.guard inv1⟩

/-- The placement region scatter asks for has exactly one entry per peer of the region, on pairwise
    different stores, with the same roles: the same number of peers of each role, at most one per store. -/
theorem scatter_preserves_counts (o : Opts) (stores : List Store) (s : State) (r : Region) (group : String)
    (ch : Choices) (hr : r.stores.Nodup) (hord : OrdersOK r ch) :
    let q := (plan true o stores s r group ch).1
    (q.targets.map (·.1)).Nodup ∧ (∀ e ∈ q.targets, e.2.store = e.1) ∧
    (q.targets.map (·.2.role)).Perm (r.peers.map (·.role)) ∧
    (q.targets.filter (fun e => !e.2.isLearner)).length = r.voters.length ∧
    (q.targets.filter (fun e => e.2.isLearner)).length = r.learners.length := by
  intro q
  obtain ⟨_, inv⟩ := plan_inv o stores s r group ch hr hord
  have hperm : (q.targets.map (·.2.role)).Perm (r.peers.map (·.role)) := inv.roles ▸ hord.map _
  have hnd := inv.nodup
  rw [List.map_nil, List.append_nil, inv.selEq] at hnd
  exact ⟨hnd, inv.keyed, hperm, length_filter_role hperm (fun k => !(k == 1)),
    length_filter_role hperm (· == 1)⟩

/-- Every entry of the requested placement is a peer that stays where it is, or a new peer on a store
    that holds no peer of the region and is up, not down, connected and not busy (the scatter state
    filter, read off the extracted condition table). -/
theorem scatter_targets_good (o : Opts) (stores : List Store) (s : State) (r : Region) (group : String)
    (ch : Choices) (hr : r.stores.Nodup) (hord : OrdersOK r ch) :
    ∀ e ∈ (plan true o stores s r group ch).1.targets,
      e.2 ∈ r.peers ∨
      (e.1 ∉ r.stores ∧ ∃ st ∈ stores, st.id = e.1 ∧ st.state = 0 ∧ st.downSecs < o.conf.maxDownSecs ∧
        st.downSecs < o.conf.disconnectSecs ∧ st.busy = false) := by
  intro e he
  obtain ⟨_, inv⟩ := plan_inv o stores s r group ch hr hord
  rcases inv.ok e he with h | ⟨hout, st, hst, hid, hssf⟩
  · exact Or.inl h
  · obtain ⟨i, _, hf⟩ := List.mem_filterMap.1 hst
    exact Or.inr ⟨hout, st, (PdModel.Checkers.findStore_id hf).2, hid, scatterTarget_sound hssf⟩

/-- When an operator is built, the requested leader is a voter of the requested placement. -/
theorem scatter_leader_voter (r : Region) (q : Request) (h : requestValid r q = true) :
    ∃ e ∈ q.targets, e.1 = q.leader ∧ e.2.isLearner = false := by
  unfold requestValid at h
  simp only [Bool.and_eq_true] at h
  obtain ⟨h1, _⟩ := h
  split at h1
  · next e he =>
    refine ⟨e, List.mem_of_find?_eq_some he, ?_, by simpa using h1⟩
    simpa using List.find?_some he
  · cases h1

/-! The defect F4 on the unrepaired code (`excludeOthers = false`): stores 1, 2, 3 hold the region,
    stores 3 and 4 are offline.  The peer on the offline store 3 is visited first and is sent to store 1
    (which still holds a peer); the peer on store 1 then goes to store 2 (which still holds a peer); the
    peer on store 2 finds no candidate and stays – its entry overwrites the one of the peer that was
    sent there: the request has two entries for three peers and the operator only removes a replica. -/
def f4Stores : List Store :=
  [{ id := 1 }, { id := 2 }, { id := 3, state := 1 }, { id := 4, state := 1 }]

def f4Region : Region :=
  { peers := [{ id := 101, store := 1 }, { id := 102, store := 2 }, { id := 103, store := 3 }], leader := 101 }

def f4Choices : Choices :=
  { storeOrder := [1, 2, 3, 4], guard := fun _ _ => true, order := [3, 1, 2], sorder := [], lorder := [1, 2] }

/-- without the repair two peers are sent to one store and the request forgets a replica … -/
theorem scatter_counterexample :
    ((plan false {} f4Stores {} f4Region "g" f4Choices).1.targets.map (·.1)) = [1, 2] := by decide

/-- … which the repaired code does not do on the same input -/
example : ((plan true {} f4Stores {} f4Region "g" f4Choices).1.targets.map (·.1)).length = 3 := by decide

/-! The defect F24 (open): `selectAvailableLeaderStores` looks at the leader counters only – not at the
    store state, the pause flag or the reject-leader property – and the forced target leader gets past the
    builder's own check.  Witness: nobody can move (every store holds a peer), store 3 does not take leaders
    and is visited first by the leader loop. -/
def f24Stores : List Store := [{ id := 1 }, { id := 2 }, { id := 3, pauseLeader := true }]

def f24Choices : Choices :=
  { storeOrder := [1, 2, 3], guard := fun _ _ => true, order := [1, 2, 3], sorder := [], lorder := [3, 1, 2] }

/-- region scatter asks for a leader on a store that does not accept leaders, and the request is one the
    builder does not refuse -/
theorem scatter_leader_counterexample :
    requestValid f4Region (plan true {} f24Stores {} f4Region "g" f24Choices).1 = true ∧
    (plan true {} f24Stores {} f4Region "g" f24Choices).1.leader = 3 ∧
    C11.acceptsLeader { conf := {}, stores := f24Stores, region := f4Region } 3 = false := by decide

/-- non-vacuity: the hypotheses of the scatter theorems hold on the F4 witness -/
example : f4Region.stores.Nodup ∧ OrdersOK f4Region f4Choices := by
  constructor
  · decide
  · unfold OrdersOK; decide

/-- Replacing the peer on `old` by a new peer of the same role on a store that passed
    `ExcludedFilter(region stores)` and the *strict* `StoreState{MoveRegion}` (no `AllowTemporaryStates`:
    the target is also connected) – the filters present at every move-peer call site – satisfies C11,
    source ≠ target included. -/
theorem move_peer_preserves (x : C11.Input) (o : Opts) (old : Nat) (p0 : Peer) (t : Store)
    (hconf : x.conf = o.conf) (hnd : (x.stores.map (·.id)).Nodup) (hrn : x.region.stores.Nodup)
    (hp0 : p0 ∈ x.region.peers) (hold : p0.store = old) (hm : t ∈ x.stores)
    (hex : excludedTarget x.region.stores t = true)
    (hssf : ({ moveRegion := true } : SSF).target o t = true) :
    C11.Holds x [.add t.id (if p0.isLearner then 1 else 0), .remove old] := by
  obtain ⟨h0, h1, h2, _⟩ := PdModel.Checkers.regionTarget_strict o t hssf
  refine hold ▸ holds_move hrn hp0 (by cases p0.isLearner <;> rfl) (by simpa [excludedTarget] using hex) ?_
  simp [C11.upStore, PdModel.Checkers.findStore_of_mem hnd hm, Store.isUp, Store.notDown, Store.connected, h0, hconf, h1, h2]

/-- Handing the leadership to the voter on a store other than the leader's that passed
    `StoreState{TransferLeader}` – the filter at every unforced transfer-leader call site – satisfies C11,
    source ≠ target included. -/
theorem transfer_leader_to_voter (x : C11.Input) (o : Opts) (p : Peer) (t : Store)
    (hconf : x.conf = o.conf) (hrej : x.rejectLeader = o.rejectLeader) (hforced : x.forced = false)
    (hnd : (x.stores.map (·.id)).Nodup) (hm : t ∈ x.stores)
    (hp : x.region.storePeer t.id = some p) (hvoter : p.isLearner = false) (hne : x.region.leaderStore ≠ t.id)
    (hssf : ({ transferLeader := true } : SSF).target o t = true) :
    C11.Holds x [.transfer t.id] := by
  obtain ⟨h0, h1, h3, h10⟩ := leaderTarget_sound hssf
  refine holds_transfer (transferOK_of hp hvoter hne ?_)
  simp only [C11.acceptsLeader, PdModel.Checkers.findStore_of_mem hnd hm, hforced, Store.isUp, Store.notDown, hconf,
    hrej, h0, decide_eq_true h1, h3, h10]
  rfl

/-- the forced variant (grant-leader only): the target is the follower on the store the administrator
    configured; it is accepted as soon as that store exists and is no tombstone -/
theorem forced_transfer_ok (x : C11.Input) (p : Peer) (t : Store) (hforced : x.forced = true)
    (hnd : (x.stores.map (·.id)).Nodup) (hm : t ∈ x.stores) (hst : t.state < 2)
    (hp : x.region.storePeer t.id = some p) (hvoter : p.isLearner = false) (hne : x.region.leaderStore ≠ t.id) :
    C11.Holds x [.transfer t.id] := by
  refine holds_transfer (transferOK_of hp hvoter hne ?_)
  simp [C11.acceptsLeader, PdModel.Checkers.findStore_of_mem hnd hm, hforced, hst]

def movePeerCreators : List String := ["CreateMovePeerOperator", "CreateMoveLeaderOperator"]

/-- every scheduler call site that moves a peer has `ExcludedFilter(region stores)` and
    `StoreState{MoveRegion}` in front of its target (hypotheses of `move_peer_preserves`); every unforced
    transfer-leader site has `StoreState{TransferLeader}` (`transfer_leader_to_voter`); grant-leader is the
    only forced one; region scatter carries the F4 repair; and the sites are exactly these -/
theorem scheduler_sites_guarded :
    (PdModel.Generated.Scatter.schedulerSites.all (fun cs =>
      (!(movePeerCreators.contains cs.2.1) ||
        (cs.2.2.contains "ExcludedFilter(regionStores)" && cs.2.2.contains "StoreState{MoveRegion}")) &&
      (!(cs.2.1 == "CreateTransferLeaderOperator") || cs.2.2.contains "StoreState{TransferLeader}") &&
      (!(cs.2.1 == "CreateForceTransferLeaderOperator") ||
        cs.1 == "server/schedulers/grant_leader.go:grantLeaderScheduler.Schedule") &&
      (!(cs.2.1 == "CreateScatterRegionOperator") ||
        (cs.2.2.contains "ExcludedFilter(selectedStores)" && cs.2.2.contains "ExcludedFilter(otherStores)" &&
         cs.2.2.contains "StoreState{MoveRegion,ScatterRegion}")))) = true ∧
    PdModel.Generated.Scatter.schedulerSites.map (fun cs => (cs.1, cs.2.1)) =
      [("server/schedule/region_scatterer.go:RegionScatterer.scatterRegion", "CreateScatterRegionOperator"),
       ("server/schedule/region_splitter.go:splitRegionsHandler.SplitRegionByKeys", "CreateSplitRegionOperator"),
       ("server/schedulers/balance_leader.go:balanceLeaderScheduler.createOperator", "CreateTransferLeaderOperator"),
       ("server/schedulers/balance_region.go:balanceRegionScheduler.transferPeer", "CreateMovePeerOperator"),
       ("server/schedulers/evict_leader.go:evictLeaderScheduler.scheduleOnce", "CreateTransferLeaderOperator"),
       ("server/schedulers/grant_leader.go:grantLeaderScheduler.Schedule", "CreateForceTransferLeaderOperator"),
       ("server/schedulers/hot_region.go:balanceSolver.buildOperator", "CreateMoveLeaderOperator"),
       ("server/schedulers/hot_region.go:balanceSolver.buildOperator", "CreateMovePeerOperator"),
       ("server/schedulers/hot_region.go:balanceSolver.buildOperator", "CreateTransferLeaderOperator"),
       ("server/schedulers/label.go:labelScheduler.Schedule", "CreateTransferLeaderOperator"),
       ("server/schedulers/random_merge.go:randomMergeScheduler.Schedule", "CreateMergeRegionOperator"),
       ("server/schedulers/shuffle_hot_region.go:shuffleHotRegionScheduler.randomSchedule", "CreateMoveLeaderOperator"),
       ("server/schedulers/shuffle_leader.go:shuffleLeaderScheduler.Schedule", "CreateTransferLeaderOperator"),
       ("server/schedulers/shuffle_region.go:shuffleRegionScheduler.Schedule", "CreateMovePeerOperator")] :=
  -- The list of sites is compared literal against literal by unfolding `List.map`; the `DecidableEq`
  -- instance would instead walk the UTF-8 bytes of each of the 28 strings against itself.  The filter
  -- conditions do compare different strings, so they are run, by the kernel only.
  ⟨by decide +kernel, rfl⟩

/-- the set excluded by the F4 repair is built from *all* peers of the region (`region.GetPeers()`),
    as `candidates` models it – not only from the voters -/
theorem scatter_excludes_every_other_peer :
    PdModel.Generated.Scatter.scatterExcludesEveryOtherPeer = true := by decide

end PdModel.Scatter
