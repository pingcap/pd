import PdModel.Lemmas.Builder
/-! The joint transition in the abstract: for peers `S`, target `T` and promote / demote items satisfying
    `JointCtx`, enter – transfer – leave in the three orders the builder uses, followed by the removals,
    is safe and reaches the target. -/
namespace PdModel.Builder
open PdModel.Steps PdModel.Spec PdModel.Spec.C08

/-- what the joint-consensus builder knows when it enters the joint state: `S` = current peers
    (origin + added learners), `T` = target peers, `P`/`D` = the promote / demote items -/
structure JointCtx (S T : List Peer) (P D : List Item) : Prop where
  nodupS : (stores S).Nodup
  plainS : plainRoles S
  nodupT : (stores T).Nodup
  plainT : plainRoles T
  subT   : ∀ n ∈ T, n.store ∈ stores S
  pMem   : ∀ p ∈ S, (inItems P p.store = true ↔ (p.role = .learner ∧ finV T p.store = true))
  dMem   : ∀ p ∈ S, (inItems D p.store = true ↔ (p.role = .voter ∧ finV T p.store = false))
  pIn    : ∀ it ∈ P, ∃ p ∈ S, p.store = it.store ∧ p.id = it.id
  dIn    : ∀ it ∈ D, ∃ p ∈ S, p.store = it.store ∧ p.id = it.id
  nodupP : (P.map (·.store)).Nodup
  nodupD : (D.map (·.store)).Nodup

section
variable {S T : List Peer} {P D : List Item}

theorem enterF_role (h : JointCtx S T P D) {p : Peer} (hp : p ∈ S) :
    (enterF P D p).role =
      if finV T p.store then (if p.role = .learner then .incoming else .voter)
      else (if p.role = .voter then .demoting else .learner) := by
  unfold enterF
  simp only [h.pMem p hp, h.dMem p hp]
  rcases h.plainS p hp with e | e <;> cases hf : finV T p.store <;> simp [e]

theorem leave_enter_role (h : JointCtx S T P D) {p : Peer} (hp : p ∈ S) :
    (leaveF (enterF P D p)).role = if finV T p.store then .voter else .learner := by
  simp only [leaveF, enterF_role h hp]
  rcases h.plainS p hp with e | e <;> cases hf : finV T p.store <;> simp [e, leaveRole]

theorem itemP_peer (h : JointCtx S T P D) {it : Item} (hit : it ∈ P) :
    ∃ p, pmGet S it.store = some p ∧ p.id = it.id ∧ p.role = .learner ∧ finV T p.store = true := by
  obtain ⟨p, hp, hs, hid⟩ := h.pIn it hit
  have := (h.pMem p hp).1 (inItems_iff.2 ⟨it, hit, hs.symm⟩)
  exact ⟨p, hs ▸ pmGet_of_mem h.nodupS hp, hid, this.1, this.2⟩

theorem itemD_peer (h : JointCtx S T P D) {it : Item} (hit : it ∈ D) :
    ∃ p, pmGet S it.store = some p ∧ p.id = it.id ∧ p.role = .voter ∧ finV T p.store = false := by
  obtain ⟨p, hp, hs, hid⟩ := h.dIn it hit
  have := (h.dMem p hp).1 (inItems_iff.2 ⟨it, hit, hs.symm⟩)
  exact ⟨p, hs ▸ pmGet_of_mem h.nodupS hp, hid, this.1, this.2⟩

theorem old_after_enter (h : JointCtx S T P D) (x : Nat) :
    oldVoters ⟨S.map (enterF P D), x⟩ = votersOf S := by
  simp only [oldVoters, votersOf, List.countP_map]
  apply List.countP_congr
  intro p hp
  simp only [Function.comp, enterF_role h hp]
  rcases h.plainS p hp with e | e <;> cases hf : finV T p.store <;> simp [e]

theorem new_after_enter (h : JointCtx S T P D) (x : Nat) :
    newVoters ⟨S.map (enterF P D), x⟩ = S.countP (fun p => finV T p.store) := by
  simp only [newVoters, List.countP_map]
  apply List.countP_congr
  intro p hp
  simp only [Function.comp, enterF_role h hp]
  rcases h.plainS p hp with e | e <;> cases hf : finV T p.store <;> simp [e]

theorem target_voters_le (h : JointCtx S T P D) :
    votersOf T ≤ S.countP (fun p => finV T p.store) :=
  countP_le_of_stores h.nodupT fun n hn hv => by
    obtain ⟨p, hp, hps⟩ := mem_stores.1 (h.subT n hn)
    exact ⟨p, hp, hps, by rw [hps]; exact (finV_of_mem h.nodupT hn).2 (by simpa using hv)⟩

theorem joint_count (h : JointCtx S T P D) (x : Nat) :
    countJoint ⟨S.map (enterF P D), x⟩ = P.length + D.length := by
  have hc : countJoint ⟨S.map (enterF P D), x⟩ =
      (stores (S.filter (fun p => inItems P p.store || inItems D p.store))).length := by
    have : countJoint ⟨S.map (enterF P D), x⟩ =
        S.countP (fun p => inItems P p.store || inItems D p.store) := by
      simp only [countJoint, List.countP_map]
      apply List.countP_congr
      intro p hp
      simp only [Function.comp, enterF_role h hp]
      rw [Bool.or_eq_true, h.pMem p hp, h.dMem p hp]
      rcases h.plainS p hp with e | e <;> cases hf : finV T p.store <;> simp [e, isJointRole]
    rw [this, List.countP_eq_length_filter]
    simp [stores]
  rw [hc]
  have hl : P.length + D.length = (P.map (·.store) ++ D.map (·.store)).length := by simp
  rw [hl]
  apply List.Perm.length_eq
  rw [List.perm_ext_iff_of_nodup]
  · intro s
    simp only [mem_stores, List.mem_filter, Bool.or_eq_true, List.mem_append, List.mem_map]
    constructor
    · rintro ⟨p, ⟨hp, hpd⟩, rfl⟩
      rcases hpd with hh | hh
      · obtain ⟨it, hit, e⟩ := inItems_iff.1 hh; exact Or.inl ⟨it, hit, e⟩
      · obtain ⟨it, hit, e⟩ := inItems_iff.1 hh; exact Or.inr ⟨it, hit, e⟩
    · rintro (⟨it, hit, rfl⟩ | ⟨it, hit, rfl⟩)
      · obtain ⟨p, hp, hs, _⟩ := h.pIn it hit
        exact ⟨p, ⟨hp, Or.inl (inItems_iff.2 ⟨it, hit, hs.symm⟩)⟩, hs⟩
      · obtain ⟨p, hp, hs, _⟩ := h.dIn it hit
        exact ⟨p, ⟨hp, Or.inr (inItems_iff.2 ⟨it, hit, hs.symm⟩)⟩, hs⟩
  · exact nodup_stores_filter _ h.nodupS
  · rw [List.nodup_append]
    refine ⟨h.nodupP, h.nodupD, ?_⟩
    intro a ha b hb e
    subst e
    obtain ⟨it, hit, rfl⟩ := List.mem_map.1 ha
    obtain ⟨it', hit', e'⟩ := List.mem_map.1 hb
    obtain ⟨p, hg, _, hr, _⟩ := itemP_peer h hit
    obtain ⟨p', hg', _, hr', _⟩ := itemD_peer h hit'
    rw [e', hg] at hg'
    cases hg'
    rw [hr] at hr'; cases hr'

theorem enter_ok (h : JointCtx S T P D) (m x : Nat) (hm : m ≤ min (votersOf S) (votersOf T)) :
    StepOk m ⟨S, x⟩ (.enter P D) := by
  refine ⟨?_, rfl, rfl, ?_, ?_⟩
  · apply checkSafety_enter
    · exact (plain_counts h.plainS x).2.2
    · intro it hit
      obtain ⟨p, h1, h2, h3, _⟩ := itemP_peer h hit
      exact ⟨p, h1, h2, h3⟩
    · intro it hit
      obtain ⟨p, h1, h2, h3, _⟩ := itemD_peer h hit
      exact ⟨p, h1, h2, h3⟩
  · rw [apply_enter, onePerStore_iff]
    simp only [stores_map (enterF_store P D)]
    exact h.nodupS
  · rw [apply_enter]
    simp only [voterCount, old_after_enter h, new_after_enter h]
    have := target_voters_le h
    omega

theorem fullVoter_after_enter (h : JointCtx S T P D) (x t : Nat) (ht : t ∈ stores S)
    (hf : finV T t = true) : isFullVoter ⟨S.map (enterF P D), x⟩ t = true := by
  obtain ⟨p, hp, rfl⟩ := mem_stores.1 ht
  unfold isFullVoter
  rw [storePeer_eq_pmGet, pmGet_map (enterF_store P D), pmGet_of_mem h.nodupS hp]
  simp only [Option.map_some, enterF_role h hp, hf, if_true]
  split <;> simp

def afterJoint (P D : List Item) (S : List Peer) : List Peer := (S.map (enterF P D)).map leaveF

theorem afterJoint_stores (S : List Peer) : stores (afterJoint P D S) = stores S := by
  simp only [afterJoint, stores_map leaveF_store, stores_map (enterF_store P D)]

theorem afterJoint_mem (h : JointCtx S T P D) {q : Peer} (hq : q ∈ afterJoint P D S) :
    ∃ p ∈ S, q.store = p.store ∧ q.id = p.id ∧ q.role = if finV T p.store then .voter else .learner := by
  simp only [afterJoint, List.mem_map] at hq
  obtain ⟨_, ⟨p, hp, rfl⟩, rfl⟩ := hq
  exact ⟨p, hp, by simp [leaveF_store, enterF_store], by simp [leaveF, enterF_id], leave_enter_role h hp⟩

theorem afterJoint_plain (S : List Peer) : plainRoles (afterJoint P D S) := plain_leave _

theorem afterJoint_voters (h : JointCtx S T P D) :
    votersOf (afterJoint P D S) = S.countP (fun p => finV T p.store) := by
  simp only [votersOf, afterJoint, List.countP_map]
  apply List.countP_congr
  intro p hp
  simp only [Function.comp, leave_enter_role h hp]
  cases finV T p.store <;> simp

theorem afterJoint_min (h : JointCtx S T P D) {m : Nat} (hm : m ≤ min (votersOf S) (votersOf T)) :
    m ≤ votersOf (afterJoint P D S) := by
  rw [afterJoint_voters h]
  have := target_voters_le h
  omega

theorem leave_ok (h : JointCtx S T P D) (m x : Nat) (hm : m ≤ min (votersOf S) (votersOf T))
    (hx : x ∈ stores S) (hf : finV T x = true) :
    StepOk m ⟨S.map (enterF P D), x⟩ (.leave P D) := by
  refine leave_stepOk P D ((stores_map (enterF_store P D) S).symm ▸ h.nodupS) ?_
    (fullVoter_after_enter h x x hx hf) (apply_enter ⟨S, x⟩ P D ▸ (enter_ok h m x hm).voters)
  · apply checkSafety_leave
    · exact joint_count h x
    · intro it hit
      obtain ⟨p, h1, h2, h3, h4⟩ := itemP_peer h hit
      refine ⟨enterF P D p, ?_, by rw [enterF_id]; exact h2, ?_⟩
      · rw [storePeer_eq_pmGet, pmGet_map (enterF_store P D), h1]; rfl
      · have hp := (pmGet_some h1).1
        rw [enterF_role h hp, h4, h3]; simp
    · intro it hit
      obtain ⟨p, h1, h2, h3, h4⟩ := itemD_peer h hit
      refine ⟨enterF P D p, ?_, by rw [enterF_id]; exact h2, ?_, ?_⟩
      · rw [storePeer_eq_pmGet, pmGet_map (enterF_store P D), h1]; rfl
      · have hp := (pmGet_some h1).1
        rw [enterF_role h hp, h4, h3]; simp
      · intro e
        simp only at e
        rw [(pmGet_some h1).2, e, hf] at h4; cases h4

theorem fullVoter_afterJoint (h : JointCtx S T P D) (x t : Nat) (ht : t ∈ stores S)
    (hf : finV T t = true) : isFullVoter ⟨afterJoint P D S, x⟩ t = true := by
  obtain ⟨p, hp, rfl⟩ := mem_stores.1 ht
  unfold isFullVoter afterJoint
  rw [storePeer_eq_pmGet, pmGet_map leaveF_store, pmGet_map (enterF_store P D), pmGet_of_mem h.nodupS hp]
  simp only [Option.map_some, leave_enter_role h hp, hf, if_true]
  simp

end

theorem joint_final {S T : List Peer} {P D : List Item} (h : JointCtx S T P D) (R : List Peer)
    (hR : ∀ p ∈ S, (p.store ∈ stores R ↔ p.store ∉ stores T))
    (t tl : Nat) (ht : t ∈ stores T) (hf : finV T t = true) (htl : tl = 0 ∨ t = tl) :
    Final (targetOfPeers T tl)
      ⟨(afterJoint P D S).filter (fun p => !(stores R).contains p.store), t⟩ := by
  -- the role the joint transition leaves on a target store is the requested one
  have hrole : ∀ n ∈ T, (if finV T n.store then Role.voter else .learner) = n.role := by
    intro n hn
    rcases h.plainT n hn with e | e
    · rw [(finV_of_mem h.nodupT hn).2 e, e]; rfl
    · rw [finV_false_of_learner h.nodupT hn e, e]; rfl
  have h2 : ∀ n ∈ T, ∃ q ∈ (afterJoint P D S).filter (fun p => !(stores R).contains p.store),
      q.store = n.store ∧ q.role = n.role := by
    intro n hn
    obtain ⟨p, hp, hps⟩ := mem_stores.1 (h.subT n hn)
    refine ⟨leaveF (enterF P D p), List.mem_filter.2 ⟨List.mem_map.2 ⟨_, List.mem_map.2 ⟨p, hp, rfl⟩, rfl⟩, ?_⟩,
      (enterF_store P D p).trans hps, ?_⟩
    · simp only [leaveF_store, enterF_store, Bool.not_eq_true', List.contains_eq_mem, decide_eq_false_iff_not]
      exact fun hc => (hR p hp).1 hc (hps ▸ mem_stores.2 ⟨n, hn, rfl⟩)
    · rw [leave_enter_role h hp, hps]; exact hrole n hn
  refine final_of_roles (nodup_stores_filter _ (by rw [afterJoint_stores]; exact h.nodupS)) (fun q hq => ?_) h2 ?_ htl
  · obtain ⟨hq1, hq2⟩ := List.mem_filter.1 hq
    obtain ⟨p, hp, e1, _, e3⟩ := afterJoint_mem h hq1
    have hqR : q.store ∉ stores R := by simpa using hq2
    obtain ⟨n, hn, hns⟩ := mem_stores.1 (Classical.not_not.1 fun hc => hqR (e1 ▸ (hR p hp).2 hc))
    exact ⟨n, hn, hns.trans e1.symm, by rw [e3, ← hns, hrole n hn]⟩
  · obtain ⟨n, hn, hns⟩ := mem_stores.1 ht
    obtain ⟨q, hq, e1, e2⟩ := h2 n hn
    exact ⟨q, hq, e1.trans hns, e2.trans ((finV_of_mem h.nodupT hn).1 (hns ▸ hf))⟩

inductive MidForm (S T : List Peer) (P D : List Item) (l t : Nat) : List Step → Prop where
  | before (h : ∃ p ∈ S, p.store = t ∧ p.role = .voter) :
      MidForm S T P D l t ((if l != t then [.transferLeader l t] else []) ++ [.enter P D, .leave P D])
  | after (h : finV T l = true) :
      MidForm S T P D l t ([.enter P D, .leave P D] ++ (if l != t then [.transferLeader l t] else []))
  | inside : MidForm S T P D l t [.enter P D, .transferLeader l t, .leave P D]

theorem enter_leave_safe {S T : List Peer} {P D : List Item} (h : JointCtx S T P D) (m x : Nat)
    (hm : m ≤ min (votersOf S) (votersOf T)) (hx : x ∈ stores S) (hf : finV T x = true) :
    Leads m ⟨S, x⟩ [.enter P D, .leave P D] ⟨afterJoint P D S, x⟩ := by
  have := (Leads.step (enter_ok h m x hm)).append (.step (apply_enter ⟨S, x⟩ P D ▸ leave_ok h m x hm hx hf))
  rwa [apply_enter, apply_leave] at this

theorem mid_safe {S T : List Peer} {P D : List Item} (h : JointCtx S T P D) (l t m : Nat)
    (hl : l ∈ stores S) (ht : t ∈ stores T) (hf : finV T t = true)
    (hm : m ≤ min (votersOf S) (votersOf T)) (mid : List Step) (hmid : MidForm S T P D l t mid) :
    Leads m ⟨S, l⟩ mid ⟨afterJoint P D S, t⟩ := by
  have htS : t ∈ stores S := by
    obtain ⟨n, hn, e⟩ := mem_stores.1 ht; exact e ▸ h.subT n hn
  have hle := target_voters_le h
  cases hmid with
  | before hv =>
    obtain ⟨p, hp, hps, hpr⟩ := hv
    refine (transferIf_safe (r := ⟨S, l⟩) t ?_ h.nodupS ?_).append (enter_leave_safe h m t hm htS hf)
    · exact hps ▸ fullVoter_of_voter (r := ⟨S, l⟩) h.nodupS hp hpr
    · rw [plain_voterCount h.plainS]; omega
  | after hfl =>
    refine (enter_leave_safe h m l hm hl hfl).append
      (transferIf_safe (r := ⟨afterJoint P D S, l⟩) t (fullVoter_afterJoint h l t htS hf) ?_ ?_)
    · rw [onePerStore_iff]; simp only [afterJoint_stores]; exact h.nodupS
    · rw [plain_voterCount (afterJoint_plain S)]; exact afterJoint_min h hm
  | inside =>
    simp only [Leads, StepsSafe, run, List.foldl_cons, List.foldl_nil, apply_enter, apply_leave, and_true]
    refine ⟨⟨enter_ok h m l hm, transfer_ok l t (fullVoter_after_enter h l t htS hf) ?_ ?_,
      leave_ok h m t hm htS hf⟩, rfl⟩
    · rw [onePerStore_iff]; simp only [stores_map (enterF_store P D)]; exact h.nodupS
    · simp only [voterCount, old_after_enter h, new_after_enter h]; omega

theorem joint_core_safe {S T : List Peer} {P D : List Item} (h : JointCtx S T P D) (R : List Peer)
    (hR : ∀ s, s ∈ stores R ↔ (s ∈ stores S ∧ s ∉ stores T))
    (l t tl m : Nat) (hl : l ∈ stores S) (ht : t ∈ stores T) (hf : finV T t = true)
    (htl : tl = 0 ∨ t = tl) (hm : m ≤ min (votersOf S) (votersOf T))
    (mid : List Step) (hmid : MidForm S T P D l t mid) :
    StepsSafe m ⟨S, l⟩ (mid ++ R.map rmStep) ∧
    Final (targetOfPeers T tl) (run ⟨S, l⟩ (mid ++ R.map rmStep)) := by
  have hmid := mid_safe h l t m hl ht hf hm mid hmid
  have hrm := removes_safe m R ⟨afterJoint P D S, t⟩
    (by simp only [afterJoint_stores]; exact h.nodupS) (afterJoint_plain S)
    (by
      intro x hx
      have hxs := (hR x.store).1 (mem_stores.2 ⟨x, hx, rfl⟩)
      refine ⟨fun e => hxs.2 (e ▸ ht), ?_⟩
      intro q hq e
      obtain ⟨p, hp, e1, _, e3⟩ := afterJoint_mem h hq
      rw [e3]
      rw [finV_false_of_not_mem (by rw [← e1, e]; exact hxs.2)]
      rfl)
    (afterJoint_min h hm)
  exact (hmid.append hrm).final (joint_final h R (fun p hp => by
    rw [hR p.store]
    exact ⟨fun a => a.2, fun a => ⟨mem_stores.2 ⟨p, hp, rfl⟩, a⟩⟩) t tl ht hf htl)

end PdModel.Builder
