import PdModel.Lemmas.RuleLists
/-! Association lists as maps: lookups after set / delete / filter, and after a fold of such updates. -/
namespace PdModel.Rules
open PdModel.Spec.C13

section generic
variable {α : Type} (key : α → K)

theorem mapGet_cons (k : K) (x : α) (l : List α) :
    mapGet key k (x :: l) = if key x = k then some x else mapGet key k l := by
  unfold mapGet
  rw [List.find?_cons]
  by_cases h : key x = k <;> simp [h]

theorem mapGet_eq_none (k : K) (l : List α) (h : ∀ x ∈ l, key x ≠ k) : mapGet key k l = none :=
  List.find?_eq_none.2 fun x hx => by simpa using h x hx

theorem mapGet_some {k : K} {l : List α} {v : α} (h : mapGet key k l = some v) : key v = k ∧ v ∈ l :=
  ⟨by simpa using List.find?_some h, List.mem_of_find?_eq_some h⟩

theorem mapIns_eq (v : α) (l : List α) : mapIns key v l = insBy (fun a b => kLt (key a) (key b)) v l := by
  induction l with
  | nil => rfl
  | cons x xs ih => simp only [mapIns, insBy, ih]

theorem mem_mapSet (v x : α) (l : List α) : x ∈ mapSet key v l ↔ (x = v ∨ (x ∈ l ∧ key x ≠ key v)) := by
  rw [mapSet, mapIns_eq, mem_insBy, List.mem_filter, decide_eq_true_iff]

theorem mapGet_mapIns (v : α) (k : K) (l : List α) (hno : ∀ x ∈ l, key x ≠ key v) :
    mapGet key k (mapIns key v l) = if key v = k then some v else mapGet key k l := by
  induction l with
  | nil => rw [mapIns, mapGet_cons]
  | cons x xs ih =>
    rw [mapIns]
    split
    · rw [mapGet_cons]
    · rw [mapGet_cons, ih fun y hy => hno y (List.mem_cons_of_mem _ hy), mapGet_cons]
      by_cases h : key x = k
      · rw [if_pos h, if_pos h, if_neg fun e => hno x List.mem_cons_self (h.trans e.symm)]
      · rw [if_neg h, if_neg h]

theorem mapGet_filter_ne (k k' : K) (l : List α) :
    mapGet key k (l.filter (fun x => key x ≠ k')) = if k' = k then none else mapGet key k l := by
  rw [mapGet, List.find?_filter]
  split
  · next e => exact List.find?_eq_none.2 fun x _ => by simp [e]
  · next e =>
    refine congrArg (List.find? · l) (funext fun x => ?_)
    by_cases h : key x = k
    · simp [h, Ne.symm e]
    · simp [h]

theorem mapGet_mapSet (v : α) (k : K) (l : List α) :
    mapGet key k (mapSet key v l) = if key v = k then some v else mapGet key k l := by
  rw [mapSet, mapGet_mapIns key v k _ (fun x hx => by simpa using (List.mem_filter.1 hx).2), mapGet_filter_ne]
  by_cases h : key v = k
  · rw [if_pos h, if_pos h]
  · rw [if_neg h, if_neg h, if_neg h]

theorem mapGet_mapDel (k k' : K) (l : List α) :
    mapGet key k (mapDel key k' l) = if k' = k then none else mapGet key k l :=
  mapGet_filter_ne key k k' l

def KeysNodup (l : List α) : Prop := l.Pairwise (fun a b => key a ≠ key b)

theorem mapGet_of_mem (l : List α) (h : KeysNodup key l) (v : α) (hv : v ∈ l) : mapGet key (key v) l = some v := by
  induction l with
  | nil => cases hv
  | cons x xs ih =>
    rw [KeysNodup, List.pairwise_cons] at h
    rw [mapGet_cons]
    rcases List.mem_cons.1 hv with e | e
    · rw [e, if_pos rfl]
    · rw [if_neg (h.1 v e), ih h.2 e]

theorem mem_iff_mapGet (l : List α) (h : KeysNodup key l) (v : α) : v ∈ l ↔ mapGet key (key v) l = some v :=
  ⟨mapGet_of_mem key l h v, fun e => (mapGet_some key e).2⟩

theorem foldl_lookup {σ β : Type} (upd : σ → α → σ) (get : σ → K → β) (val : α → β) (l : List α)
    (hk : KeysNodup key l) (hupd : ∀ i ∈ l, ∀ s k, get (upd s i) k = if key i = k then val i else get s k)
    (s : σ) (k : K) :
    get (l.foldl upd s) k = ((mapGet key k l).map val).getD (get s k) := by
  induction l generalizing s with
  | nil => rfl
  | cons i rest ih =>
    rw [KeysNodup, List.pairwise_cons] at hk
    rw [List.foldl_cons, ih hk.2 (fun j hj => hupd j (List.mem_cons_of_mem _ hj)), hupd i List.mem_cons_self, mapGet_cons]
    by_cases e : key i = k
    · rw [if_pos e, if_pos e, mapGet_eq_none key k rest fun y hy e' => hk.1 y hy (e.trans e'.symm)]; rfl
    · rw [if_neg e, if_neg e]

variable {key}

theorem KeysNodup.nodup {l : List α} (h : KeysNodup key l) : l.Nodup :=
  h.imp fun hne e => hne (congrArg key e)

theorem keysNodup_mapSet (v : α) {l : List α} (h : KeysNodup key l) : KeysNodup key (mapSet key v l) := by
  rw [mapSet, mapIns_eq, KeysNodup, (insBy_perm _ v _).pairwise_iff (fun h => Ne.symm h), List.pairwise_cons]
  exact ⟨fun x hx => Ne.symm (by simpa using (List.mem_filter.1 hx).2), h.sublist List.filter_sublist⟩

theorem keysNodup_mapDel (k : K) {l : List α} (h : KeysNodup key l) : KeysNodup key (mapDel key k l) :=
  h.sublist List.filter_sublist

theorem mapGet_filter (q : α → Bool) (k : K) {l : List α} (h : KeysNodup key l) :
    mapGet key k (l.filter q) = (mapGet key k l).filter q := by
  induction l with
  | nil => rfl
  | cons x xs ih =>
    rw [KeysNodup, List.pairwise_cons] at h
    rw [mapGet_cons, List.filter_cons]
    by_cases hk : key x = k
    · have hnone := fun l' (hl : ∀ y ∈ l', y ∈ xs) =>
        mapGet_eq_none key k l' fun y hy e => h.1 y (hl y hy) (hk.trans e.symm)
      rw [if_pos hk]
      cases hq : q x with
      | true => rw [if_pos rfl, mapGet_cons, if_pos hk, Option.filter, if_pos hq]
      | false =>
        rw [if_neg Bool.false_ne_true, hnone _ fun y hy => (List.mem_filter.1 hy).1, Option.filter, if_neg (by simp [hq])]
    · rw [if_neg hk, ← ih h.2]
      split
      · rw [mapGet_cons, if_neg hk]
      · rfl

end generic

end PdModel.Rules
