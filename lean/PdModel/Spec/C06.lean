import PdModel.Model.RegionTree
import PdModel.Spec.C07
/-!
C06 – "Region cache never regresses and never holds overlapping regions", over observables only:
the heartbeats that were delivered, the answer to each (ok / error), and – after each – the set of regions
PD serves (`S`, in key order) and the region metas found in storage (`M`).

The record types (`Region`, `Meta`, `Key`) and the list functions `put` / `displaced` / `Overlap` of
Spec.C07 are re-used; nothing of the cache implementation is mentioned.
-/
namespace PdModel.Spec.C06
open PdModel.RegionTree (Key Peer Region Meta metaOf)
open PdModel.Spec.C07 (Overlap put displaced)

/-- what "not going back" means between two served versions of one region id: version and
    conf-version do not decrease; the raft term does not decrease when the newer one reports a term -/
def NotBehind (o n : Region) : Prop :=
  o.version ≤ n.version ∧ o.confVer ≤ n.confVer ∧ (n.term > 0 → o.term ≤ n.term)
instance (o n : Region) : Decidable (NotBehind o n) := inferInstanceAs (Decidable (_ ∧ _ ∧ _))

/-- no two served regions intersect -/
def NoOverlap (S : List Region) : Prop := S.Pairwise (fun a b => ¬ Overlap a b)
instance (S : List Region) : Decidable (NoOverlap S) := inferInstanceAs (Decidable (List.Pairwise _ _))

/-- the heartbeat is staler than the served region of the same id, or older in version than a served
    region whose range it intersects -/
def MustReject (S : List Region) (r : Region) : Prop :=
  (∃ o ∈ S, o.id = r.id ∧ ¬ NotBehind o r) ∨ (∃ y ∈ S, Overlap y r ∧ r.version < y.version)
instance (S : List Region) (r : Region) : Decidable (MustReject S r) := inferInstanceAs (Decidable (_ ∨ _))

inductive Verdict where
  | ok | stale
  deriving DecidableEq, Repr

def lookup (M : List (Nat × Meta)) (id : Nat) : Option Meta := (M.find? (fun e => e.1 = id)).map (·.2)

/-- storage after a heartbeat that displaced `gone`: the displaced ids are deleted, the heartbeat's own
    record is the old one or the new meta, everything else is untouched -/
def StoredOk (M M' : List (Nat × Meta)) (r : Region) (gone : List Region) : Prop :=
  (∀ y ∈ gone, lookup M' y.id = none) ∧
  (lookup M' r.id = lookup M r.id ∨ lookup M' r.id = some (metaOf r)) ∧
  (∀ e ∈ M ++ M', e.1 ≠ r.id → (∀ y ∈ gone, y.id ≠ e.1) → lookup M' e.1 = lookup M e.1)
instance (M M' : List (Nat × Meta)) (r : Region) (gone : List Region) : Decidable (StoredOk M M' r gone) :=
  inferInstanceAs (Decidable (_ ∧ _ ∧ _))

/-- the last served version of every id that was ever served (ids that were displaced keep their entry) -/
abbrev History := List (Nat × Region)

def lastServed (H : History) (id : Nat) : Option Region := (H.find? (fun e => e.1 = id)).map (·.2)

def record (H : History) (S : List Region) : History :=
  S.map (fun y => (y.id, y)) ++ H.filter (fun e => ! S.any (fun y => y.id = e.1))

def NotBehindOpt : Option Region → Region → Prop
  | some o, y => NotBehind o y
  | none, _ => True
instance (o : Option Region) (y : Region) : Decidable (NotBehindOpt o y) := by
  cases o <;> unfold NotBehindOpt <;> exact inferInstance

/-- nothing served now is behind what was served for the same id before (even across a displacement) -/
def NoRegress (H : History) (S' : List Region) : Prop := ∀ y ∈ S', NotBehindOpt (lastServed H y.id) y
instance (H : History) (S' : List Region) : Decidable (NoRegress H S') :=
  inferInstanceAs (Decidable (∀ y ∈ S', _))

/-- one heartbeat handled on its own: `S`/`M` before, answer, `S'`/`M'` after -/
def StepOk (H : History) (S : List Region) (M : List (Nat × Meta)) (r : Region) (v : Verdict)
    (S' : List Region) (M' : List (Nat × Meta)) : Prop :=
  NoOverlap S' ∧ NoRegress H S' ∧
  (MustReject S r → v = .stale) ∧
  (v = .stale → S' = S ∧ M' = M) ∧
  (v = .ok → (S' = S ∧ StoredOk M M' r []) ∨ (S' = put S r ∧ StoredOk M M' r (displaced S r)))
instance (H S M r v S' M') : Decidable (StepOk H S M r v S' M') :=
  inferInstanceAs (Decidable (_ ∧ _ ∧ _ ∧ _ ∧ _))

/-- handling one heartbeat atomically, as far as the served set goes (the answer may be `stale` with
    nothing changed; `ok` needs a heartbeat that must not be rejected and serves the old set or the old set
    with the region put) -/
def SeqStep (S : List Region) (r : Region) (v : Verdict) (S' : List Region) : Prop :=
  (v = .stale ∧ S' = S) ∨ (v = .ok ∧ ¬ MustReject S r ∧ (S' = S ∨ S' = put S r))
instance (S r v S') : Decidable (SeqStep S r v S') := inferInstanceAs (Decidable (_ ∨ _))

/-- all ways to take one element out of a list -/
def picks {α : Type} : List α → List (α × List α)
  | [] => []
  | x :: xs => (x, xs) :: (picks xs).map (fun p => (p.1, x :: p.2))

/-- served sets reachable by handling the heartbeats one at a time in some order (fuel = their number) -/
def reachable : Nat → List Region → List (Region × Verdict) → List (List Region)
  | 0, S, _ => [S]
  | _, S, [] => [S]
  | n + 1, S, hbs =>
    (picks hbs).flatMap (fun p =>
      let (r, v) := p.1
      let nexts := match v with
        | .stale => [S]
        | .ok => if MustReject S r then [] else [S, put S r]
      nexts.flatMap (fun S1 => reachable n S1 p.2))

/-- a batch of concurrently handled heartbeats is explained by handling them one at a time in some order -/
def ConcOk (H : History) (S : List Region) (hbs : List (Region × Verdict)) (S' : List Region) : Prop :=
  NoOverlap S' ∧ NoRegress H S' ∧ S' ∈ reachable hbs.length S hbs
instance (H S hbs S') : Decidable (ConcOk H S hbs S') := inferInstanceAs (Decidable (_ ∧ _ ∧ _))

/-! ### batched region storage (leveldb with a write batch): what is on disk lags behind -/

/-- storage on disk after a heartbeat that displaced `gone`, when saves go through a write batch: the displaced
    ids are gone from disk at once, nothing else is deleted, and whatever appears or changes on disk (a flush of
    the batch) belongs to a region that is served -/
def StoredOkBatched (S' : List Region) (M M' : List (Nat × Meta)) (gone : List Region) : Prop :=
  (∀ y ∈ gone, lookup M' y.id = none) ∧
  (∀ e ∈ M, (∀ y ∈ gone, y.id ≠ e.1) → lookup M' e.1 ≠ none) ∧
  (∀ e ∈ M', lookup M e.1 = some e.2 ∨ ∃ y ∈ S', y.id = e.1)
instance (S' : List Region) (M M' : List (Nat × Meta)) (gone : List Region) : Decidable (StoredOkBatched S' M M' gone) :=
  inferInstanceAs (Decidable (_ ∧ _ ∧ _))

/-- one heartbeat at a time, batched storage -/
def StepOkBatched (H : History) (S : List Region) (M : List (Nat × Meta)) (r : Region) (v : Verdict)
    (S' : List Region) (M' : List (Nat × Meta)) : Prop :=
  NoOverlap S' ∧ NoRegress H S' ∧
  (MustReject S r → v = .stale) ∧
  (v = .stale → S' = S ∧ M' = M) ∧
  (v = .ok → (S' = S ∧ StoredOkBatched S' M M' []) ∨ (S' = put S r ∧ StoredOkBatched S' M M' (displaced S r)))
instance (H S M r v S' M') : Decidable (StepOkBatched H S M r v S' M') :=
  inferInstanceAs (Decidable (_ ∧ _ ∧ _ ∧ _ ∧ _))

/-- an explicit flush of the batch: nothing is deleted, what appears or changes belongs to a served region -/
def FlushOk (S : List Region) (M M' : List (Nat × Meta)) : Prop := StoredOkBatched S M M' []
instance (S M M') : Decidable (FlushOk S M M') := inferInstanceAs (Decidable (StoredOkBatched _ _ _ _))

/-! ### a heartbeat held at its first storage write while others are handled -/

inductive GateOut where
  /-- answered without a storage write -/
  | done (v : Verdict)
  /-- stopped immediately before its first storage write -/
  | parked
  deriving DecidableEq, Repr

/-- a heartbeat that runs until its first storage write (or to its answer): nothing is written; an error means
    nothing changed at all; otherwise the served set is the old one or the old one with the region put -/
def GateOk (H : History) (S : List Region) (M : List (Nat × Meta)) (r : Region) (o : GateOut)
    (S' : List Region) (M' : List (Nat × Meta)) : Prop :=
  NoOverlap S' ∧ NoRegress H S' ∧ M' = M ∧
  (MustReject S r → o = .done .stale) ∧
  (o = .done .stale → S' = S) ∧
  (o ≠ .done .stale → S' = S ∨ S' = put S r)
instance (H S M r o S' M') : Decidable (GateOk H S M r o S' M') :=
  inferInstanceAs (Decidable (_ ∧ _ ∧ _ ∧ _ ∧ _ ∧ _))

/-- the held heartbeat is let go and answers `v` (other heartbeats may have been handled in between, so its
    storage writes can be old news – that is not judged): **a heartbeat answered with an error has changed
    nothing**, neither what is served nor what is stored -/
def ReleaseOk (H : History) (S : List Region) (M : List (Nat × Meta)) (r : Region) (v : Verdict)
    (S' : List Region) (M' : List (Nat × Meta)) : Prop :=
  NoOverlap S' ∧ NoRegress H S' ∧
  (v = .stale → S' = S ∧ M' = M) ∧
  (v = .ok → S' = S ∨ S' = put S r)
instance (H S M r v S' M') : Decidable (ReleaseOk H S M r v S' M') :=
  inferInstanceAs (Decidable (_ ∧ _ ∧ _ ∧ _))

/-! ### the answer, at the server's stream interface -/

/-- a heartbeat arriving on stream `sender`; `errOn` = the streams on which an error answer was seen afterwards.
    A heartbeat that must be refused is answered with an error **on the stream it came from** and nothing changes;
    an error answer means nothing changed; without one the served set is the old one or the old one with the
    region put -/
def StreamOk (H : History) (S : List Region) (r : Region) (sender : String) (errOn : List String)
    (S' : List Region) : Prop :=
  NoOverlap S' ∧ NoRegress H S' ∧
  (MustReject S r → errOn = [sender]) ∧
  (errOn ≠ [] → S' = S ∧ errOn = [sender]) ∧
  (errOn = [] → S' = S ∨ S' = put S r)
instance (H S r sender errOn S') : Decidable (StreamOk H S r sender errOn S') :=
  inferInstanceAs (Decidable (_ ∧ _ ∧ _ ∧ _ ∧ _))

/-! ### readers that run while heartbeats are handled -/

/-- rounds of concurrent heartbeats of ONE region with ever higher versions (`r` carries the highest) while a
    client polls the region: the client never sees the version go back (`back` = the first such pair of versions),
    and afterwards the served set is the old one with the highest version put (or unchanged if that one must be
    refused) -/
def RaceOk (H : History) (S : List Region) (r : Region) (back : Option (Nat × Nat)) (S' : List Region) : Prop :=
  NoOverlap S' ∧ NoRegress H S' ∧ back = none ∧ S' = if MustReject S r then S else put S r
instance (H S r back S') : Decidable (RaceOk H S r back S') := inferInstanceAs (Decidable (_ ∧ _ ∧ _ ∧ _))

/-- (an excerpt of) one answer of a range scan that ran while heartbeats were handled: in key order and pairwise
    disjoint -/
def ScanAnswerOk (answer : List Region) : Prop :=
  NoOverlap answer ∧ answer.Pairwise (fun a b => a.startKey < b.startKey)
instance (answer : List Region) : Decidable (ScanAnswerOk answer) := inferInstanceAs (Decidable (_ ∧ _))

inductive Ev where
  /-- one heartbeat at a time -/
  | hb (r : Region) (v : Verdict) (S' : List Region) (M' : List (Nat × Meta))
  /-- a batch handled concurrently; storage is only read back, not judged -/
  | conc (hbs : List (Region × Verdict)) (S' : List Region) (M' : List (Nat × Meta))
  /-- one heartbeat at a time, region storage with a write batch (`M'` = what is on disk) -/
  | hbBatched (r : Region) (v : Verdict) (S' : List Region) (M' : List (Nat × Meta))
  | flush (M' : List (Nat × Meta))
  /-- a heartbeat run up to its first storage write -/
  | gate (r : Region) (o : GateOut) (S' : List Region) (M' : List (Nat × Meta))
  /-- … and let go later -/
  | release (r : Region) (v : Verdict) (S' : List Region) (M' : List (Nat × Meta))
  /-- a heartbeat sent on a server stream (storage is not observed here) -/
  | stream (r : Region) (sender : String) (errOn : List String) (S' : List Region)
  | race (r : Region) (back : Option (Nat × Nat)) (S' : List Region)
  /-- an answer of ScanRegions given while heartbeats were handled (what is served afterwards is `S'`) -/
  | scanned (answer : List Region) (S' : List Region)

/-- the property over a trace -/
def Holds : History → List Region → List (Nat × Meta) → List Ev → Prop
  | _, _, _, [] => True
  | H, S, M, .hb r v S' M' :: es => StepOk H S M r v S' M' ∧ Holds (record H S') S' M' es
  | H, S, _, .conc hbs S' M' :: es => ConcOk H S hbs S' ∧ Holds (record H S') S' M' es
  | H, S, M, .hbBatched r v S' M' :: es => StepOkBatched H S M r v S' M' ∧ Holds (record H S') S' M' es
  | H, S, M, .flush M' :: es => FlushOk S M M' ∧ Holds H S M' es
  | H, S, M, .gate r o S' M' :: es => GateOk H S M r o S' M' ∧ Holds (record H S') S' M' es
  | H, S, M, .release r v S' M' :: es => ReleaseOk H S M r v S' M' ∧ Holds (record H S') S' M' es
  | H, S, M, .stream r sender errOn S' :: es => StreamOk H S r sender errOn S' ∧ Holds (record H S') S' M es
  | H, S, M, .race r back S' :: es => RaceOk H S r back S' ∧ Holds (record H S') S' M es
  | H, _, M, .scanned answer S' :: es => ScanAnswerOk answer ∧ Holds (record H S') S' M es

def check : History → List Region → List (Nat × Meta) → List Ev → Bool
  | _, _, _, [] => true
  | H, S, M, .hb r v S' M' :: es => decide (StepOk H S M r v S' M') && check (record H S') S' M' es
  | H, S, _, .conc hbs S' M' :: es => decide (ConcOk H S hbs S') && check (record H S') S' M' es
  | H, S, M, .hbBatched r v S' M' :: es => decide (StepOkBatched H S M r v S' M') && check (record H S') S' M' es
  | H, S, M, .flush M' :: es => decide (FlushOk S M M') && check H S M' es
  | H, S, M, .gate r o S' M' :: es => decide (GateOk H S M r o S' M') && check (record H S') S' M' es
  | H, S, M, .release r v S' M' :: es => decide (ReleaseOk H S M r v S' M') && check (record H S') S' M' es
  | H, S, M, .stream r sender errOn S' :: es => decide (StreamOk H S r sender errOn S') && check (record H S') S' M es
  | H, S, M, .race r back S' :: es => decide (RaceOk H S r back S') && check (record H S') S' M es
  | H, _, M, .scanned answer S' :: es => decide (ScanAnswerOk answer) && check (record H S') S' M es

theorem check_iff (H : History) (S : List Region) (M : List (Nat × Meta)) (es : List Ev) :
    check H S M es = true ↔ Holds H S M es := by
  have step : ∀ {p q : Prop} [Decidable p] {b : Bool}, (b = true ↔ q) → ((decide p && b) = true ↔ p ∧ q) :=
    fun h => by rw [Bool.and_eq_true, decide_eq_true_eq, h]
  induction es generalizing H S M with
  | nil => exact ⟨fun _ => trivial, fun _ => rfl⟩
  | cons e es ih => cases e <;> exact step (ih ..)

end PdModel.Spec.C06
