import PdModel.Model.Bootstrap
import PdModel.Lemmas.Bootstrap
import PdModel.Spec.C20
/-!
The observable events of a history of the bootstrap model, and the invariant that ties the event list to
the model state (`EInv`), preserved by every micro-step.

A step is taken apart into a change of state under the same events (`EInv.transfer` and its instances)
and events appended under the same state (`EInv.snoc` and its instances).  The state changes one component
at a time – a new request, the phase of a pending request, the first winner, the first `ok` – and `EInv`
holds in between, where `Inv` (which ties the phase of the winner to `wins` and `oks`) does not.
-/
namespace PdModel.Bootstrap
open PdModel.Spec

/-- what the specification sees of a request: its payload, and whether its header names another cluster -/
def infoOf (p : Payload) (foreign : Bool) : C20.Info :=
  { store := if p.hasStore then some p.storeId else none,
    region := if p.hasRegion then some p.regionId else none,
    keysEmpty := p.startLen = 0 ∧ p.endLen = 0, peers := p.peers, foreign := foreign }

@[simp] theorem foreign_infoOf (p : Payload) (foreign : Bool) : (infoOf p foreign).foreign = foreign := rfl

/-- the model's payload check is the specification's notion of a well-formed payload -/
theorem checkReq_iff_wellFormed (p : Payload) (foreign : Bool) :
    checkReq p = none ↔ (infoOf p foreign).wellFormed = true := by
  rw [checkReq_eq_none, C20.Info.wellFormed_iff]
  constructor
  · rintro ⟨hs, h1, hr, h2, h3, pid, h4, h5⟩
    exact ⟨p.storeId, p.regionId, pid, by simp [infoOf, hs], by simp [infoOf, hr], h5, h1, h3,
      by simpa [infoOf] using h2, h4⟩
  · rintro ⟨s, g, pid, h1, h2, h3, h4, h5, h6, h7⟩
    simp only [infoOf] at h1 h2 h3 h6
    split at h1 <;> cases h1
    split at h2 <;> cases h2
    exact ⟨‹_›, h4, ‹_›, by simpa using h6, h5, pid, h7, h3⟩

def kindOf : Out → C20.Kind
  | .ok => .accepted
  | .txnErr => .unknown
  | _ => .refused

/-- the stored bootstrap records as an observer sees them -/
def recsOf (s : St) : C20.Recs :=
  { cluster := s.etcd.root.map (·.1), stores := s.etcd.stores.map (·.1),
    regions := s.etcd.regions.map (·.1), time := s.etcd.bootTime.isSome }

/-- what clients and an observer of the records see of one micro-step: the request being issued, its
    answer (if it is answered in this step), and the records afterwards -/
def evOf (s : St) (op : Op) : List C20.Ev :=
  (match op, (step s op).2 with
   | .boot _ hdr p, .parked => [C20.Ev.req s.reqs.length (infoOf p (decide (hdr ≠ s.cid)))]
   | .boot _ hdr p, .resp o =>
     [C20.Ev.req s.reqs.length (infoOf p (decide (hdr ≠ s.cid))), C20.Ev.resp s.reqs.length (kindOf o)]
   | .commit r _, .resp o => [C20.Ev.resp r (kindOf o)]
   | .start r, .resp o => [C20.Ev.resp r (kindOf o)]
   | _, _ => []) ++ [C20.Ev.recs (recsOf (step s op).1)]

def events : St → List Op → List C20.Ev
  | _, [] => []
  | s, op :: ops => evOf s op ++ events (step s op).1 ops

theorem getEv_snoc_lt {p : List C20.Ev} {e : C20.Ev} {l : Nat} (h : l < p.length) :
    C20.getEv (p ++ [e]) l = C20.getEv p l := by
  simp only [C20.getEv, List.getD_eq_getElem?_getD, List.getElem?_append_left h]

theorem getEv_snoc_eq {p : List C20.Ev} {e : C20.Ev} : C20.getEv (p ++ [e]) p.length = e := by
  simp only [C20.getEv, List.getD_eq_getElem?_getD, List.getElem?_concat_length, Option.getD_some]

theorem getEv_snoc_cases {p : List C20.Ev} {e : C20.Ev} {l : Nat} (h : l < (p ++ [e]).length) :
    l < p.length ∧ C20.getEv (p ++ [e]) l = C20.getEv p l ∨ l = p.length ∧ C20.getEv (p ++ [e]) l = e := by
  rw [List.length_append] at h
  rcases Nat.lt_succ_iff_lt_or_eq.1 h with h1 | rfl
  · exact .inl ⟨h1, getEv_snoc_lt h1⟩
  · exact .inr ⟨rfl, getEv_snoc_eq⟩

def payloadOf (s : St) (r : Nat) (p : Payload) : Prop := ∃ x : Req, s.reqs[r]? = some x ∧ x.payload = p

structure EInv (s : St) (evs : List C20.Ev) : Prop where
  reqEv  : ∀ (r : Nat) (x : Req), s.reqs[r]? = some x → ∃ j fgn, j < evs.length ∧
             C20.getEv evs j = .req r (infoOf x.payload fgn) ∧
             ((x.phase = .atTxn ∨ x.phase = .committed ∨ x.phase = .done .ok ∨ s.wins = [r]) → fgn = false)
  bound  : ∀ (l r : Nat) (k : C20.Kind), l < evs.length → C20.getEv evs l = .resp r k → r < s.reqs.length
  pend   : ∀ (r : Nat) (x : Req), s.reqs[r]? = some x → (x.phase = .atTxn ∨ x.phase = .committed) →
             ∀ (l : Nat) (k : C20.Kind), l < evs.length → C20.getEv evs l ≠ .resp r k
  noRef  : ∀ r, s.wins = [r] → ∀ l, l < evs.length → C20.getEv evs l ≠ .resp r .refused
  compl  : ∀ l, l < evs.length → C20.isComplete (C20.getEv evs l) = true →
             C20.getEv evs l = .recs (recsOf s) ∧
             ∃ r p j, s.wins = [r] ∧ payloadOf s r p ∧ j < l ∧ C20.getEv evs j = .req r (infoOf p false)
  stable : ∀ i j, i < j → j < evs.length → C20.isComplete (C20.getEv evs i) = true →
             C20.sameRecs (C20.getEv evs i) (C20.getEv evs j) = true
  acc    : ∀ k, k < evs.length → C20.isAccepted (C20.getEv evs k) = true →
             ∃ r p j, s.wins = [r] ∧ s.oks = [r] ∧ payloadOf s r p ∧ C20.getEv evs k = .resp r .accepted ∧
               j < k ∧ C20.getEv evs j = .req r (infoOf p false) ∧
               ∀ l, k < l → l < evs.length → C20.recordsOf s.cid (C20.getEv evs l) (C20.getEv evs j) = true
  accU   : ∀ k k', k < evs.length → k' < evs.length → C20.isAccepted (C20.getEv evs k) = true →
             C20.isAccepted (C20.getEv evs k') = true → k = k'

theorem einv_nil (s : St) (h : s.reqs = []) : EInv s [] where
  reqEv r x hx := by rw [h] at hx; cases hx
  bound _ _ _ hl := nomatch hl
  pend _ _ _ _ _ _ hl := nomatch hl
  noRef _ _ _ hl := nomatch hl
  compl _ hl := nomatch hl
  stable _ _ _ hj := nomatch hj
  acc _ hk := nomatch hk
  accU _ _ hk := nomatch hk

theorem EInv.append_nil {s : St} {evs : List C20.Ev} (h : EInv s evs) : EInv s (evs ++ []) :=
  (List.append_nil evs).symm ▸ h

theorem payloadOf_won {s : St} (hi : Inv s) {r : Nat} {p : Payload} (hw : s.wins = [r])
    (hp : payloadOf s r p) : checkReq p = none ∧ s.etcd = full s.cid r p := by
  obtain ⟨x, hx, h1, h2, _⟩ := hi.won r hw
  obtain ⟨y, hy, rfl⟩ := hp
  cases hx.symm.trans hy
  exact ⟨h1, h2⟩

theorem recordsOf_won {s : St} (hi : Inv s) {r : Nat} {p : Payload} (hw : s.wins = [r])
    (hp : payloadOf s r p) : C20.recordsOf s.cid (.recs (recsOf s)) (.req r (infoOf p false)) = true := by
  obtain ⟨hc, he⟩ := payloadOf_won hi hw hp
  obtain ⟨hs, _, hr, _⟩ := checkReq_eq_none.1 hc
  simp [C20.recordsOf, recsOf, he, full, infoOf, hs, hr]

/-- What is asked depends on what the event is; for an event of another kind a hypothesis is vacuous (`nofun`)
    or holds by `rfl`. -/
theorem EInv.snoc {s : St} {evs : List C20.Ev} (h : EInv s evs) (e : C20.Ev)
    (hresp : ∀ r k, e = .resp r k → r < s.reqs.length ∧
      (∀ x : Req, s.reqs[r]? = some x → ¬(x.phase = .atTxn ∨ x.phase = .committed)) ∧
      (k = .refused → s.wins ≠ [r]))
    (hcomp : C20.isComplete e = true → e = .recs (recsOf s) ∧
      ∃ r p j, s.wins = [r] ∧ payloadOf s r p ∧ j < evs.length ∧ C20.getEv evs j = .req r (infoOf p false))
    (hsame : ∀ i, i < evs.length → C20.isComplete (C20.getEv evs i) = true →
      C20.sameRecs (C20.getEv evs i) e = true)
    (hacc : C20.isAccepted e = true → (∀ k, k < evs.length → C20.isAccepted (C20.getEv evs k) = false) ∧
      ∃ r p j, s.wins = [r] ∧ s.oks = [r] ∧ payloadOf s r p ∧ e = .resp r .accepted ∧ j < evs.length ∧
        C20.getEv evs j = .req r (infoOf p false))
    (hrec : ∀ r p, s.wins = [r] → payloadOf s r p → C20.recordsOf s.cid e (.req r (infoOf p false)) = true) :
    EInv s (evs ++ [e]) := by
  constructor
  · intro r x hx
    obtain ⟨j, fgn, hj, h1, h2⟩ := h.reqEv r x hx
    exact ⟨j, fgn, by rw [List.length_append]; exact Nat.lt_succ_of_lt hj, (getEv_snoc_lt hj).trans h1, h2⟩
  · intro l r k hl hg
    rcases getEv_snoc_cases hl with ⟨h1, e1⟩ | ⟨rfl, e1⟩ <;> rw [e1] at hg
    · exact h.bound l r k h1 hg
    · exact (hresp r k hg).1
  · intro r x hx hp l k hl hg
    rcases getEv_snoc_cases hl with ⟨h1, e1⟩ | ⟨rfl, e1⟩ <;> rw [e1] at hg
    · exact h.pend r x hx hp l k h1 hg
    · exact (hresp r k hg).2.1 x hx hp
  · intro r hw l hl hg
    rcases getEv_snoc_cases hl with ⟨h1, e1⟩ | ⟨rfl, e1⟩ <;> rw [e1] at hg
    · exact h.noRef r hw l h1 hg
    · exact (hresp r _ hg).2.2 rfl hw
  · intro l hl hc
    rcases getEv_snoc_cases hl with ⟨h1, e1⟩ | ⟨rfl, e1⟩ <;> rw [e1] at hc ⊢
    · obtain ⟨h2, r, p, j, h3, h4, h5, h6⟩ := h.compl l h1 hc
      exact ⟨h2, r, p, j, h3, h4, h5, (getEv_snoc_lt (Nat.lt_trans h5 h1)).trans h6⟩
    · obtain ⟨h2, r, p, j, h3, h4, h5, h6⟩ := hcomp hc
      exact ⟨h2, r, p, j, h3, h4, h5, (getEv_snoc_lt h5).trans h6⟩
  · intro i j hij hj hc
    rcases getEv_snoc_cases hj with ⟨h1, e1⟩ | ⟨rfl, e1⟩ <;> rw [e1]
    · rw [getEv_snoc_lt (Nat.lt_trans hij h1)] at hc ⊢
      exact h.stable i j hij h1 hc
    · rw [getEv_snoc_lt hij] at hc ⊢
      exact hsame i hij hc
  · intro k hk ha
    rcases getEv_snoc_cases hk with ⟨h1, e1⟩ | ⟨rfl, e1⟩ <;> rw [e1] at ha ⊢
    · obtain ⟨r, p, j, h2, h3, h4, h5, h6, h7, h8⟩ := h.acc k h1 ha
      have hj := Nat.lt_trans h6 h1
      refine ⟨r, p, j, h2, h3, h4, h5, h6, (getEv_snoc_lt hj).trans h7, fun l hkl hl => ?_⟩
      rw [getEv_snoc_lt hj]
      rcases getEv_snoc_cases hl with ⟨h9, e9⟩ | ⟨rfl, e9⟩ <;> rw [e9]
      · exact h8 l hkl h9
      · rw [h7]; exact hrec r p h2 h4
    · obtain ⟨_, r, p, j, h2, h3, h4, h5, h6, h7⟩ := hacc ha
      refine ⟨r, p, j, h2, h3, h4, h5, h6, (getEv_snoc_lt h6).trans h7, fun l hkl hl => ?_⟩
      rw [List.length_append] at hl
      exact absurd hl (Nat.not_lt_of_ge hkl)
  · intro k k' hk hk' ha ha'
    rcases getEv_snoc_cases hk with ⟨h1, e1⟩ | ⟨rfl, e1⟩ <;> rcases getEv_snoc_cases hk' with ⟨h2, e2⟩ | ⟨rfl, e2⟩
    · exact h.accU k k' h1 h2 (e1 ▸ ha) (e2 ▸ ha')
    · rw [e1, (hacc (e2 ▸ ha')).1 k h1] at ha
      cases ha
    · rw [e2, (hacc (e1 ▸ ha)).1 k' h2] at ha'
      cases ha'
    · rfl

theorem einv_resp {s : St} {evs : List C20.Ev} (h : EInv s evs) {r : Nat} {x : Req} {o : Out}
    (hx : s.reqs[r]? = some x) (hph : x.phase = .done o) (hw : kindOf o = .refused → s.wins ≠ [r])
    (hok : o = .ok → s.wins = [r] ∧ s.oks = [r] ∧
      ∀ k, k < evs.length → C20.isAccepted (C20.getEv evs k) = false) :
    EInv s (evs ++ [.resp r (kindOf o)]) := by
  refine h.snoc _ ?_ nofun (fun _ _ _ => rfl) (fun ha => ?_) (fun _ _ _ _ => rfl)
  · rintro _ _ ⟨⟩
    refine ⟨lt_length_of_getElem? hx, fun y hy hp => ?_, hw⟩
    cases hx.symm.trans hy
    rw [hph] at hp
    exact hp.elim nofun nofun
  · obtain rfl : o = .ok := by cases o <;> first | rfl | cases ha
    obtain ⟨hw, ho, hno⟩ := hok rfl
    obtain ⟨j, fgn, hj, h1, h2⟩ := h.reqEv r x hx
    obtain rfl : fgn = false := h2 (.inr (.inr (.inl hph)))
    exact ⟨hno, r, x.payload, j, hw, ho, ⟨x, hx, rfl⟩, rfl, hj, h1⟩

theorem einv_recs {s : St} {evs : List C20.Ev} (h : EInv s evs) (hi : Inv s) :
    EInv s (evs ++ [.recs (recsOf s)]) := by
  refine h.snoc _ nofun (fun hc => ⟨rfl, ?_⟩) (fun i hl hc => ?_) nofun (fun r p => recordsOf_won hi)
  · -- complete records are not the empty ones, so there is a winner, and its `req` event is there
    have hne : s.etcd ≠ {} := fun he => by simp [C20.isComplete, recsOf, he] at hc
    obtain ⟨r, hw⟩ := hi.wins_of_etcd hne
    obtain ⟨x, hx, _⟩ := hi.won r hw
    obtain ⟨j, fgn, hj, h1, h2⟩ := h.reqEv r x hx
    obtain rfl : fgn = false := h2 (.inr (.inr (.inr hw)))
    exact ⟨r, x.payload, j, hw, ⟨x, hx, rfl⟩, hj, h1⟩
  · rw [(h.compl i hl hc).1]
    exact beq_self_eq_true _

/-- the request-indexed facts are re-established by the caller, the event-indexed ones
    carry over when the winner, the answered request, the records and the payloads stay what they were -/
theorem EInv.transfer {s s1 : St} {evs : List C20.Ev} (h : EInv s evs)
    (hreq : ∀ (r : Nat) (x : Req), s1.reqs[r]? = some x → ∃ j fgn, j < evs.length ∧
       C20.getEv evs j = .req r (infoOf x.payload fgn) ∧
       ((x.phase = .atTxn ∨ x.phase = .committed ∨ x.phase = .done .ok ∨ s1.wins = [r]) → fgn = false))
    (hlen : s.reqs.length ≤ s1.reqs.length)
    (hpend : ∀ (r : Nat) (x : Req), s1.reqs[r]? = some x → (x.phase = .atTxn ∨ x.phase = .committed) →
       ∀ (l : Nat) (k : C20.Kind), l < evs.length → C20.getEv evs l ≠ .resp r k)
    (hnoRef : ∀ r, s1.wins = [r] → ∀ l, l < evs.length → C20.getEv evs l ≠ .resp r .refused)
    (hpay : ∀ r p, payloadOf s r p → payloadOf s1 r p)
    (hwin : ∀ r, s.wins = [r] → s1.wins = [r] ∧ recsOf s1 = recsOf s)
    (hoks : ∀ r, s.oks = [r] → s1.oks = [r]) (hcid : s1.cid = s.cid) :
    EInv s1 evs where
  reqEv := hreq
  bound l r k hl hg := Nat.lt_of_lt_of_le (h.bound l r k hl hg) hlen
  pend := hpend
  noRef := hnoRef
  compl l hl hc := by
    obtain ⟨h2, r, p, j, h3, h4, h5, h6⟩ := h.compl l hl hc
    rw [(hwin r h3).2]
    exact ⟨h2, r, p, j, (hwin r h3).1, hpay r p h4, h5, h6⟩
  stable := h.stable
  acc k hk ha := by
    obtain ⟨r, p, j, h2, h3, h4, h5, h6, h7, h8⟩ := h.acc k hk ha
    rw [hcid]
    exact ⟨r, p, j, (hwin r h2).1, hoks r h3, hpay r p h4, h5, h6, h7, h8⟩
  accU := h.accU

theorem payloadOf_set {s : St} {r : Nat} {x : Req} (hx : s.reqs[r]? = some x) (ph : Phase) {r' : Nat}
    {p : Payload} (h : payloadOf s r' p) : payloadOf (setReq s r { x with phase := ph }) r' p := by
  obtain ⟨z, hz, hp⟩ := h
  by_cases e : r = r'
  · subst e
    cases hx.symm.trans hz
    exact ⟨_, getElem?_set_self_of_some hx, hp⟩
  · exact ⟨z, (List.getElem?_set_ne e).trans hz, hp⟩

theorem einv_addReq {s : St} {evs : List C20.Ev} (h : EInv s evs) (hi : Inv s) (x : Req) (fgn : Bool)
    (hx : x.phase ≠ .committed ∧ x.phase ≠ .done .ok) (hf : x.phase = .atTxn → fgn = false) :
    EInv { s with reqs := s.reqs ++ [x] } (evs ++ [.req s.reqs.length (infoOf x.payload fgn)]) := by
  -- nothing is asked of a `req` event
  have h' := h.snoc (.req s.reqs.length (infoOf x.payload fgn)) nofun nofun (fun _ _ _ => rfl) nofun
    (fun _ _ _ _ => rfl)
  refine h'.transfer (forall_getElem?_snoc h'.reqEv ⟨evs.length, fgn, by simp, getEv_snoc_eq, ?_⟩) (by simp)
    (forall_getElem?_snoc h'.pend fun _ l k hl hg => Nat.lt_irrefl _ (h'.bound l _ k hl hg)) h'.noRef
    (fun r p ⟨y, hy, hp⟩ => ⟨y, getElem?_append_of_some _ hy, hp⟩) (fun _ hw => ⟨hw, rfl⟩) (fun _ ho => ho) rfl
  rintro (h5 | h5 | h5 | h5)
  · exact hf h5
  · exact absurd h5 hx.1
  · exact absurd h5 hx.2
  · exact absurd h5 hi.wins_ne_length

/-- a pending request carries no foreign id and has no answer yet, so it may take any phase -/
theorem einv_setPhase {s : St} {evs : List C20.Ev} (h : EInv s evs) {r : Nat} {x : Req}
    (hx : s.reqs[r]? = some x) (hph : x.phase = .atTxn ∨ x.phase = .committed) (ph : Phase) :
    EInv (setReq s r { x with phase := ph }) evs := by
  obtain ⟨j, fgn, h2, h3, h4⟩ := h.reqEv r x hx
  exact h.transfer (forall_getElem?_set h.reqEv ⟨j, fgn, h2, h3, fun _ => h4 (hph.imp_right .inl)⟩)
    (by simp [setReq]) (forall_getElem?_set h.pend fun _ => h.pend r x hx hph) h.noRef
    (fun _ _ => payloadOf_set hx _) (fun _ hw => ⟨hw, rfl⟩) (fun _ h' => h') rfl

/-- the first winner: so far no observation was complete and no answer an acceptance, whatever is stored now -/
theorem einv_win {s : St} {evs : List C20.Ev} (h : EInv s evs) {r : Nat} {x : Req}
    (hx : s.reqs[r]? = some x) (hph : x.phase = .atTxn) (hw : s.wins = []) (e : Etcd) :
    EInv { s with etcd := e, wins := s.wins ++ [r] } evs := by
  have hw' {r'} (h' : s.wins ++ [r] = [r']) : r = r' := by rw [hw] at h'; exact (List.cons.inj h').1
  refine h.transfer (fun r' y hy => ?_) (Nat.le_refl _) h.pend (fun r' h' l hl hg => ?_) (fun _ _ hp => hp)
    (fun _ h' => nomatch h'.symm.trans hw) (fun _ ho => ho) rfl
  · obtain ⟨j, fgn, h3, h4, h5⟩ := h.reqEv r' y hy
    refine ⟨j, fgn, h3, h4, fun hc => h5 ?_⟩
    obtain h6 | h6 | h6 | h6 := hc
    · exact .inl h6
    · exact .inr (.inl h6)
    · exact .inr (.inr (.inl h6))
    · -- the new winner is `r`, which stands before its transaction
      cases hw' h6
      cases hx.symm.trans hy
      exact .inl hph
  · cases hw' h'
    exact h.pend _ x hx (.inl hph) l _ hl hg

/-- the first `ok`: so far no answer was an acceptance -/
theorem einv_start {s : St} {evs : List C20.Ev} (h : EInv s evs) (ho : s.oks = []) (ms : List Member)
    (oks : List Nat) : EInv { s with members := ms, oks := oks } evs :=
  h.transfer h.reqEv (Nat.le_refl _) h.pend h.noRef (fun _ _ hp => hp) (fun _ hw => ⟨hw, rfl⟩)
    (fun _ h' => nomatch h'.symm.trans ho) rfl

theorem einv_members {s : St} {evs : List C20.Ev} (h : EInv s evs) (ms : List Member) :
    EInv { s with members := ms } evs :=
  h.transfer h.reqEv (Nat.le_refl _) h.pend h.noRef (fun _ _ hp => hp)
    (fun _ hw => ⟨hw, rfl⟩) (fun _ ho => ho) rfl

theorem einv_step (s : St) (evs : List C20.Ev) (op : Op) (hi : Inv s) (h : EInv s evs) :
    EInv (step s op).1 (evs ++ evOf s op) := by
  -- every step ends with an observation of the records, in a state that satisfies `Inv` again
  unfold evOf
  rw [← List.append_assoc]
  refine einv_recs ?_ (inv_step s hi op)
  have hs := step_spec s op
  generalize step s op = res at hs ⊢
  cases hs with
  | @bad op => cases op <;> exact h.append_nil
  | isBootRefused | isBoot | configRefused | config | tso => exact h.append_nil
  | @answered m hdr p o ho =>
    have hne := ho.ne_ok
    show EInv _ (evs ++ [.req _ (infoOf p (decide (hdr ≠ s.cid))), .resp _ (kindOf o)])
    rw [List.append_cons evs]
    exact einv_resp (einv_addReq h hi ⟨m, p, .done o⟩ _ ⟨nofun, fun e => hne (Phase.done.inj e)⟩ nofun)
      List.getElem?_concat_length rfl (fun _ => hi.wins_ne_length) fun e => absurd e hne
  | @parked m p _ =>
    exact einv_addReq h hi ⟨m, p, .atTxn⟩ _ ⟨nofun, nofun⟩ fun _ => decide_eq_false (Ne.irrefl)
  | failed hx hph ho =>
    exact einv_resp (einv_setPhase h hx (.inl hph) _) (getElem?_set_self_of_some hx) rfl
      (fun _ => hi.not_winner hx hph) fun e => absurd e ho
  | won hx hph hroot =>
    exact (einv_setPhase (einv_win h hx hph (hi.wins_nil hroot) _) hx (.inl hph) _).append_nil
  | wonUnseen hx hph hroot =>
    exact einv_resp (einv_setPhase (einv_win h hx hph (hi.wins_nil hroot) _) hx (.inl hph) (.done .txnErr))
      (getElem?_set_self_of_some hx) rfl nofun nofun
  | started hx hph =>
    have ho := hi.oks_nil hx hph
    refine einv_resp (einv_start (einv_setPhase h hx (.inr hph) (.done .ok)) ho _ _)
      (getElem?_set_self_of_some hx) rfl nofun fun _ =>
        ⟨hi.okIn _ _ hx (.inl hph), congrArg (· ++ [_]) ho, fun k hk => ?_⟩
    cases ha : C20.isAccepted (C20.getEv evs k) with
    | false => rfl
    | true =>
      obtain ⟨_, _, _, _, h3, _⟩ := h.acc k hk ha
      exact nomatch h3.symm.trans ho
  | led => exact (einv_members h _).append_nil

theorem events_cons (s : St) (op : Op) (ops : List Op) :
    events s (op :: ops) = evOf s op ++ events (step s op).1 ops := rfl

theorem einv_run {s : St} {evs : List C20.Ev} (hi : Inv s) (h : EInv s evs) (ops : List Op) :
    EInv (run s ops) (evs ++ events s ops) := by
  induction ops generalizing s evs with
  | nil => exact h.append_nil
  | cons op ops ih =>
    rw [events_cons, ← List.append_assoc]
    exact ih (inv_step s hi op) (einv_step s evs op hi h)

end PdModel.Bootstrap
