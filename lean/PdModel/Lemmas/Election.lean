import PdModel.Lemmas.Election.Call
/-! Whole histories of the election model: a call of contender `i` lifted to the global state, the invariant of
    all histories (`Inv0`: lease ids are handed out once), the invariant of faithful histories (`InvF`), and what
    a snapshot shows of a state. -/
namespace PdModel.Election
open PdModel.Spec

@[simp] theorem step_snd (s : St) (op : Op) : (step s op).2 = (step0 s op).2 := rfl
@[simp] theorem fireWatchers_etcd (b : Etcd) (s : St) : (fireWatchers b s).etcd = s.etcd := rfl
@[simp] theorem fireWatchers_stamp (b : Etcd) (s : St) : (fireWatchers b s).stamp = s.stamp := rfl
@[simp] theorem step_etcd (s : St) (op : Op) : (step s op).1.etcd = (step0 s op).1.etcd := rfl
@[simp] theorem step_stamp (s : St) (op : Op) : (step s op).1.stamp = (step0 s op).1.stamp := rfl

theorem set_self {α} (l : List α) (i : Nat) (a : α) (h : l[i]? = some a) : l.set i a = l := by
  obtain ⟨hi, rfl⟩ := List.getElem?_eq_some_iff.1 h
  exact List.set_getElem_self hi

theorem step0_on (s : St) (i : Nat) (c : Cont) (a : LOp) (hc : s.conts[i]? = some c) :
    step0 s (.on i a) =
      ({ etcd := (loc ⟨s.etcd, s.stamp, c⟩ a).1.etcd, stamp := (loc ⟨s.etcd, s.stamp, c⟩ a).1.stamp,
         conts := s.conts.set i (loc ⟨s.etcd, s.stamp, c⟩ a).1.c }, (loc ⟨s.etcd, s.stamp, c⟩ a).2) := by
  rw [step0, hc]

theorem step0_on_self (s : St) (i : Nat) (c c' : Cont) (a : LOp) (hc : s.conts[i]? = some c)
    (h : (step0 s (.on i a)).1.conts[i]? = some c') : c' = (loc ⟨s.etcd, s.stamp, c⟩ a).1.c := by
  rw [step0_on s i c a hc] at h
  rcases getElem?_set_cases h with ⟨_, e⟩ | ⟨hne, _⟩
  · exact e
  · exact absurd rfl hne

theorem step0_rawtxn (s : St) (c t e) :
    (step0 s (.rawtxn c t e)).1 = { s with etcd := (s.etcd.txn c t e).1 } := by
  simp only [step0]
  generalize s.etcd.txn c t e = r
  obtain ⟨e1, o⟩ := r
  cases o <;> rfl

theorem fireWatchers_getElem (b : Etcd) (s : St) (j : Nat) (c' : Cont)
    (h : (fireWatchers b s).conts[j]? = some c') :
    ∃ c, s.conts[j]? = some c ∧ (c' = c ∨ c' = { c with cache := 0, watching := false }) := by
  simp only [fireWatchers, List.getElem?_map, Option.map_eq_some_iff] at h
  obtain ⟨c, hc, rfl⟩ := h
  exact ⟨c, hc, by split <;> simp⟩

theorem fireWatchers_self (s : St) : fireWatchers s.etcd s = s := by
  unfold fireWatchers
  have : (s.conts.map fun c =>
      if (c.watching && (s.etcd.kv (.leader c.key)).isSome && (s.etcd.kv (.leader c.key)).isNone) = true
      then { c with cache := 0, watching := false } else c) = s.conts := by
    conv => rhs; rw [← List.map_id s.conts]
    apply List.map_congr_left
    intro c _
    cases s.etcd.kv (.leader c.key) <;> simp
  rw [this]

/-- the store is as before, so no watcher fires -/
theorem step_on_unchanged (s : St) (i : Nat) (c : Cont) (a : LOp) (hc : s.conts[i]? = some c)
    (h : (loc ⟨s.etcd, s.stamp, c⟩ a).1 = ⟨s.etcd, s.stamp, c⟩) : (step s (.on i a)).1 = s := by
  simp only [step, step0_on s i c a hc, h]
  rw [set_self _ _ _ hc]
  exact fireWatchers_self s

structure Inv0 (s : St) : Prop where
  le   : ∀ (i : Nat) (c : Cont), s.conts[i]? = some c → lid c ≤ s.etcd.granted
  uniq : ∀ (i j : Nat) (ci cj : Cont), i ≠ j → s.conts[i]? = some ci → s.conts[j]? = some cj →
           lid ci ≠ 0 → lid ci ≠ lid cj
  wf   : ∀ (i : Nat) (c : Cont), s.conts[i]? = some c → LWf c

theorem inv0_init : Inv0 init := by
  constructor <;> simp [init]

/-- every contender keeps its lease id, drops it, or (only contender `i`) gets one granted since -/
theorem inv0_of_frame (s s' : St) (i : Nat) (h : Inv0 s)
    (hg : s.etcd.granted ≤ s'.etcd.granted)
    (hf : ∀ (j : Nat) (c' : Cont), s'.conts[j]? = some c' →
      LWf c' ∧ (lid c' = 0 ∨ (∃ c, s.conts[j]? = some c ∧ lid c' = lid c) ∨
        (j = i ∧ s.etcd.granted < lid c' ∧ lid c' ≤ s'.etcd.granted))) :
    Inv0 s' := by
  -- an id that was around before is below one granted since
  have old : ∀ {j c n}, s.conts[j]? = some c → s.etcd.granted < n → lid c ≠ n := fun hc hn =>
    Nat.ne_of_lt (Nat.lt_of_le_of_lt (h.le _ _ hc) hn)
  refine ⟨fun j c' hc' => ?_, fun j k cj ck hjk hj hk hne => ?_, fun j c' hc' => (hf j c' hc').1⟩
  · rcases (hf j c' hc').2 with h0 | ⟨c, hc, e⟩ | ⟨_, _, e⟩
    · rw [h0]; exact Nat.zero_le _
    · rw [e]; exact Nat.le_trans (h.le j c hc) hg
    · exact e
  · rcases (hf j cj hj).2 with h0 | ⟨c, hc, e⟩ | ⟨rfl, e1, _⟩
    · exact absurd h0 hne
    · rcases (hf k ck hk).2 with h0' | ⟨c2, hc2, e'⟩ | ⟨rfl, e1, _⟩
      · rw [h0']; exact hne
      · rw [e, e']; exact h.uniq j k c c2 hjk hc hc2 (e ▸ hne)
      · rw [e]; exact old hc e1
    · rcases (hf k ck hk).2 with h0' | ⟨c2, hc2, e'⟩ | ⟨rfl, _, _⟩
      · rw [h0']; exact hne
      · rw [e']; exact (old hc2 e1).symm
      · exact absurd rfl hjk

/-- a call of contender `i` put back into the state -/
theorem Inv0.call {s : St} (h : Inv0 s) {i : Nat} {c : Cont} (hi : s.conts[i]? = some c) {z : Loc}
    (hl : LidStep ⟨s.etcd, s.stamp, c⟩ z) :
    Inv0 { etcd := z.etcd, stamp := z.stamp, conts := s.conts.set i z.c } := by
  refine inv0_of_frame s _ i h hl.granted (forall_getElem?_set
    (fun j c' hj => ⟨h.wf j c' hj, .inr (.inl ⟨c', hj, rfl⟩)⟩) ⟨hl.wf (h.wf i c hi), ?_⟩)
  rcases hl.ref with e | e | e
  · exact .inr (.inl ⟨c, hi, e⟩)
  · exact .inl e
  · exact .inr (.inr ⟨rfl, e⟩)

theorem inv0_step0 (s : St) (h : Inv0 s) (op : Op) : Inv0 (step0 s op).1 := by
  have same : ∀ {s' : St}, s.etcd.granted ≤ s'.etcd.granted → s'.conts = s.conts → Inv0 s' :=
    fun hg hc => inv0_of_frame s _ 0 h hg fun j c' hc' =>
      ⟨h.wf j c' (hc ▸ hc'), .inr (.inl ⟨c', hc ▸ hc', rfl⟩)⟩
  cases op with
  | new k m =>
    exact inv0_of_frame s _ 0 h (Nat.le_refl _) (forall_getElem?_snoc
      (fun j c' hc => ⟨h.wf j c' hc, .inr (.inl ⟨c', hc, rfl⟩)⟩) ⟨⟨nofun, nofun⟩, .inl rfl⟩)
  | expire id => exact same (Nat.le_of_eq (revoke_granted _ _).symm) rfl
  | rawgrant => exact same (Nat.le_succ _) rfl
  | rawtxn c t e =>
    rw [step0_rawtxn]
    exact same (Nat.le_of_eq (txn_granted _ _ _ _).symm) rfl
  | on i a =>
    cases hi : s.conts[i]? with
    | none => simp only [step0, hi]; exact h
    | some c =>
      rw [step0_on s i c a hi]
      exact h.call hi (loc_ok _ a).lid

theorem Inv0.fireWatchers {s : St} (h : Inv0 s) (b : Etcd) : Inv0 (fireWatchers b s) := by
  refine inv0_of_frame s _ 0 h (Nat.le_refl _) fun j c' hc' => ?_
  obtain ⟨c, hc, rfl | rfl⟩ := fireWatchers_getElem _ _ _ _ hc'
  · exact ⟨h.wf j _ hc, .inr (.inl ⟨_, hc, rfl⟩)⟩
  · exact ⟨h.wf j c hc, .inr (.inl ⟨c, hc, rfl⟩)⟩

theorem inv0_step (s : St) (h : Inv0 s) (op : Op) : Inv0 (step s op).1 :=
  (inv0_step0 s h op).fireWatchers _

theorem inv0_run (s : St) (h : Inv0 s) (ops : List Op) : Inv0 (run s ops) := by
  induction ops generalizing s with
  | nil => exact h
  | cons op ops ih => exact ih _ (inv0_step s h op)

theorem find_filterMap_key {γ β} (L : List Nat) (g : Nat → Option γ) (f : γ → β) (k : Nat) :
    ((L.filterMap (fun l => (g l).map (fun e => (l, f e)))).find? (fun p => decide (p.1 = k))).map (·.2) =
      if k ∈ L then (g k).map f else none := by
  induction L with
  | nil => simp
  | cons a t ih =>
    rw [List.filterMap_cons]
    cases hg : g a with
    | none =>
      simp only [Option.map_none]
      rw [ih]
      by_cases hak : k = a
      · subst hak; simp [hg]
      · simp [hak]
    | some e =>
      simp only [Option.map_some, List.find?_cons]
      by_cases hak : a = k
      · subst hak; simp [hg]
      · have hka : ¬ k = a := fun h => hak h.symm
        simp only [hak, decide_false]
        rw [ih]; simp [hka]

theorem mem_dedup (L : List Nat) (k : Nat) : k ∈ dedup L ↔ k ∈ L := by
  induction L with
  | nil => simp [dedup]
  | cons a t ih =>
    simp only [dedup, List.mem_cons, List.mem_filter, ih, bne_iff_ne, ne_eq]
    by_cases h : k = a <;> simp [h]

theorem snapOf_recOf (s : St) (c : Cont) (hc : c ∈ s.conts) :
    (snapOf s).recOf c.key = (s.etcd.kv (.leader c.key)).map fun e => ⟨e.val, e.lease⟩ :=
  (find_filterMap_key _ (fun l => s.etcd.kv (.leader l)) _ c.key).trans
    (if_pos ((mem_dedup _ _).2 (List.mem_map.2 ⟨c, hc, rfl⟩)))

theorem viewOf_getElem (s : St) (i : Nat) : (snapOf s).views[i]? = (s.conts[i]?).map viewOf := by
  simp [snapOf]

theorem viewOf_mem {s : St} {i : Nat} {c : Cont} (hc : s.conts[i]? = some c) : viewOf c ∈ (snapOf s).views :=
  List.mem_map.2 ⟨c, List.mem_of_getElem? hc, rfl⟩

theorem lid_viewOf (c : Cont) : (viewOf c).lease = lid c := rfl

theorem holder_viewOf (s : St) (c : Cont) (hc : c ∈ s.conts) :
    (snapOf s).holder (viewOf c) = true ↔
      lid c ≠ 0 ∧ s.etcd.kv (.leader c.key) = some ⟨c.member, lid c⟩ := by
  simp only [C03.Snap.holder, Bool.and_eq_true, bne_iff_ne, ne_eq, beq_iff_eq]
  rw [show (viewOf c).key = c.key from rfl, snapOf_recOf s c hc, lid_viewOf,
    show (viewOf c).member = c.member from rfl]
  cases s.etcd.kv (.leader c.key) with
  | none => simp
  | some e => cases e; simp

theorem filter_length_le_one {α} (l : List α) (p : α → Bool)
    (h : ∀ (i j : Nat) (a b : α), i < j → l[i]? = some a → l[j]? = some b → p a = true → p b = true → False) :
    (l.filter p).length ≤ 1 := by
  -- no two elements of the filtered list can stand side by side
  have hp : (l.filter p).Pairwise fun _ _ => False := by
    rw [List.pairwise_filter, List.pairwise_iff_getElem]
    exact fun i j hi hj hij ha hb => h i j _ _ hij (List.getElem?_eq_getElem hi) (List.getElem?_eq_getElem hj) ha hb
  generalize l.filter p = m at hp
  match m, hp with
  | [], _ => exact Nat.zero_le _
  | [_], _ => exact Nat.le_refl _
  | a :: b :: _, hp => exact ((List.pairwise_cons.1 hp).1 b List.mem_cons_self).elim

structure InvF (s : St) : Prop where
  inv0 : Inv0 s
  lf   : ∀ (i : Nat) (c : Cont), s.conts[i]? = some c → LF s.etcd c
  distinct : ∀ (i j : Nat) (ci cj : Cont), i ≠ j → s.conts[i]? = some ci → s.conts[j]? = some cj →
    ¬ (ci.key = cj.key ∧ ci.member = cj.member)

theorem distinct_of_same {l l' : List Cont}
    (hd : ∀ (i j : Nat) (ci cj : Cont), i ≠ j → l[i]? = some ci → l[j]? = some cj →
      ¬ (ci.key = cj.key ∧ ci.member = cj.member))
    (h : ∀ (n : Nat) (c' : Cont), l'[n]? = some c' → ∃ c, l[n]? = some c ∧ c'.key = c.key ∧ c'.member = c.member)
    (i j : Nat) (ci cj : Cont) (hij : i ≠ j) (hi : l'[i]? = some ci) (hj : l'[j]? = some cj) :
    ¬ (ci.key = cj.key ∧ ci.member = cj.member) := by
  obtain ⟨c1, h1, k1, m1⟩ := h i ci hi
  obtain ⟨c2, h2, k2, m2⟩ := h j cj hj
  rw [k1, k2, m1, m2]
  exact hd i j c1 c2 hij h1 h2

theorem invF_init : InvF init := ⟨inv0_init, by simp [init], by simp [init]⟩

theorem cacheSelf_viewOf (c : Cont) : (viewOf c).cacheSelf = false ↔ c.cache ≠ c.member := by
  simp [viewOf]

/-- What the invariant of faithful histories needs of the environment assumptions, read on the state.  Less than
    `faithful` asks: for `delkey` and `observe` nothing about the announcement and the TSO memory. -/
def Pre (s : St) : Op → Prop
  | .new k m => m ≠ 0 ∧ ∀ (j : Nat) (cj : Cont), s.conts[j]? = some cj → ¬ (cj.key = k ∧ cj.member = m)
  | .expire id => ∀ (j : Nat) (c : Cont), s.conts[j]? = some c → lid c ≠ id ∨ c.check = false
  | .rawgrant => True
  | .rawtxn _ t e => ∀ o ∈ t ++ e, ∀ k : Nat, o.key ≠ .leader k
  | .on i a => ∀ c, s.conts[i]? = some c → LPre ⟨s.etcd, s.stamp, c⟩ a

theorem pre_of_faithful {s : St} {op : Op} (hf : faithful s op = true) : Pre s op := by
  cases op with
  | new k m =>
    simp only [faithful, actOf, C03.Act.ok, Bool.and_eq_true, bne_iff_ne, ne_eq, List.all_eq_true,
      Bool.not_eq_true', Bool.and_eq_false_iff, beq_eq_false_iff_ne] at hf
    exact ⟨hf.1, fun j cj hcj ⟨a, b⟩ => (hf.2 _ (viewOf_mem hcj)).elim (fun t => t a) (fun t => t b)⟩
  | expire id =>
    simp only [faithful, actOf, C03.Act.ok, List.all_eq_true, Bool.or_eq_true, bne_iff_ne, ne_eq,
      Bool.not_eq_true'] at hf
    exact fun j c hc => hf _ (viewOf_mem hc)
  | rawgrant => trivial
  | rawtxn cm t e =>
    simp only [faithful, actOf, C03.Act.ok, Bool.not_eq_true', List.any_eq_false] at hf
    intro o ho k hkey
    have := hf o ho
    simp [hkey, Key.isLeader] at this
  | on i a =>
    intro c hc
    have hv : (snapOf s).views[i]? = some (viewOf c) := by rw [viewOf_getElem, hc]; rfl
    cases a
    case write w f =>
      cases w <;> first | exact True.intro | (simp only [faithful, actOf, C03.Act.ok, hv] at hf; exact hf)
    case delkey f rv =>
      simp only [faithful, actOf, C03.Act.ok, hv, Bool.and_eq_true, Bool.not_eq_true'] at hf
      refine ⟨hf.1.1.1, fun y hy => ?_⟩
      have := hf.2
      rw [show (viewOf c).key = c.key from rfl, snapOf_recOf s c (List.mem_of_getElem? hc), hy] at this
      simpa [viewOf] using this
    case observe =>
      simp only [faithful, actOf, C03.Act.ok, hv, Bool.and_eq_true, Bool.not_eq_true'] at hf
      exact hf.1.1
    all_goals first
      | exact True.intro
      | (simp only [faithful, actOf, C03.Act.ok, hv, Bool.and_eq_true, Bool.not_eq_true', decide_eq_true_eq,
          cacheSelf_viewOf] at hf
         exact hf)

/-- a call of contender `i` put back into the state: the others keep `LF` by what the call guarantees, their
    leases being foreign to it since lease ids are handed out once -/
theorem InvF.call {s : St} (h : InvF s) {i : Nat} {c : Cont} (hi : s.conts[i]? = some c) {z : Loc}
    (hl : LidStep ⟨s.etcd, s.stamp, c⟩ z) (hg : Guar ⟨s.etcd, s.stamp, c⟩ z) (hz : LF z.etcd z.c) :
    InvF { etcd := z.etcd, stamp := z.stamp, conts := s.conts.set i z.c } := by
  refine ⟨h.inv0.call hi hl, fun j c' hc' => ?_, distinct_of_same h.distinct (forall_getElem?_set
    (fun n cn hn => ⟨cn, hn, rfl, rfl⟩) ⟨c, hi, hl.key, hl.member⟩)⟩
  rcases getElem?_set_cases hc' with ⟨rfl, rfl⟩ | ⟨hne, hj⟩
  · exact hz
  · have foreign (hnz : lid c' ≠ 0) : Foreign ⟨s.etcd, s.stamp, c⟩ (lid c') :=
      ⟨hnz, h.inv0.uniq j i c' c hne hj hi hnz, h.inv0.le j c' hj⟩
    exact (h.lf j c' hj).of_store (fun hnz => hg.live _ (foreign hnz))
      fun hnz => hg.recd _ _ (foreign hnz) (h.distinct j i c' c hne hj hi)

theorem invF_step0 (s : St) (h : InvF s) (op : Op) (hp : Pre s op) : InvF (step0 s op).1 := by
  have h0 := inv0_step0 s h.inv0 op
  cases op with
  | new k m =>
    obtain ⟨hm, hnew⟩ := hp
    refine ⟨h0, forall_getElem?_snoc h.lf (.of_resigned _ rfl rfl hm nofun), fun i j ci cj hij hci hcj => ?_⟩
    rcases getElem?_snoc_cases hci with ⟨_, hi⟩ | ⟨hi, rfl⟩ <;> rcases getElem?_snoc_cases hcj with ⟨_, hj⟩ | ⟨hj, rfl⟩
    · exact h.distinct i j ci cj hij hi hj
    · exact hnew i ci hi
    · exact fun ⟨a, b⟩ => hnew j cj hj ⟨a.symm, b.symm⟩
    · exact absurd (hi.trans hj.symm) hij
  | expire id =>
    refine ⟨h0, fun j c hc => ?_, h.distinct⟩
    -- the lease that goes is not the one of a contender whose local view is unexpired
    refine (h.lf j c hc).of_env (fun l hl hne hex hlive => (revoke_live_ne ?_).trans hlive)
      (fun l hl hne hlive' => ⟨live_of_revoke_live hlive', fun hr => ?_⟩)
    · rcases hp j c hc with hx | hx
      · exact lid_of_some hl ▸ hx
      · cases (check_iff.2 ⟨l, hl, hex⟩).symm.trans hx
    · rcases revoke_kv_cases s.etcd id (.leader c.key) with r | r
      · exact r.trans hr
      · have e : l.id = id := by simpa [hr] using r.2.1
        have h2 : (s.etcd.revoke id).live l.id = true := hlive'
        rw [e, r.2.2.2] at h2
        cases h2
  | rawgrant =>
    exact ⟨h0, fun j c hc => (h.lf j c hc).of_store (fun _ => grant_live_le (h.inv0.le j c hc)) fun _ => id,
      h.distinct⟩
  | rawtxn cm t e =>
    rw [step0_rawtxn] at h0 ⊢
    exact ⟨h0, fun j c hc => (h.lf j c hc).of_store (fun _ => by rw [txn_live])
      fun _ => (txn_kv_of_not_mem _ _ _ _ _ fun o ho => hp o ho _).trans, h.distinct⟩
  | on i a =>
    cases hi : s.conts[i]? with
    | none => simp only [step0, hi]; exact h
    | some c =>
      have ok := loc_ok ⟨s.etcd, s.stamp, c⟩ a
      obtain ⟨hg, hl⟩ := ok.next (h.lf i c hi) (h.inv0.wf i c hi) (hp c hi)
      rw [step0_on s i c a hi]
      exact h.call hi ok.lid hg hl

/-- a watcher that is woken unsets its leader cache -/
theorem InvF.fireWatchers {s : St} (h : InvF s) (b : Etcd) : InvF (fireWatchers b s) := by
  refine ⟨h.inv0.fireWatchers b, fun j c' hc' => ?_, distinct_of_same h.distinct fun n c' hc' => ?_⟩
  · obtain ⟨c, hc, rfl | rfl⟩ := fireWatchers_getElem _ _ _ _ hc'
    · exact h.lf j _ hc
    · exact (h.lf j c hc).unsetLeader _
  · obtain ⟨c, hc, rfl | rfl⟩ := fireWatchers_getElem _ _ _ _ hc' <;> exact ⟨_, hc, rfl, rfl⟩

theorem invF_step (s : St) (h : InvF s) (op : Op) (hp : Pre s op) : InvF (step s op).1 :=
  (invF_step0 s h op hp).fireWatchers _

/-- every step of the history respects the environment assumptions -/
def faithfulRun : St → List Op → Bool
  | _, [] => true
  | s, op :: ops => faithful s op && faithfulRun (step s op).1 ops

theorem invF_run (s : St) (h : InvF s) (ops : List Op) (hf : faithfulRun s ops = true) :
    InvF (run s ops) := by
  induction ops generalizing s with
  | nil => exact h
  | cons op ops ih =>
    simp only [faithfulRun, Bool.and_eq_true] at hf
    exact ih _ (invF_step s h op (pre_of_faithful hf.1)) hf.2

end PdModel.Election
