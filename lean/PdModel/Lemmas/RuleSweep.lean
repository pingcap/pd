import PdModel.Lemmas.RuleOrder
/-! The sweep of buildRuleList over the sorted split points computes, for every distinct key, the sorted list
    of the rules that cover it – whatever the order among points with equal keys, and whatever the order in which
    the rule set is given. -/
namespace PdModel.Rules
open PdModel.Spec.C13

def startPt (r : GRule) : Point := ⟨.tStart, r.rule.start, r⟩
def endPt (r : GRule) : Point := ⟨.tEnd, r.rule.end_, r⟩

/-- the sorted rules after the points `Q` have been applied -/
def srAfter (Q : List Point) : List GRule := Q.foldl (fun sr p => applyPoint p sr) []

theorem srAfter_snoc (Q : List Point) (p : Point) : srAfter (Q ++ [p]) = applyPoint p (srAfter Q) := by
  simp [srAfter, List.foldl_append]

/-- every bounded range is non-empty -/
def RangeWF (rules : List GRule) : Prop := ∀ r ∈ rules, r.rule.end_ = 0 ∨ r.rule.start < r.rule.end_

theorem pointsOf_eq (r : GRule) : pointsOf r = startPt r :: (if r.rule.end_ ≠ 0 then [endPt r] else []) := rfl

theorem startPt_eq {x r : GRule} : startPt x = startPt r ↔ x = r := ⟨congrArg Point.rule, congrArg startPt⟩
theorem endPt_eq {x r : GRule} : endPt x = endPt r ↔ x = r := ⟨congrArg Point.rule, congrArg endPt⟩
theorem startPt_ne_endPt (x r : GRule) : startPt x ≠ endPt r := by simp [startPt, endPt]
theorem endPt_ne_startPt (x r : GRule) : endPt x ≠ startPt r := by simp [startPt, endPt]

theorem rule_of_mem_pointsOf {p : Point} {r : GRule} (h : p ∈ pointsOf r) : p.rule = r := by
  rw [pointsOf_eq, List.mem_cons] at h
  rcases h with e | e
  · rw [e]; rfl
  · split at e
    · rw [List.mem_singleton.1 e]; rfl
    · cases e

theorem mem_points (rules : List GRule) (p : Point) :
    p ∈ rules.flatMap pointsOf ↔ ∃ r ∈ rules, p = startPt r ∨ (r.rule.end_ ≠ 0 ∧ p = endPt r) := by
  simp only [List.mem_flatMap, pointsOf_eq, List.mem_cons]
  refine exists_congr fun r => and_congr_right fun _ => or_congr_right ?_
  split <;> simp [*]

theorem points_nodup (rules : List GRule) (h : rules.Nodup) : (rules.flatMap pointsOf).Nodup := by
  induction rules with
  | nil => exact List.nodup_nil
  | cons r rs ih =>
    rw [List.nodup_cons] at h
    rw [List.flatMap_cons, List.nodup_append]
    refine ⟨?_, ih h.2, fun a ha b hb hab => ?_⟩
    · rw [pointsOf_eq]; split <;> simp [startPt, endPt]
    · obtain ⟨r', hr', hb'⟩ := List.mem_flatMap.1 hb
      exact h.1 (by rw [← rule_of_mem_pointsOf ha, hab, rule_of_mem_pointsOf hb']; exact hr')

/-- the points of `rules`, in some order that is sorted by key -/
structure PointsWF (rules : List GRule) (P : List Point) : Prop where
  perm   : P.Perm (rules.flatMap pointsOf)
  sorted : P.Pairwise (fun a b => a.key ≤ b.key)

section PointsWF
variable {rules : List GRule} {P : List Point} (hP : PointsWF rules P)
include hP

theorem PointsWF.mem (q : Point) :
    q ∈ P ↔ ∃ r ∈ rules, q = startPt r ∨ (r.rule.end_ ≠ 0 ∧ q = endPt r) :=
  hP.perm.mem_iff.trans (mem_points rules q)

theorem PointsWF.mem_iff_rule (q : Point) : q ∈ P ↔ q.rule ∈ rules ∧ q ∈ pointsOf q.rule := by
  rw [hP.perm.mem_iff, List.mem_flatMap]
  constructor
  · rintro ⟨r, hr, hq⟩
    rw [rule_of_mem_pointsOf hq]
    exact ⟨hr, hq⟩
  · exact fun h => ⟨q.rule, h.1, h.2⟩

theorem PointsWF.startPt_mem (x : GRule) : startPt x ∈ P ↔ x ∈ rules :=
  (hP.mem_iff_rule _).trans (and_iff_left List.mem_cons_self)

theorem PointsWF.endPt_mem (x : GRule) (he : x.rule.end_ ≠ 0) : endPt x ∈ P ↔ x ∈ rules :=
  have h : endPt x ∈ pointsOf x := by rw [pointsOf_eq, if_pos he]; exact List.mem_cons_of_mem _ List.mem_cons_self
  (hP.mem_iff_rule _).trans (and_iff_left h)

theorem PointsWF.le_of_mem_done {done rest : List Point} {p : Point} (hsplit : done ++ p :: rest = P) :
    ∀ q ∈ done ++ [p], q.key ≤ p.key := by
  intro q hq
  have hs := hsplit ▸ hP.sorted
  rcases List.mem_append.1 hq with h | h
  · exact (List.pairwise_append.1 hs).2.2 q h p List.mem_cons_self
  · exact Nat.le_of_eq (congrArg Point.key (List.mem_singleton.1 h))

end PointsWF

structure SweepInv (done : List Point) : Prop where
  sorted : (srAfter done).Pairwise RLt
  mem    : ∀ r, r ∈ srAfter done ↔ (startPt r ∈ done ∧ ¬ (r.rule.end_ ≠ 0 ∧ endPt r ∈ done))

theorem sweepInv_nil : SweepInv [] := ⟨List.Pairwise.nil, fun _ => by simp [srAfter]⟩

theorem sweepInv_step {rules : List GRule} (hw : RulesWF rules) (hr : RangeWF rules) {P : List Point}
    (hP : PointsWF rules P) (done : List Point) (p : Point) (rest : List Point) (hsplit : done ++ p :: rest = P)
    (inv : SweepInv done) : SweepInv (done ++ [p]) := by
  have hp_notin : p ∉ done := fun h => by
    have hnd : P.Nodup := hP.perm.nodup_iff.2 (points_nodup rules hw.nodup)
    rw [← hsplit, List.nodup_append] at hnd
    exact hnd.2.2 p h p List.mem_cons_self rfl
  have hle := fun q hq => hP.le_of_mem_done hsplit q (List.mem_append_left _ hq)
  have hsr_rules : ∀ x ∈ srAfter done, x ∈ rules := fun x hx =>
    (hP.startPt_mem x).1 (hsplit ▸ List.mem_append_left _ ((inv.mem x).1 hx).1)
  obtain ⟨r, hrr, hp | ⟨hend, hp⟩⟩ := (hP.mem p).1 (hsplit ▸ List.mem_append_right _ List.mem_cons_self)
  · subst hp
    have hr_notin : r ∉ srAfter done := fun h => hp_notin ((inv.mem r).1 h).1
    have hsr : srAfter (done ++ [startPt r]) = insertRule r (srAfter done) := srAfter_snoc _ _
    refine ⟨hsr ▸ insertRule_sorted _ inv.sorted fun x hx =>
      hw.total (hsr_rules x hx) hrr fun e => hr_notin (e ▸ hx), fun x => ?_⟩
    rw [hsr]
    -- the range of `r` is not empty: its end point has not been met
    have hopen : ¬ (r.rule.end_ ≠ 0 ∧ endPt r ∈ done) := fun ⟨he, h⟩ => by
      have : r.rule.end_ ≤ r.rule.start := hle _ h
      rcases hr r hrr with h0 | h0 <;> omega
    simp only [mem_insertRule, inv.mem x, List.mem_append, List.mem_singleton, startPt_eq, endPt_ne_startPt, or_false]
    constructor
    · rintro (e | ⟨h1, h2⟩)
      · exact ⟨Or.inr e, e ▸ hopen⟩
      · exact ⟨Or.inl h1, h2⟩
    · rintro ⟨h1 | e, h2⟩
      · exact Or.inr ⟨h1, h2⟩
      · exact Or.inl e
  · subst hp
    have hkeys := sorted_keys_ne hw (srAfter done) inv.sorted hsr_rules
    have hsr : srAfter (done ++ [endPt r]) = deleteRule r (srAfter done) := srAfter_snoc _ _
    refine ⟨hsr ▸ inv.sorted.sublist (deleteRule_sublist _ _), fun x => ?_⟩
    rw [hsr]
    simp only [mem_deleteRule r x _ hkeys, List.mem_append, List.mem_singleton, endPt_eq, startPt_ne_endPt, or_false]
    constructor
    · rintro ⟨hx, hne⟩
      have hm := (inv.mem x).1 hx
      exact ⟨hm.1, fun ⟨he, h⟩ => h.elim (fun h => hm.2 ⟨he, h⟩) fun e => hne (e ▸ rfl)⟩
    · rintro ⟨h1, h2⟩
      have hx : x ∈ srAfter done := (inv.mem x).2 ⟨h1, fun h => h2 ⟨h.1, Or.inl h.2⟩⟩
      exact ⟨hx, fun hk => h2 ⟨hw.keyInj x (hsr_rules x hx) r hrr hk ▸ hend, Or.inr (hw.keyInj x (hsr_rules x hx) r hrr hk)⟩⟩

theorem covers_iff (r : Rule) (k : Nat) : covers r k = true ↔ r.start ≤ k ∧ (r.end_ = 0 ∨ k < r.end_) := by
  simp only [covers, Bool.and_eq_true, Bool.or_eq_true, decide_eq_true_eq, beq_iff_eq]

/-- the rules covering key `x`, in apply order -/
def coverList (rules : List GRule) (x : Nat) : List GRule := sortRules (rules.filter (fun r => covers r.rule x))

/-- `coverList` is what the index holds for a key (`rules_by_key_exact`): exactly the rules whose range contains
    the key, strictly ascending by (group index, group id, index, id) -/
theorem coverList_spec (rules : List GRule) (hw : RulesWF rules) (k : Nat) :
    (∀ r, r ∈ coverList rules k ↔ (r ∈ rules ∧ covers r.rule k = true)) ∧ (coverList rules k).Pairwise RLt := by
  refine ⟨fun r => ?_, sortRules_sorted _ (hw.sublist List.filter_sublist)⟩
  unfold coverList
  rw [mem_sortRules, List.mem_filter]

/-- buildRuleList, stated over the *set* of rules: one range per distinct key -/
def specLoop (rules : List GRule) : List Nat → RuleList → Except BuildErr RuleList
  | [], acc => .ok acc
  | x :: xs, acc =>
    match pushSeg x (coverList rules x) acc with
    | .error e => .error e
    | .ok acc' => specLoop rules xs acc'

/-- the keys at which the sweep pushes a range -/
def dkeys : List Point → List Nat
  | [] => []
  | p :: rest => if lastOfKey p rest then p.key :: dkeys rest else dkeys rest

theorem lastOfKey_gt (p : Point) (rest : List Point) (hs : (p :: rest).Pairwise (fun a b => a.key ≤ b.key))
    (hl : lastOfKey p rest = true) : ∀ q ∈ rest, p.key < q.key := by
  cases rest with
  | nil => exact fun _ h => (List.not_mem_nil h).elim
  | cons q0 qs =>
    rw [List.pairwise_cons, List.pairwise_cons] at hs
    have h0 : p.key < q0.key :=
      Nat.lt_of_le_of_ne (hs.1 q0 List.mem_cons_self) (Ne.symm (bne_iff_ne.1 hl))
    intro q hq
    rcases List.mem_cons.1 hq with e | e
    · exact e ▸ h0
    · exact Nat.lt_of_lt_of_le h0 (hs.2.1 q e)

theorem srAfter_boundary {rules : List GRule} (hw : RulesWF rules) {P : List Point} (hP : PointsWF rules P)
    (done : List Point) (p : Point) (rest : List Point) (hsplit : done ++ p :: rest = P)
    (inv : SweepInv (done ++ [p])) (hl : lastOfKey p rest = true) :
    srAfter (done ++ [p]) = coverList rules p.key := by
  have hgt := lastOfKey_gt p rest (List.pairwise_append.1 (hsplit ▸ hP.sorted)).2.1 hl
  have hle := hP.le_of_mem_done hsplit
  have hPsplit : ∀ q, q ∈ P ↔ q ∈ done ++ [p] ∨ q ∈ rest := fun q => by
    rw [← hsplit, List.append_cons, List.mem_append]
  have ⟨hmem, hsorted⟩ := coverList_spec rules hw p.key
  apply sorted_ext RLt RLt.irrefl RLt.trans _ _ inv.sorted hsorted
  intro x
  rw [hmem, inv.mem x, covers_iff]
  constructor
  · rintro ⟨h1, h2⟩
    have hxr : x ∈ rules := (hP.startPt_mem x).1 ((hPsplit _).2 (Or.inl h1))
    refine ⟨hxr, hle _ h1, ?_⟩
    by_cases he : x.rule.end_ = 0
    · exact Or.inl he
    · rcases (hPsplit _).1 ((hP.endPt_mem x he).2 hxr) with h | h
      · exact absurd ⟨he, h⟩ h2
      · exact Or.inr (hgt _ h)
  · rintro ⟨hxr, hc1, hc2⟩
    constructor
    · rcases (hPsplit _).1 ((hP.startPt_mem x).2 hxr) with h | h
      · exact h
      · exact absurd hc1 (Nat.not_le.2 (hgt _ h))
    · rintro ⟨he, h⟩
      exact hc2.elim he fun h0 => absurd (hle _ h) (Nat.not_le.2 h0)

theorem sweep_eq {rules : List GRule} (hw : RulesWF rules) (hr : RangeWF rules) {P : List Point}
    (hP : PointsWF rules P) : ∀ (rest done : List Point) (acc : RuleList), done ++ rest = P → SweepInv done →
      sweep rest (srAfter done) acc = specLoop rules (dkeys rest) acc := by
  intro rest
  induction rest with
  | nil => intro done acc _ _; simp [sweep, dkeys, specLoop]
  | cons p rest ih =>
    intro done acc hsplit inv
    have inv' := sweepInv_step hw hr hP done p rest hsplit inv
    have hsplit' : (done ++ [p]) ++ rest = P := by rw [List.append_assoc]; exact hsplit
    simp only [sweep, dkeys, ← srAfter_snoc]
    by_cases hl : lastOfKey p rest = true
    · simp only [hl, ↓reduceIte, specLoop]
      rw [← srAfter_boundary hw hP done p rest hsplit inv' hl]
      cases pushSeg p.key (srAfter (done ++ [p])) acc with
      | error e => rfl
      | ok acc' => exact ih (done ++ [p]) acc' hsplit' inv'
    · simp only [hl, Bool.false_eq_true, ↓reduceIte]
      exact ih (done ++ [p]) acc hsplit' inv'

theorem mem_dkeys (P : List Point) (x : Nat) : x ∈ dkeys P ↔ ∃ p ∈ P, p.key = x := by
  induction P with
  | nil => simp [dkeys]
  | cons p rest ih =>
    simp only [List.mem_cons, exists_eq_or_imp]
    rw [dkeys]
    split
    · rw [List.mem_cons, ih, eq_comm]
    · next hl =>
      rw [ih]
      refine ⟨Or.inr, fun h => h.elim (fun e => ?_) id⟩
      -- `p` is not the last point of its key: the next one has the same key
      cases rest with
      | nil => exact absurd rfl hl
      | cons q0 qs => exact ⟨q0, List.mem_cons_self, (Decidable.of_not_not (mt bne_iff_ne.2 hl)).trans e⟩

theorem dkeys_sorted (P : List Point) (hs : P.Pairwise (fun a b => a.key ≤ b.key)) :
    (dkeys P).Pairwise (· < ·) := by
  induction P with
  | nil => simp [dkeys]
  | cons p rest ih =>
    have hs' := (List.pairwise_cons.1 hs).2
    simp only [dkeys]
    split
    · next hl =>
      rw [List.pairwise_cons]
      refine ⟨?_, ih hs'⟩
      intro x hx
      obtain ⟨q, hq, rfl⟩ := (mem_dkeys rest x).1 hx
      exact lastOfKey_gt p rest hs hl q hq
    · exact ih hs'

/-- all keys at which a rule starts or ends, ascending and distinct (independent of any order) -/
def bkeys (rules : List GRule) : List Nat :=
  ((rules.flatMap pointsOf).map (·.key)).foldr insertNat []

theorem bkeys_sorted (rules : List GRule) : (bkeys rules).Pairwise (· < ·) := (foldr_insertNat _).1

theorem mem_bkeys_points (rules : List GRule) (x : Nat) :
    x ∈ bkeys rules ↔ ∃ p ∈ rules.flatMap pointsOf, p.key = x := by
  rw [bkeys, (foldr_insertNat _).2, List.mem_map]

theorem mem_bkeys (rules : List GRule) (x : Nat) :
    x ∈ bkeys rules ↔ ∃ r ∈ rules, x = r.rule.start ∨ (r.rule.end_ ≠ 0 ∧ x = r.rule.end_) := by
  rw [mem_bkeys_points]
  constructor
  · rintro ⟨p, hp, rfl⟩
    obtain ⟨r, hr, e | ⟨he, e⟩⟩ := (mem_points rules p).1 hp
    · exact ⟨r, hr, Or.inl (by rw [e]; rfl)⟩
    · exact ⟨r, hr, Or.inr ⟨he, by rw [e]; rfl⟩⟩
  · rintro ⟨r, hr, e | ⟨he, e⟩⟩
    · exact ⟨startPt r, (mem_points rules _).2 ⟨r, hr, Or.inl rfl⟩, e.symm⟩
    · exact ⟨endPt r, (mem_points rules _).2 ⟨r, hr, Or.inr ⟨he, rfl⟩⟩, e.symm⟩

theorem dkeys_eq_bkeys {rules : List GRule} {P : List Point} (hP : PointsWF rules P) : dkeys P = bkeys rules := by
  apply ascending_ext _ _ (dkeys_sorted P hP.sorted) (bkeys_sorted rules)
  intro x
  rw [mem_dkeys, mem_bkeys_points]
  exact exists_congr fun p => and_congr_left fun _ => hP.perm.mem_iff

/-- buildRuleList as a function of the rule set -/
def buildSpec (rules : List GRule) : Except BuildErr RuleList :=
  if rules.isEmpty then .error .noRuleLeft
  else if !rules.any (fun r => r.rule.start == 0) then .error .noRuleForRange
  else specLoop rules (bkeys rules) []

theorem buildSorted_eq {rules : List GRule} (hw : RulesWF rules) (hr : RangeWF rules) {P : List Point}
    (hP : PointsWF rules P) : buildSorted P = buildSpec rules := by
  unfold buildSorted buildSpec
  cases hPl : P with
  | nil =>
    have : rules = [] := List.eq_nil_iff_forall_not_mem.2 fun r hr => by
      have := (hP.startPt_mem r).2 hr
      rw [hPl] at this; cases this
    rw [this]; rfl
  | cons p rest =>
    have hp : p ∈ P := hPl ▸ List.mem_cons_self
    have hne : rules.isEmpty = false :=
      have ⟨r, hr, _⟩ := (hP.mem p).1 hp
      List.isEmpty_eq_false_iff_exists_mem.2 ⟨r, hr⟩
    -- the first point has the smallest key: it is "" iff some rule starts there
    have hhead : p.key = 0 ↔ rules.any (fun r => r.rule.start == 0) = true := by
      rw [List.any_eq_true]
      constructor
      · intro h0
        obtain ⟨r, hr', e | ⟨he, e⟩⟩ := (hP.mem p).1 hp
        · exact ⟨r, hr', beq_iff_eq.2 (h0 ▸ e ▸ rfl)⟩
        · exact absurd (h0 ▸ e ▸ rfl) he
      · rintro ⟨r, hr', h0⟩
        have hr0 : (startPt r).key = 0 := beq_iff_eq.1 h0
        rcases List.mem_cons.1 (hPl ▸ (hP.startPt_mem r).2 hr') with e | e
        · rw [← e, hr0]
        · have := (List.pairwise_cons.1 (hPl ▸ hP.sorted)).1 _ e
          rw [hr0] at this
          exact Nat.le_zero.1 this
    by_cases hk : p.key = 0
    · simp only [hk, hne, hhead.1 hk, ne_eq, not_true_eq_false, Bool.not_true, Bool.false_eq_true, ↓reduceIte]
      rw [← hPl, ← dkeys_eq_bkeys hP]
      exact sweep_eq hw hr hP P [] [] rfl sweepInv_nil
    · have : rules.any (fun r => r.rule.start == 0) = false := Bool.eq_false_iff.2 fun h => hk (hhead.2 h)
      simp only [hk, hne, this, ne_eq, not_false_eq_true, Bool.not_false, Bool.false_eq_true, ↓reduceIte]

theorem insertPoint_eq (p : Point) (l : List Point) :
    insertPoint p l = insBy (fun p q => decide (p.key < q.key)) p l := by
  induction l with
  | nil => rfl
  | cons x xs ih => simp only [insertPoint, insBy, decide_eq_true_eq, ih]

theorem insertPoint_sorted (p : Point) (l : List Point) (h : l.Pairwise (fun a b => a.key ≤ b.key)) :
    (insertPoint p l).Pairwise (fun a b => a.key ≤ b.key) :=
  insertPoint_eq p l ▸ insBy_pairwise (R := fun a b : Point => a.key ≤ b.key) _ (fun _ _ _ => Nat.le_trans) p l h
    (fun _ _ h => Nat.le_of_lt (of_decide_eq_true h)) (fun _ _ h => Nat.le_of_not_lt (of_decide_eq_false h))

theorem sortPoints_perm (ps : List Point) : (sortPoints ps).Perm ps := by
  rw [sortPoints, funext fun p => funext (insertPoint_eq p)]
  exact foldr_insBy_perm _ ps

theorem sortPoints_sorted : ∀ ps : List Point, (sortPoints ps).Pairwise (fun a b => a.key ≤ b.key)
  | [] => List.Pairwise.nil
  | p :: ps => insertPoint_sorted p _ (sortPoints_sorted ps)

theorem sortPoints_wf (rules : List GRule) : PointsWF rules (sortPoints (rules.flatMap pointsOf)) :=
  ⟨sortPoints_perm _, sortPoints_sorted _⟩

/-- buildRuleList equals a specification in which no order of the split points occurs -/
theorem buildRuleList_eq {rules : List GRule} (hw : RulesWF rules) (hr : RangeWF rules) :
    buildRuleList rules = buildSpec rules :=
  buildSorted_eq hw hr (sortPoints_wf rules)

theorem bkeys_perm (r1 r2 : List GRule) (hp : r1.Perm r2) : bkeys r1 = bkeys r2 := by
  apply ascending_ext _ _ (bkeys_sorted r1) (bkeys_sorted r2)
  intro x
  rw [mem_bkeys, mem_bkeys]
  exact exists_congr fun r => and_congr_left fun _ => hp.mem_iff

theorem coverList_perm (r1 r2 : List GRule) (hw : RulesWF r1) (hp : r1.Perm r2) (k : Nat) :
    coverList r1 k = coverList r2 k :=
  sortRules_perm _ _ (hw.sublist List.filter_sublist) (hp.filter _)

theorem specLoop_perm (r1 r2 : List GRule) (hw : RulesWF r1) (hp : r1.Perm r2) (keys : List Nat) (acc : RuleList) :
    specLoop r1 keys acc = specLoop r2 keys acc := by
  induction keys generalizing acc with
  | nil => rfl
  | cons x xs ih =>
    simp only [specLoop, coverList_perm r1 r2 hw hp x]
    cases pushSeg x (coverList r2 x) acc with
    | error e => rfl
    | ok acc' => exact ih acc'

/-- the Go map: the result does not depend on the order in which the rules are iterated -/
theorem build_iteration_order_independent (r1 r2 : List GRule) (hw : RulesWF r1) (hr : RangeWF r1)
    (hp : r1.Perm r2) : buildRuleList r1 = buildRuleList r2 := by
  rw [buildRuleList_eq hw hr, buildRuleList_eq (hw.perm hp) fun r h => hr r (hp.mem_iff.2 h)]
  unfold buildSpec
  have e1 : r1.isEmpty = r2.isEmpty := by
    rw [Bool.eq_iff_iff, List.isEmpty_iff, List.isEmpty_iff]
    exact ⟨fun h => (h ▸ hp).symm.eq_nil, fun h => (h ▸ hp).eq_nil⟩
  have e2 : r1.any (fun r => r.rule.start == 0) = r2.any (fun r => r.rule.start == 0) := hp.any_eq
  rw [e1, e2, bkeys_perm r1 r2 hp, specLoop_perm r1 r2 hw hp]

end PdModel.Rules
