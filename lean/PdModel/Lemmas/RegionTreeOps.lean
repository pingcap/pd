import PdModel.Lemmas.RegionTreeList
/-!
One tree, and one family of per-store trees.  A tree is "a filter of a universe": `TreeIs acc t U P` says that it
holds exactly the items of the ordered list `U` that pass `P`, with the matching total size; `update` and `remove`
move an item in or out of the filter, `updateStat` adjusts the size when an item that stays gets another RegionInfo.  `SubsOk s U` says this of every sub-tree of `s` with
`P` = "has a peer of that kind on that store", and the loops over the stores of a region keep it.
-/
namespace PdModel.RegionTree
open PdModel.Spec.C07 (WFRange WF Overlap OnStore)

theorem mapGet_mapSet {β : Type} (m : List (Nat × β)) (k k' : Nat) (v : β) :
    mapGet (mapSet m k v) k' = if k' = k then some v else mapGet m k' := by
  induction m with
  | nil => simp only [mapSet, mapGet]; split <;> simp_all [eq_comm]
  | cons e m ih =>
    obtain ⟨k0, v0⟩ := e
    simp only [mapSet]
    by_cases h : k0 = k
    · subst h
      simp only [if_true, mapGet]
      by_cases h2 : k0 = k' <;> simp [h2, eq_comm]
      intro h3; exact absurd h3.symm h2
    · simp only [h, if_false, mapGet]
      by_cases h2 : k0 = k'
      · subst h2; simp [h]
      · simp only [h2, if_false]; exact ih

theorem mapGet_mapDel {β : Type} (m : List (Nat × β)) (k k' : Nat) :
    mapGet (mapDel m k) k' = if k' = k then none else mapGet m k' := by
  induction m with
  | nil => simp [mapDel, mapGet]
  | cons e m ih =>
    obtain ⟨k0, v0⟩ := e
    unfold mapDel at ih ⊢
    simp only [List.filter_cons]
    by_cases h : k0 = k
    · subst h
      simp only [ne_eq, not_true_eq_false, decide_false, Bool.false_eq_true, if_false, mapGet]
      rw [ih]
      by_cases h2 : k' = k0
      · simp [h2]
      · simp [h2]; intro h3; exact absurd h3.symm h2
    · simp only [ne_eq, h, not_false_eq_true, decide_true, if_true, mapGet]
      by_cases h2 : k0 = k'
      · subst h2; simp [h]
      · simp only [h2, if_false]; exact ih

theorem mapGet_mem {β : Type} {m : List (Nat × β)} {k : Nat} {v : β} (h : mapGet m k = some v) : (k, v) ∈ m := by
  induction m with
  | nil => simp [mapGet] at h
  | cons e m ih =>
    obtain ⟨k0, v0⟩ := e
    simp only [mapGet] at h
    split at h
    · next hk => cases h; subst hk; simp
    · exact List.mem_cons_of_mem _ (ih h)

theorem mapGet_none_iff {β : Type} {m : List (Nat × β)} {k : Nat} : mapGet m k = none ↔ k ∉ m.map (·.1) := by
  induction m with
  | nil => exact ⟨fun _ => List.not_mem_nil, fun _ => rfl⟩
  | cons e m ih =>
    obtain ⟨k0, v0⟩ := e
    rw [mapGet, List.map_cons, List.mem_cons]
    split
    · next h => exact ⟨fun h' => (nomatch h'), fun h' => absurd (Or.inl h.symm) h'⟩
    · next h => rw [ih]; exact ⟨fun h1 h2 => h2.elim (fun e => h e.symm) h1, fun h1 h2 => h1 (Or.inr h2)⟩

theorem mapSet_keys {β : Type} (m : List (Nat × β)) (k : Nat) (v : β) :
    (mapSet m k v).map (·.1) = if k ∈ m.map (·.1) then m.map (·.1) else m.map (·.1) ++ [k] := by
  induction m with
  | nil => rfl
  | cons e m ih =>
    obtain ⟨k0, v0⟩ := e
    rw [mapSet]
    split
    · next h => rw [List.map_cons, List.map_cons, if_pos (List.mem_cons.2 (Or.inl h.symm)), h]
    · next h =>
      rw [List.map_cons, List.map_cons, ih]
      split
      · next h2 => rw [if_pos (List.mem_cons_of_mem _ h2)]
      · next h2 => rw [if_neg fun hc => (List.mem_cons.1 hc).elim (fun e => h e.symm) h2]; rfl

theorem mapDel_keys {β : Type} (m : List (Nat × β)) (k : Nat) :
    (mapDel m k).map (·.1) = (m.map (·.1)).filter (· ≠ k) := by
  unfold mapDel
  rw [List.filter_map]
  rfl

def sumOf (acc : Acc) (l : List Nat) : Int := (l.map (fun a => (acc a).size)).sum

theorem sumOf_nil (acc : Acc) : sumOf acc [] = 0 := rfl
theorem sumOf_cons (acc : Acc) (a : Nat) (l : List Nat) : sumOf acc (a :: l) = (acc a).size + sumOf acc l := rfl
theorem sumOf_append (acc : Acc) (l1 l2 : List Nat) : sumOf acc (l1 ++ l2) = sumOf acc l1 + sumOf acc l2 := by
  unfold sumOf; rw [List.map_append, List.sum_append]

theorem sumOf_eq_spec (acc : Acc) (l : List Nat) : sumOf acc l = PdModel.Spec.C07.sumSize (l.map acc) := by
  simp [sumOf, PdModel.Spec.C07.sumSize, List.map_map, Function.comp_def]

theorem sumOf_congr {acc acc' : Acc} {l : List Nat} (h : ∀ a ∈ l, acc' a = acc a) : sumOf acc' l = sumOf acc l := by
  unfold sumOf
  congr 1
  apply List.map_congr_left
  intro a ha; rw [h a ha]

theorem sumOf_filter_ne (acc : Acc) {l : List Nat} (hn : l.Nodup) {x : Nat} (hx : x ∈ l) :
    sumOf acc (l.filter (fun a => a ≠ x)) = sumOf acc l - (acc x).size := by
  obtain ⟨l1, l2, rfl, h1, h2⟩ := pairwise_split hn hx
  rw [List.filter_append, List.filter_cons_of_neg (by simp),
    List.filter_eq_self.2 fun a ha => decide_eq_true (h1 a ha),
    List.filter_eq_self.2 fun a ha => decide_eq_true (h2 a ha).symm, sumOf_append, sumOf_append, sumOf_cons]
  omega

theorem sumOf_update {acc acc' : Acc} {l : List Nat} (hn : l.Nodup) {x : Nat} (hx : x ∈ l)
    (h : ∀ a, a ≠ x → acc' a = acc a) : sumOf acc' l = sumOf acc l + (acc' x).size - (acc x).size := by
  obtain ⟨l1, l2, rfl, h1, h2⟩ := pairwise_split hn hx
  rw [sumOf_append, sumOf_append, sumOf_cons, sumOf_cons, sumOf_congr fun a ha => h a (h1 a ha),
    sumOf_congr fun a ha => h a (h2 a ha).symm]
  omega

theorem sumOf_filter_split (acc : Acc) {l : List Nat} {p q : Nat → Bool} (hq : ∀ a ∈ l, q a = !p a) :
    sumOf acc l = sumOf acc (l.filter p) + sumOf acc (l.filter q) := by
  induction l with
  | nil => rfl
  | cons a l ih =>
    have ih := ih fun b hb => hq b (List.mem_cons_of_mem _ hb)
    have hqa := hq a List.mem_cons_self
    rw [sumOf_cons, List.filter_cons, List.filter_cons, hqa, ih]
    cases p a
    · rw [if_neg Bool.false_ne_true, Bool.not_false, if_pos rfl, sumOf_cons]; exact Int.add_left_comm ..
    · rw [if_pos rfl, Bool.not_true, if_neg Bool.false_ne_true, sumOf_cons]; exact (Int.add_assoc ..).symm

theorem sumOf_insertItem {acc : Acc} {l : List Nat} {x : Nat}
    (hnew : ∀ b ∈ l, (acc b).startKey ≠ (acc x).startKey) :
    sumOf acc (insertItem acc l x) = sumOf acc l + (acc x).size := by
  unfold insertItem
  -- with no key equal to that of `x`, "above" is "not below"
  rw [sumOf_append, sumOf_cons, sumOf_filter_split acc (l := l)
    (p := fun a => decide ((acc a).startKey < (acc x).startKey))
    (q := fun a => decide ((acc x).startKey < (acc a).startKey)) fun a ha => by
      rcases Key.lt_or_gt_of_ne (hnew a ha) with h | h <;> simp [h, List.lt_asymm h]]
  omega

def TreeIs (acc : Acc) (t : Tree) (U : List Nat) (P : Nat → Bool) : Prop :=
  t.items = U.filter P ∧ t.totalSize = sumOf acc (U.filter P)

theorem Tree.total_eq {acc : Acc} {t : Tree} (h : t.totalSize = sumOf acc t.items) : t.total = sumOf acc t.items := by
  unfold Tree.total
  split
  · next h0 => rw [List.length_eq_zero_iff.1 h0]; rfl
  · exact h

theorem treeIs_true {acc : Acc} {t : Tree} {U : List Nat} :
    TreeIs acc t U (fun _ => true) ↔ t.items = U ∧ t.totalSize = sumOf acc U := by
  unfold TreeIs; rw [List.filter_eq_self.2 (fun _ _ => rfl)]

theorem deleteKey_eq_filter_ne {acc : Acc} {U M : List Nat} (hU : Asc acc U) (hM : M.Sublist U) {o : Nat}
    (ho : o ∈ U) : deleteKey acc M (acc o).startKey = M.filter (fun a => a ≠ o) := by
  unfold deleteKey
  apply List.filter_congr
  intro a ha
  have haU := hM.subset ha
  by_cases e : a = o
  · subst e; simp
  · have : (acc a).startKey ≠ (acc o).startKey := fun hk => e (hU.eq_of_key acc haU ho hk)
    simp [this, e]

/-- regionTree.remove only reads the start key, the id and the size of its argument -/
theorem Tree.remove_congr {acc : Acc} {t : Tree} {g g' : Region} (h1 : g.startKey = g'.startKey)
    (h2 : g.id = g'.id) (h3 : g.size = g'.size) : t.remove acc g = t.remove acc g' := by
  unfold Tree.remove; rw [h1, h2, h3]

theorem TreeIs.drop_iff {acc : Acc} {t : Tree} {U : List Nat} {P : Nat → Bool} {y : Nat} (hy : P y = false) :
    TreeIs acc t (U.filter (fun a => decide (a ≠ y))) P ↔ TreeIs acc t U P := by
  have : (U.filter (fun a => decide (a ≠ y))).filter P = U.filter P := by
    rw [List.filter_filter]
    apply List.filter_congr
    intro a _
    by_cases e : a = y
    · subst e; simp [hy]
    · simp [e]
  unfold TreeIs; rw [this]

theorem Tree.remove_noop {acc : Acc} {t : Tree} {g : Region}
    (hid : ∀ a ∈ t.items, Contains (acc a) g.startKey → (acc a).id ≠ g.id) : t.remove acc g = t := by
  unfold Tree.remove
  split
  · rfl
  · split
    · rfl
    · next a ha => simp [hid a (find_sound acc ha).1 (find_sound acc ha).2]

/-- regionTree.remove of a member `x` of the universe, given any object `g` with the start key, id and size of
    `x`'s region -/
theorem Tree.remove_is {acc : Acc} {t : Tree} {U : List Nat} {P : Nat → Bool} (hU : Ordered acc U)
    {x : Nat} (hx : x ∈ U) {g : Region} (h1 : g.startKey = (acc x).startKey)
    (h2 : g.id = (acc x).id) (h3 : g.size = (acc x).size) (ht : TreeIs acc t U P) :
    TreeIs acc (t.remove acc g) (U.filter (fun a => decide (a ≠ x))) P := by
  rw [Tree.remove_congr h1 h2 h3]
  have hM : Ordered acc (U.filter P) := hU.filter acc P
  by_cases hPx : P x = true
  · have hxM : x ∈ U.filter P := List.mem_filter.2 ⟨hx, hPx⟩
    have hfind : find acc (U.filter P) (acc x).startKey = some x :=
      (find_eq_some_iff acc hM).2 ⟨hxM, contains_start (hU.2 x hx)⟩
    have hlen : ¬ (U.filter P).length = 0 := Nat.ne_of_gt (List.length_pos_of_mem hxM)
    have hitems : deleteKey acc (U.filter P) (acc x).startKey = (U.filter (fun a => decide (a ≠ x))).filter P := by
      rw [deleteKey_eq_filter_ne (hU.asc acc) List.filter_sublist hx, filter_comm]
    unfold Tree.remove TreeIs
    rw [ht.1]
    simp only [hlen, if_false, hfind, ne_eq, not_true_eq_false, if_false]
    refine ⟨hitems, ?_⟩
    rw [filter_comm, sumOf_filter_ne acc ((hM.asc acc).nodup acc) hxM, ht.2]
  · -- in `U` only `x` contains its start key, and this tree does not hold `x`
    rw [Tree.remove_noop fun a ha hc => absurd (by
      have haM := List.mem_filter.1 (ht.1 ▸ ha)
      exact hU.eq_of_contains acc haM.1 hx hc (contains_start (hU.2 x hx)) ▸ haM.2) hPx]
    exact (TreeIs.drop_iff (by simpa using hPx)).2 ht

theorem foldl_dropOverlap {acc : Acc} {U : List Nat} (hU : Asc acc U) (ov : List Nat) (hov : ∀ o ∈ ov, o ∈ U)
    (t : Tree) (hsub : t.items.Sublist U) :
    (ov.map acc).foldl (Tree.dropOverlap acc) t =
      { items := t.items.filter (fun a => decide (a ∉ ov)), totalSize := t.totalSize - sumOf acc ov } := by
  induction ov generalizing t with
  | nil => rw [filter_notMem_nil, sumOf_nil, Int.sub_zero]; rfl
  | cons o ov ih =>
    simp only [List.map_cons, List.foldl_cons]
    have ho := hov o (by simp)
    rw [ih (fun o' h => hov o' (by simp [h]))]
    · unfold Tree.dropOverlap
      simp only [deleteKey_eq_filter_ne hU hsub ho, filter_ne_filter_notMem, sumOf_cons, Tree.mk.injEq, true_and]
      omega
    · unfold Tree.dropOverlap
      exact (deleteKey_sublist acc).trans hsub

/-- regionTree.update on the main tree: everything overlapping the new range is dropped and reported,
    the item is inserted, the counter stays exact -/
theorem Tree.update_main {acc : Acc} {t : Tree} (hU : Ordered acc t.items) (ht : t.totalSize = sumOf acc t.items)
    {x : Nat} (hwx : WFRange (acc x)) :
    (t.update acc x).2 = (t.items.filter (fun a => Overlap (acc a) (acc x))).map acc ∧
    (t.update acc x).1.items = insertItem acc (t.items.filter (fun a => ¬ Overlap (acc a) (acc x))) x ∧
    (t.update acc x).1.totalSize = sumOf acc (t.update acc x).1.items ∧
    Ordered acc (t.update acc x).1.items := by
  have hov := overlapsOf_eq_filter acc hU (acc x)
  have hkeep : Ordered acc (t.items.filter (fun a => ¬ Overlap (acc a) (acc x))) := hU.filter acc _
  have hno : ∀ a ∈ t.items.filter (fun a => ¬ Overlap (acc a) (acc x)), ¬ Overlap (acc a) (acc x) := by
    intro a ha; simpa using (List.mem_filter.1 ha).2
  have hnew : ∀ b ∈ t.items.filter (fun a => ¬ Overlap (acc a) (acc x)), (acc b).startKey ≠ (acc x).startKey :=
    fun b hb => startKey_ne_of_not_overlap (hkeep.2 b hb) hwx (hno b hb)
  have hfold := foldl_dropOverlap (hU.asc acc) (t.items.filter (fun a => Overlap (acc a) (acc x)))
    (fun o ho => (List.mem_filter.1 ho).1) { t with totalSize := t.totalSize + (acc x).size } (List.Sublist.refl _)
  have hitems : t.items.filter (fun a => decide (a ∉ t.items.filter (fun a => Overlap (acc a) (acc x)))) =
      t.items.filter (fun a => ¬ Overlap (acc a) (acc x)) := by
    apply List.filter_congr; intro a ha; simp [List.mem_filter, ha]
  unfold Tree.update
  simp only [hov, hfold, hitems]
  refine ⟨trivial, trivial, ?_, hkeep.insertItem acc x hwx hno⟩
  rw [sumOf_insertItem hnew, ht, sumOf_filter_split acc (l := t.items)
    (p := fun a => decide (Overlap (acc a) (acc x))) (q := fun a => decide (¬ Overlap (acc a) (acc x)))
    fun a _ => decide_not]
  omega

/-- regionTree.update with a member `x` of the (ordered) universe that belongs in the tree and is not in it yet:
    nothing overlaps it, and it takes its place -/
theorem Tree.update_is {acc : Acc} {t : Tree} {V : List Nat} {P : Nat → Bool} (hV : Ordered acc V)
    {x : Nat} (hx : x ∈ V) (hPx : P x = true) (ht : TreeIs acc t (V.filter (fun a => decide (a ≠ x))) P) :
    TreeIs acc (t.update acc x).1 V P := by
  have hM : Ordered acc t.items := ht.1 ▸ (hV.filter acc _).filter acc P
  obtain ⟨_, m2, m3, _⟩ := Tree.update_main hM (ht.1 ▸ ht.2) (hV.2 x hx)
  have hno : ∀ a ∈ t.items, ¬ Overlap (acc a) (acc x) := fun a ha =>
    have haV := List.mem_filter.1 (List.mem_filter.1 (ht.1 ▸ ha)).1
    hV.not_overlap acc haV.1 hx (of_decide_eq_true haV.2)
  rw [List.filter_eq_self.2 fun a ha => by simpa using hno a ha, ht.1, filter_comm,
    insertItem_filter_ne acc ((hV.asc acc).filter acc P) (List.mem_filter.2 ⟨hx, hPx⟩)] at m2
  exact ⟨m2, m2 ▸ m3⟩

/-- regionTree.updateStat when the item `x` of the universe gets another RegionInfo (`acc'` is `acc` elsewhere)
    that belongs to the same trees: the counter of a tree holding `x` follows the size, a tree not holding it
    needs nothing -/
theorem Tree.updateStat_is {acc acc' : Acc} {t : Tree} {U : List Nat} {P P' : Nat → Bool} (hn : U.Nodup) {x : Nat}
    (hx : x ∈ U) (hacc : ∀ a, a ≠ x → acc' a = acc a) (hP : ∀ a ∈ U, P' a = P a) (ht : TreeIs acc t U P) :
    TreeIs acc' (if P x = true then t.updateStat (acc x) (acc' x) else t) U P' := by
  unfold TreeIs
  rw [List.filter_congr hP]
  split
  · next hPx =>
    refine ⟨ht.1, ?_⟩
    rw [sumOf_update (List.Nodup.sublist List.filter_sublist hn) (List.mem_filter.2 ⟨hx, hPx⟩) hacc, ← ht.2]
    rfl
  · next hPx =>
    refine ⟨ht.1, ?_⟩
    rw [ht.2]
    exact (sumOf_congr fun a ha => hacc a fun e => hPx (e ▸ (List.mem_filter.1 ha).2)).symm

theorem insertById_perm (p : Peer) (l : List Peer) : (insertById p l).Perm (p :: l) := by
  induction l with
  | nil => exact List.Perm.refl _
  | cons q qs ih =>
    simp only [insertById]
    split
    · exact List.Perm.refl _
    · exact (List.Perm.cons q ih).trans (List.Perm.swap p q qs)

theorem sortById_perm (l : List Peer) : (sortById l).Perm l := by
  induction l with
  | nil => exact List.Perm.refl _
  | cons p l ih =>
    simp only [sortById, List.foldr_cons]
    exact (insertById_perm p _).trans (List.Perm.cons p ih)

theorem mem_sortById {p : Peer} {l : List Peer} : p ∈ sortById l ↔ p ∈ l := (sortById_perm l).mem_iff

theorem mem_storesFor {role : Role} {st : Nat} {r : Region} : st ∈ storesFor role r ↔ OnStore role st r := by
  cases role <;>
    simp only [storesFor, OnStore, Region.voters, Region.learners, List.mem_map, List.mem_filter, mem_sortById,
      decide_eq_true_eq, ne_eq, decide_not, Bool.not_eq_eq_eq_not, Bool.not_true,
      decide_eq_false_iff_not]
  all_goals simp only [and_assoc]

theorem nodup_map_store_of_sub {l l' : List Peer} (h : (l.map (·.store)).Nodup) (hp : l'.Perm (l.filter q)) :
    (l'.map (·.store)).Nodup := by
  have h1 : ((l.filter q).map (·.store)).Nodup := List.Nodup.sublist (List.Sublist.map _ List.filter_sublist) h
  exact (List.Perm.nodup_iff (List.Perm.map _ hp)).2 h1

/-- every sub-tree of a family is updated at most once by SetRegion -/
theorem storesFor_nodup {role : Role} {r : Region} (h : WF r) : (storesFor role r).Nodup := by
  obtain ⟨_, hp, hq, _⟩ := h
  have hv : (r.voters.map (·.store)).Nodup := nodup_map_store_of_sub (q := fun p => !p.learner) hp (sortById_perm _)
  cases role <;> simp only [storesFor]
  · exact List.Nodup.sublist (List.Sublist.map _ List.filter_sublist) hv
  · exact List.Nodup.sublist (List.Sublist.map _ List.filter_sublist) hv
  · exact nodup_map_store_of_sub (q := fun p => p.learner) hp (sortById_perm _)
  · exact hq

/-- a region sits only in sub-trees of stores that hold one of its peers -/
theorem onStore_mem_peers {role : Role} {st : Nat} {r : Region} (h : WF r) (ho : OnStore role st r) :
    st ∈ r.peers.map (·.store) := by
  obtain ⟨_, _, _, hpend⟩ := h
  cases role <;> simp only [OnStore] at ho
  · obtain ⟨p, hp, _, _, rfl⟩ := ho; exact List.mem_map.2 ⟨p, hp, rfl⟩
  · obtain ⟨p, hp, _, _, rfl⟩ := ho; exact List.mem_map.2 ⟨p, hp, rfl⟩
  · obtain ⟨p, hp, _, rfl⟩ := ho; exact List.mem_map.2 ⟨p, hp, rfl⟩
  · obtain ⟨p, hp, rfl⟩ := ho; exact hpend p hp

def subOf (m : List (Nat × Tree)) (st : Nat) : Tree := (mapGet m st).getD {}

theorem sub_eq (s : RegionsInfo) (role : Role) (st : Nat) : s.sub role st = subOf (s.fam role) st := rfl

@[simp] theorem mapFams_fam (s : RegionsInfo) (F) (role : Role) : (s.mapFams F).fam role = F role (s.fam role) := by
  cases role <;> rfl
@[simp] theorem mapFams_heap (s : RegionsInfo) (F) : (s.mapFams F).heap = s.heap := rfl
@[simp] theorem mapFams_acc (s : RegionsInfo) (F) : (s.mapFams F).acc = s.acc := rfl
@[simp] theorem mapFams_regions (s : RegionsInfo) (F) : (s.mapFams F).regions = s.regions := rfl
@[simp] theorem mapFams_tree (s : RegionsInfo) (F) : (s.mapFams F).tree = s.tree := rfl
@[simp] theorem mapFams_nil (s : RegionsInfo) (F) : (s.mapFams F).nilDeref = s.nilDeref := rfl

theorem remove_empty (acc : Acc) (g : Region) : ({} : Tree).remove acc g = {} := by
  simp [Tree.remove]

/-- A loop that visits distinct stores and changes, at each store, only that store's tree, by `G`, provided the
    tree there passes `Q` (a step leaves the other trees as they are, so it is enough that the trees pass `Q` before
    the loop).  The three loops of RegionsInfo over the stores of a region have this shape. -/
theorem subOf_foldl {F : List (Nat × Tree) → Nat → List (Nat × Tree)} {G : Tree → Tree} (Q : Tree → Prop)
    (hF : ∀ m st', Q (subOf m st') → ∀ st, subOf (F m st') st = if st = st' then G (subOf m st') else subOf m st)
    {stores : List Nat} (hnd : stores.Nodup) (m : List (Nat × Tree)) (hQ : ∀ st' ∈ stores, Q (subOf m st'))
    (st : Nat) : subOf (stores.foldl F m) st = if st ∈ stores then G (subOf m st) else subOf m st := by
  induction stores generalizing m with
  | nil => simp
  | cons s0 rest ih =>
    have hn := List.nodup_cons.1 hnd
    have h0 := hF m s0 (hQ s0 List.mem_cons_self)
    rw [List.foldl_cons, ih hn.2 _ fun st' hst' => by
      rw [h0, if_neg fun e : st' = s0 => hn.1 (e ▸ hst')]; exact hQ st' (List.mem_cons_of_mem _ hst'), h0]
    by_cases e : st = s0
    · subst e; simp [hn.1]
    · simp [e]

/-- `fam[store].remove(region)`: a missing tree behaves as the empty one -/
theorem subOf_famRemove (acc : Acc) (g : Region) (m : List (Nat × Tree)) (st' st : Nat) :
    subOf (famRemove acc m st' g) st = if st = st' then (subOf m st').remove acc g else subOf m st := by
  unfold famRemove subOf
  cases h : mapGet m st' with
  | none =>
    simp only [Option.getD_none, remove_empty]
    split
    · next e => subst e; simp [h]
    · rfl
  | some t =>
    simp only [mapGet_mapSet, Option.getD_some]
    split <;> simp

/-- `store.update(item)`, creating the tree when it is missing -/
theorem subOf_famUpdate (acc : Acc) (x : Nat) (m : List (Nat × Tree)) (st' st : Nat) :
    subOf (famUpdate acc m st' x) st =
      if st = st' then ((subOf m st').update acc x).1 else subOf m st := by
  unfold famUpdate subOf
  simp only [mapGet_mapSet]
  split <;> simp

/-- `tree.updateStat(origin, region)` where the store has a tree (a tree with items is not a missing one) -/
theorem subOf_famUpdateStat (o r : Region) (m : List (Nat × Tree)) (st' : Nat) (h : (subOf m st').items ≠ [])
    (st : Nat) :
    subOf (famUpdateStat m st' o r) st = if st = st' then (subOf m st').updateStat o r else subOf m st := by
  unfold famUpdateStat subOf at *
  cases hg : mapGet m st' with
  | none => rw [hg] at h; exact absurd rfl h
  | some t =>
    simp only [mapGet_mapSet, Option.getD_some]
    split <;> simp

def SubsOk (s : RegionsInfo) (U : List Nat) : Prop :=
  ∀ role st, TreeIs s.acc (s.sub role st) U (fun a => decide (OnStore role st (s.acc a)))

/-- What RemoveRegion reads of the object it is given: start key, id and size (to find and discount the item)
    and the stores of its peers (the sub-trees it visits).  `g` does for the removal of the cached `c` when it
    agrees with `c` on the first three and has one peer on every store where `c` is indexed. -/
structure RemovesAs (g c : Region) : Prop where
  key : g.startKey = c.startKey
  id : g.id = c.id
  size : g.size = c.size
  nodup : (g.peers.map (·.store)).Nodup
  cover : ∀ role st, OnStore role st c → st ∈ g.peers.map (·.store)

theorem RemovesAs.refl {c : Region} (h : WF c) : RemovesAs c c :=
  ⟨rfl, rfl, rfl, h.2.1, fun _ _ => onStore_mem_peers h⟩

theorem subsOk_removeSub {s : RegionsInfo} {U : List Nat} {y : Nat} {g : Region} (hU : Ordered s.acc U)
    (hy : y ∈ U) (hg : RemovesAs g (s.acc y)) (h : SubsOk s U) :
    SubsOk (removeRegionFromSubTree s g) (U.filter (fun a => decide (a ≠ y))) := by
  intro role st
  unfold removeRegionFromSubTree
  rw [sub_eq, mapFams_fam, mapFams_acc,
    subOf_foldl (fun _ => True) (F := fun m st' => famRemove s.acc m st' g) (G := fun t => t.remove s.acc g)
      (fun m st' _ => subOf_famRemove s.acc g m st') hg.nodup _ (fun _ _ => trivial), ← sub_eq]
  split
  · exact Tree.remove_is hU hy hg.key hg.id hg.size (h role st)
  · next hst =>
    exact (TreeIs.drop_iff (decide_eq_false fun ho => hst (hg.cover role st ho))).2 (h role st)

theorem SubsOk.congr {s s' : RegionsInfo} {U : List Nat} (h : SubsOk s U) (hfam : ∀ role, s'.fam role = s.fam role)
    (hacc : ∀ a ∈ U, s'.acc a = s.acc a) : SubsOk s' U := by
  intro role st
  have h0 := h role st
  have hsub : s'.sub role st = s.sub role st := by rw [sub_eq, sub_eq, hfam]
  have hf : U.filter (fun a => decide (OnStore role st (s'.acc a))) =
      U.filter (fun a => decide (OnStore role st (s.acc a))) := by
    apply List.filter_congr; intro a ha; rw [hacc a ha]
  unfold TreeIs
  rw [hsub, hf]
  refine ⟨h0.1, ?_⟩
  rw [h0.2]
  symm
  apply sumOf_congr
  intro a ha
  exact hacc a (List.mem_filter.1 ha).1

theorem subsOk_add {s : RegionsInfo} {V : List Nat} {x : Nat} {r : Region} (hV : Ordered s.acc V) (hx : x ∈ V)
    (hr : s.acc x = r) (hwf : WF r) (h : SubsOk s (V.filter (fun a => decide (a ≠ x)))) :
    SubsOk (addToSubTrees s x r) V := by
  subst hr
  intro role st
  unfold addToSubTrees
  rw [sub_eq, mapFams_fam, mapFams_acc,
    subOf_foldl (fun _ => True) (F := fun m st' => famUpdate s.acc m st' x) (G := fun t => (t.update s.acc x).1)
      (fun m st' _ => subOf_famUpdate s.acc x m st') (storesFor_nodup hwf) _ (fun _ _ => trivial), ← sub_eq]
  split
  · next hst => exact Tree.update_is hV hx (decide_eq_true (mem_storesFor.1 hst)) (h role st)
  · next hst =>
    exact (TreeIs.drop_iff (decide_eq_false fun ho => hst (mem_storesFor.2 ho))).1 (h role st)

theorem acc_eq_of_heap {s1 s2 : RegionsInfo} (h : s1.heap = s2.heap) : s1.acc = s2.acc := by
  unfold RegionsInfo.acc; rw [h]

theorem acc_set (s : RegionsInfo) (x : Nat) (r : Region) (hx : x < s.heap.length) (a : Nat) :
    ({ s with heap := s.heap.set x r } : RegionsInfo).acc a = if a = x then r else s.acc a := by
  unfold RegionsInfo.acc
  simp only [List.getD_eq_getElem?_getD, List.getElem?_set]
  by_cases e : a = x
  · subst e; simp [hx]
  · have : ¬ x = a := fun h => e h.symm
    simp [e, this]

theorem acc_push (s : RegionsInfo) (r : Region) (m : List (Nat × Nat)) (a : Nat) :
    ({ s with heap := s.heap ++ [r], regions := m } : RegionsInfo).acc a =
      if a = s.heap.length then r else s.acc a := by
  unfold RegionsInfo.acc
  simp only [List.getD_eq_getElem?_getD]
  rcases Nat.lt_trichotomy a s.heap.length with h | h | h
  · rw [List.getElem?_append_left h, if_neg (Nat.ne_of_lt h)]
  · subst h; simp
  · rw [List.getElem?_eq_none (by rw [List.length_append, List.length_singleton]; omega),
      List.getElem?_eq_none (Nat.le_of_lt h), if_neg (Nat.ne_of_gt h)]

theorem Ordered.congr_keys {acc acc' : Acc} {l : List Nat}
    (hk : ∀ a ∈ l, (acc' a).startKey = (acc a).startKey ∧ (acc' a).endKey = (acc a).endKey)
    (h : Ordered acc l) : Ordered acc' l := by
  refine ⟨?_, ?_⟩
  · refine List.Pairwise.imp_of_mem ?_ h.1
    intro a b ha hb hab
    unfold Before at *
    rw [(hk a ha).2, (hk b hb).1]; exact hab
  · intro a ha
    have := h.2 a ha
    unfold WFRange at *
    rw [(hk a ha).1, (hk a ha).2]; exact this

theorem Ordered.congr {acc acc' : Acc} {l : List Nat} (hk : ∀ a ∈ l, acc' a = acc a)
    (h : Ordered acc l) : Ordered acc' l :=
  h.congr_keys (fun a ha => by rw [hk a ha]; exact ⟨rfl, rfl⟩)

theorem Ordered.set {s : RegionsInfo} {U : List Nat} (h : Ordered s.acc U) {x : Nat} {r : Region}
    (hxl : x < s.heap.length) (hk1 : (s.acc x).startKey = r.startKey) (hk2 : (s.acc x).endKey = r.endKey) :
    Ordered (RegionsInfo.acc { s with heap := s.heap.set x r }) U :=
  h.congr_keys fun a _ => by
    rw [acc_set s x r hxl]; split
    · next e => subst e; exact ⟨hk1.symm, hk2.symm⟩
    · exact ⟨rfl, rfl⟩

/-- peer lists that `SortedPeersEqual` identifies put the same stores behind the same peer ids -/
theorem stores_congr {a b : List Peer} (h : sortedPeersEqual a b = true) (q : Nat → Bool) :
    (a.filter (fun p => q p.id)).map (·.store) = (b.filter (fun p => q p.id)).map (·.store) := by
  have e : ∀ l : List Peer, (l.filter (fun p => q p.id)).map (·.store) =
      ((l.map (fun p => (p.store, p.id))).filter (fun e => q e.2)).map (·.1) := fun l => by
    rw [List.filter_map, List.map_map]; rfl
  rw [e, e, eq_of_beq h]

theorem storesFor_eq_of_unchanged {r o : Region} (h : shouldRemoveFromSubTree r o = false) (role : Role) :
    storesFor role r = storesFor role o := by
  unfold shouldRemoveFromSubTree at h
  simp only [Bool.or_eq_false_iff, Bool.not_eq_false', decide_eq_false_iff_not, ne_eq, Decidable.not_not] at h
  obtain ⟨⟨⟨hl, hv⟩, hle⟩, hp⟩ := h
  have all : ∀ l : List Peer, l.filter (fun _ => true) = l := fun l => List.filter_eq_self.2 fun _ _ => rfl
  cases role <;> simp only [storesFor]
  · rw [← hl]; exact (stores_congr hv fun i => decide (i = o.leader)).symm
  · rw [← hl]; exact (stores_congr hv fun i => decide (i ≠ o.leader)).symm
  · have := stores_congr hle (fun _ => true); rw [all, all] at this; exact this.symm
  · have := stores_congr hp (fun _ => true); rw [all, all] at this; exact this.symm

theorem subsOk_updateStat {s s' : RegionsInfo} {U : List Nat} {x : Nat} {r : Region} (hU : Ordered s.acc U)
    (hx : x ∈ U) (hacc : ∀ a, s'.acc a = if a = x then r else s.acc a) (hfam : ∀ role, s'.fam role = s.fam role)
    (hwf : WF r) (hsame : shouldRemoveFromSubTree r (s.acc x) = false) (h : SubsOk s U) :
    SubsOk (updateSubTreeStat s' (s.acc x) r) U := by
  intro role st
  have hst : ∀ st, st ∈ storesFor role r ↔ OnStore role st (s.acc x) := fun st => by
    rw [storesFor_eq_of_unchanged hsame]; exact mem_storesFor
  have hon : ∀ a ∈ U, decide (OnStore role st (s'.acc a)) = decide (OnStore role st (s.acc a)) := by
    intro a _
    rw [hacc]
    split
    · next e => rw [e]; exact decide_eq_decide.2 (mem_storesFor.symm.trans (hst st))
    · rfl
  have h1 := Tree.updateStat_is (acc' := s'.acc) ((hU.asc _).nodup _) hx (fun a ha => by rw [hacc, if_neg ha]) hon
    (h role st)
  rw [hacc, if_pos rfl] at h1
  unfold updateSubTreeStat
  -- a sub-tree that is visited holds `x`, so it exists
  rw [sub_eq, mapFams_fam, mapFams_acc,
    subOf_foldl (fun t => t.items ≠ []) (F := fun m st' => famUpdateStat m st' (s.acc x) r)
      (G := fun t => t.updateStat (s.acc x) r) (subOf_famUpdateStat (s.acc x) r) (storesFor_nodup hwf) _
      (fun st' hst' => by
        rw [hfam, ← sub_eq, (h role st').1]
        exact List.ne_nil_of_mem (List.mem_filter.2 ⟨hx, decide_eq_true ((hst st').1 hst')⟩)),
    hfam, ← sub_eq]
  simpa only [hst st, decide_eq_true_eq] using h1

end PdModel.RegionTree
