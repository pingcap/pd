import PdModel.Lemmas.RuleOrder
/-! prepareRulesForApply = the declarative override semantics, on lists in apply order. -/
namespace PdModel.Rules
open PdModel.Spec.C13

/-- `later` disables `r`: same group and `later` has the override flag, or another group whose group
    configuration has the override flag -/
def ovG (later r : GRule) : Bool :=
  (later.rule.group == r.rule.group && later.rule.override) ||
  (later.rule.group != r.rule.group && later.grp.override)

/-- a rule stays iff no rule after it in the list disables it -/
def applyPos : List GRule → List GRule
  | [] => []
  | x :: rest => (if rest.any (fun y => ovG y x) then [] else [x]) ++ applyPos rest

def KLe (a b : GRule) : Prop :=
  a.grp.index < b.grp.index ∨ (a.grp.index = b.grp.index ∧ a.rule.group ≤ b.rule.group)

theorem RLt.toKLe {a b : GRule} (h : RLt a b) : KLe a b :=
  h.imp_right fun ⟨e, h⟩ => ⟨e, h.elim Nat.le_of_lt fun h => Nat.le_of_eq h.1⟩

theorem ovG_of_ne {y r : GRule} (h : y.rule.group ≠ r.rule.group) : ovG y r = y.grp.override := by
  rw [ovG, bne, beq_eq_false_iff_ne.2 h]; rfl

theorem ovG_of_eq {y r : GRule} (h : y.rule.group = r.rule.group) : ovG y r = y.rule.override := by
  simp [ovG, h]

theorem applyPos_cons (x : GRule) (rest : List GRule) :
    applyPos (x :: rest) = [x].filter (fun r => !rest.any (fun y => ovG y r)) ++ applyPos rest := by
  simp only [applyPos, List.filter_cons, List.filter_nil]
  cases rest.any (fun y => ovG y x) <;> rfl

/-- one more rule: it disables what it disables of the rules collected so far, and joins them -/
def joinRule (acc : List GRule) (x : GRule) : List GRule := acc.filter (fun r => !ovG x r) ++ [x]

/-- collecting the rules one by one keeps exactly those that no later rule disables -/
theorem foldl_joinRule : ∀ (rest acc : List GRule),
    rest.foldl joinRule acc = acc.filter (fun r => !rest.any (fun y => ovG y r)) ++ applyPos rest
  | [], acc => by
    rw [applyPos, List.append_nil]
    exact (List.filter_eq_self.2 fun _ _ => rfl).symm
  | x :: rest, acc => by
    rw [List.foldl_cons, foldl_joinRule rest, joinRule, List.filter_append, List.filter_filter, applyPos_cons,
      List.append_assoc]
    congr 1
    exact List.filter_congr fun r _ => by rw [List.any_cons, Bool.not_or, Bool.and_comm]

/-- invariant of the loop of prepareRulesForApply: `seg` is the current run of rules of group `g`, `res` holds
    what remains of the earlier groups (nothing, if the group of `seg` has the override flag) -/
structure PrepInv (res seg rest : List GRule) (g : Nat) : Prop where
  cons : ∀ a ∈ res ++ seg ++ rest, ∀ b ∈ res ++ seg ++ rest, a.rule.group = b.rule.group → a.grp = b.grp
  sorted : (seg ++ rest).Pairwise KLe
  segne : seg ≠ []
  segg : ∀ s ∈ seg, s.rule.group = g
  other : ∀ r ∈ res, ∀ y ∈ seg ++ rest, r.rule.group ≠ y.rule.group
  ovr : ∀ s ∈ seg, s.grp.override = true → res = []

section PrepInv
variable {res ss rest : List GRule} {s x : GRule} {g : Nat} (inv : PrepInv res (s :: ss) (x :: rest) g)
include inv

/-- a list sorted by (group index, group id) keeps each group together -/
theorem PrepInv.no_return (hgx : s.rule.group ≠ x.rule.group) : ∀ y ∈ rest, y.rule.group ≠ s.rule.group := by
  intro y hy hyg
  have hs := List.pairwise_append.1 inv.sorted
  have h1 : KLe s x := hs.2.2 s List.mem_cons_self x List.mem_cons_self
  have h2 : KLe x y := (List.pairwise_cons.1 hs.2.1).1 y hy
  have hgrp : s.grp = y.grp := inv.cons s (by simp) y (by simp [hy]) hyg.symm
  unfold KLe at h1 h2
  rw [hgrp] at h1
  omega

theorem PrepInv.restart (res' : List GRule) (hsub : ∀ a ∈ res', a ∈ res ++ s :: ss)
    (hother : ∀ r ∈ res', ∀ y ∈ x :: rest, r.rule.group ≠ y.rule.group)
    (hovr : x.grp.override = true → res' = []) : PrepInv res' [x] rest x.rule.group := by
  have hm : ∀ a ∈ res' ++ [x] ++ rest, a ∈ res ++ s :: ss ++ x :: rest := fun a ha => by
    rw [List.append_assoc] at ha
    exact (List.mem_append.1 ha).elim (fun h => List.mem_append_left _ (hsub a h)) (List.mem_append_right _)
  exact ⟨fun a ha b hb => inv.cons a (hm a ha) b (hm b hb), (List.pairwise_append.1 inv.sorted).2.1, List.cons_ne_nil _ _,
    fun _ h => List.mem_singleton.1 h ▸ rfl, hother, fun _ h => List.mem_singleton.1 h ▸ hovr⟩

theorem PrepInv.extend (hgx : s.rule.group = x.rule.group) : PrepInv res (s :: ss ++ [x]) rest g := by
  have hgrp : s.grp = x.grp := inv.cons s (by simp) x (by simp) hgx
  refine ⟨?_, ?_, List.cons_ne_nil _ _, fun r hr => ?_, ?_, fun r hr hov => ?_⟩
  · simpa only [List.append_assoc, List.singleton_append] using inv.cons
  · simpa only [List.append_assoc, List.singleton_append] using inv.sorted
  · rcases List.mem_append.1 hr with h | h
    · exact inv.segg r h
    · rw [List.mem_singleton.1 h, ← hgx]; exact inv.segg s List.mem_cons_self
  · simpa only [List.append_assoc, List.singleton_append] using inv.other
  · rcases List.mem_append.1 hr with h | h
    · exact inv.ovr r h hov
    · exact inv.ovr s List.mem_cons_self (by rw [hgrp, ← List.mem_singleton.1 h]; exact hov)

end PrepInv

/-- under the invariant, the loop of prepareRulesForApply collects the rules one by one: the run `seg` and the
    remainder `res` of the earlier groups are kept apart only to tell which of them the next rule disables -/
theorem prepareLoop_eq_foldl : ∀ (rest res seg : List GRule) (g : Nat), PrepInv res seg rest g →
    prepareLoop res seg rest = rest.foldl joinRule (res ++ seg)
  | [], res, seg, g, _ => by rw [prepareLoop]; rfl
  | x :: rest, res, [], g, inv => absurd rfl inv.segne
  | x :: rest, res, s :: ss, g, inv => by
    have hseg : ∀ r ∈ s :: ss, r.rule.group = s.rule.group := fun r hr =>
      (inv.segg r hr).trans (inv.segg s List.mem_cons_self).symm
    have hres : ∀ r ∈ res, r.rule.group ≠ x.rule.group := fun r hr =>
      inv.other r hr x (List.mem_append_right _ List.mem_cons_self)
    rw [prepareLoop, List.foldl_cons, joinRule]
    by_cases hgx : s.rule.group = x.rule.group
    · -- the same group continues; its override flag, if set, has already emptied `res`
      have hgrp : s.grp = x.grp := inv.cons s (by simp) x (by simp) hgx
      have hkeep : ∀ r ∈ res, (!ovG x r) = true := fun r hr => by
        rw [ovG_of_ne (Ne.symm (hres r hr))]
        cases hov : x.grp.override with
        | false => rfl
        | true => rw [inv.ovr s List.mem_cons_self (hgrp ▸ hov)] at hr; cases hr
      have hrun : ∀ r ∈ s :: ss, ovG x r = x.rule.override := fun r hr => ovG_of_eq (hgx.symm.trans (hseg r hr).symm)
      rw [if_neg fun h => h hgx, List.filter_append, List.filter_eq_self.2 hkeep]
      cases hxo : x.rule.override with
      | true =>
        rw [if_pos rfl, List.filter_eq_nil_iff.2 fun r hr => by rw [hrun r hr, hxo]; exact Bool.false_ne_true,
          List.append_nil]
        exact prepareLoop_eq_foldl rest res [x] _ (inv.restart res (fun a => List.mem_append_left _)
          (fun r hr y hy => inv.other r hr y (List.mem_append_right _ hy))
          fun hov => inv.ovr s List.mem_cons_self (hgrp ▸ hov))
      | false =>
        rw [if_neg Bool.false_ne_true, List.filter_eq_self.2 fun r hr => by rw [hrun r hr, hxo]; rfl,
          List.append_assoc]
        exact prepareLoop_eq_foldl rest res (s :: ss ++ [x]) g (inv.extend hgx)
    · -- a new group starts: everything collected so far is disabled at once or not at all
      have hne : ∀ r ∈ res ++ s :: ss, r.rule.group ≠ x.rule.group := fun r hr =>
        (List.mem_append.1 hr).elim (hres r) fun h => hseg r h ▸ hgx
      rw [if_pos hgx]
      dsimp only
      cases hov : x.grp.override with
      | true =>
        rw [if_pos rfl, List.filter_eq_nil_iff.2 fun r hr => by
          rw [ovG_of_ne (Ne.symm (hne r hr)), hov]; exact Bool.false_ne_true]
        exact prepareLoop_eq_foldl rest [] [x] _ (inv.restart [] (fun _ h => (List.not_mem_nil h).elim)
          (fun _ h => (List.not_mem_nil h).elim) fun _ => rfl)
      | false =>
        rw [if_neg Bool.false_ne_true, List.filter_eq_self.2 fun r hr => by
          rw [ovG_of_ne (Ne.symm (hne r hr)), hov]; rfl]
        exact prepareLoop_eq_foldl rest (res ++ s :: ss) [x] _ (inv.restart _ (fun _ h => h)
            (fun r hr y hy => (List.mem_cons.1 hy).elim (fun e => e ▸ hne r hr) fun hy =>
              (List.mem_append.1 hr).elim (fun h => inv.other r h y (List.mem_append_right _ (List.mem_cons_of_mem _ hy)))
                fun h => hseg r h ▸ (inv.no_return hgx y hy).symm)
            fun h => by rw [hov] at h; cases h)

/-- on a list that keeps each group together (as one sorted by (group index, group id) does) and whose rules of one
    group share their group configuration, prepareRulesForApply keeps exactly the rules that no later rule disables -/
theorem prepareRulesForApply_eq (l : List GRule) (hs : l.Pairwise KLe)
    (hc : ∀ a ∈ l, ∀ b ∈ l, a.rule.group = b.rule.group → a.grp = b.grp) :
    prepareRulesForApply l = applyPos l := by
  cases l with
  | nil => rfl
  | cons r rest =>
    rw [prepareRulesForApply, prepareLoop_eq_foldl rest [] [r] r.rule.group ⟨hc, hs, List.cons_ne_nil _ _,
      fun _ h => List.mem_singleton.1 h ▸ rfl, fun _ h => (List.not_mem_nil h).elim, fun _ _ _ => rfl⟩,
      List.nil_append, foldl_joinRule, applyPos_cons]

theorem applyPos_sublist : ∀ (l : List GRule), (applyPos l).Sublist l := by
  intro l
  induction l with
  | nil => exact List.Sublist.refl _
  | cons x rest ih =>
    simp only [applyPos]
    split
    · exact (ih.cons x)
    · exact ih.cons_cons x

theorem any_later {pre rest : List GRule} {x : GRule} (hs : (pre ++ x :: rest).Pairwise RLt) :
    (pre ++ x :: rest).any (fun y => decide (RLt x y) && ovG y x) = rest.any (fun y => ovG y x) := by
  rw [List.pairwise_append, List.pairwise_cons] at hs
  have hpre : ∀ y ∈ pre, ¬ RLt x y := fun y hy h =>
    RLt.irrefl _ (RLt.trans _ _ _ h (hs.2.2 y hy x List.mem_cons_self))
  rw [Bool.eq_iff_iff]
  simp only [List.any_append, List.any_cons, Bool.or_eq_true, List.any_eq_true, Bool.and_eq_true, decide_eq_true_eq]
  constructor
  · rintro (⟨y, hy, h, _⟩ | ⟨h, _⟩ | ⟨y, hy, _, h⟩)
    · exact absurd h (hpre y hy)
    · exact absurd h (RLt.irrefl x)
    · exact ⟨y, hy, h⟩
  · rintro ⟨y, hy, h⟩
    exact Or.inr (Or.inr ⟨y, hy, hs.2.1.1 y hy, h⟩)

/-- positional "disabled by a later rule" = "disabled by a rule that is applied later", on a list in apply order -/
theorem applyPos_eq_filter (pre : List GRule) : ∀ (l : List GRule), (pre ++ l).Pairwise RLt →
    applyPos l = l.filter (fun r => !(pre ++ l).any (fun y => decide (RLt r y) && ovG y r))
  | [], _ => rfl
  | x :: rest, hs => by
    have ih := applyPos_eq_filter (pre ++ [x]) rest (by rwa [List.append_assoc])
    rw [List.append_assoc, List.singleton_append] at ih
    rw [applyPos, List.filter_cons, any_later hs, ih]
    cases rest.any (fun y => ovG y x) <;> rfl

theorem mem_applyPos_sorted (l : List GRule) (hs : l.Pairwise RLt) (r : GRule) :
    r ∈ applyPos l ↔ (r ∈ l ∧ ∀ y ∈ l, RLt r y → ovG y r = false) := by
  rw [applyPos_eq_filter [] l hs, List.nil_append, List.mem_filter]
  simp only [Bool.not_eq_true', List.any_eq_false, Bool.and_eq_true, decide_eq_true_eq, not_and, Bool.not_eq_true]

end PdModel.Rules
