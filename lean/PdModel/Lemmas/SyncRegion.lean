import PdModel.Model.SyncRegion
import PdModel.Prelude.ListFacts
/-! Lemmas about the cached region set (shared by C16 and C17). -/
namespace PdModel.SyncRegion

/-- `x` (already there) and `r` (arriving later) are different regions with disjoint ranges -/
def Compat (x r : Region) : Prop := x.md.id ≠ r.md.id ∧ overlap r.md x.md = false

theorem overlap_comm (a b : Meta) : overlap a b = overlap b a := by
  unfold overlap; exact Bool.and_comm _ _

theorem compat_symm {x y : Region} (h : Compat x y) : Compat y x :=
  ⟨fun e => h.1 e.symm, by rw [overlap_comm]; exact h.2⟩

theorem pairwise_mem {α : Type} {R : α → α → Prop} (hs : ∀ {x y}, R x y → R y x) {l : List α}
    (hp : l.Pairwise R) {x y : α} (hx : x ∈ l) (hy : y ∈ l) (hne : x ≠ y) : R x y := by
  rcases pairwise_mem_cases hp hx hy with e | h | h
  · exact absurd e hne
  · exact h
  · exact hs h

theorem find_of_pairwise (c : Cache) (hp : c.Pairwise Compat) (r : Region) (hr : r ∈ c) :
    Cache.find c r.md.id = some r := by
  induction c with
  | nil => cases hr
  | cons a c ih =>
    rw [List.pairwise_cons] at hp
    unfold Cache.find
    rcases List.mem_cons.1 hr with rfl | hr'
    · simp
    · have hne : a.md.id ≠ r.md.id := (hp.1 r hr').1
      rw [List.find?_cons_of_neg (by simpa using hne)]
      exact ih hp.2 hr'

theorem overlap_sameRange (o r x : Meta) (h : sameRange o r = true) : overlap r x = overlap o x := by
  unfold sameRange at h
  simp only [Bool.and_eq_true, beq_iff_eq] at h
  unfold overlap; rw [h.1, h.2]

theorem find_some_mem (c : Cache) (id : Nat) (o : Region) (h : Cache.find c id = some o) :
    o ∈ c ∧ o.md.id = id := by
  unfold Cache.find at h
  exact ⟨List.mem_of_find?_eq_some h, by simpa using List.find?_some h⟩

theorem consistent_putRegion (c : Cache) (hp : c.Pairwise Compat) (r : Region) :
    (putRegion c r).Pairwise Compat := by
  unfold putRegion
  rw [List.pairwise_append]
  refine ⟨hp.filter _, by simp, ?_⟩
  intro x hx y hy
  simp only [List.mem_singleton] at hy
  subst hy
  simp only [keepOnPut, List.mem_filter, Bool.and_eq_true, bne_iff_ne, ne_eq, Bool.not_eq_true',
    Bool.and_eq_false_iff] at hx
  obtain ⟨hxc, hid, hov⟩ := hx
  refine ⟨hid, ?_⟩
  rcases hov with hrc | hov
  · -- the range did not change: `y` takes the place of the cached region of the same range
    unfold rangeChanged at hrc
    cases hf : Cache.find c y.md.id with
    | none => simp [hf] at hrc
    | some o =>
      simp only [hf, Bool.not_eq_false'] at hrc
      obtain ⟨hoc, hoid⟩ := find_some_mem c _ o hf
      have hxo : x ≠ o := by intro e; subst e; exact hid hoid
      have := pairwise_mem (fun h => compat_symm h) hp hxc hoc hxo
      rw [overlap_sameRange o.md y.md x.md hrc]
      exact this.2
  · exact hov

theorem putRegion_spec (c : Cache) (r : Region) :
    r ∈ putRegion c r ∧ ∀ x ∈ putRegion c r, x = r ∨ (x ∈ c ∧ x.md.id ≠ r.md.id) := by
  unfold putRegion
  refine ⟨by simp, fun x hx => ?_⟩
  rcases List.mem_append.1 hx with h | h
  · right
    have := List.mem_filter.1 h
    refine ⟨this.1, ?_⟩
    have h2 := this.2
    simp only [keepOnPut, Bool.and_eq_true, bne_iff_ne, ne_eq] at h2
    exact h2.1
  · left; simpa using h

theorem putRegion_keeps (c : Cache) (r x : Region) (hx : x ∈ c) (hc : Compat x r) : x ∈ putRegion c r := by
  unfold putRegion
  apply List.mem_append_left
  rw [List.mem_filter]
  refine ⟨hx, ?_⟩
  simp [keepOnPut, hc.1, hc.2]

theorem applyRegion_stale {c : Cache} {r : Region} (h : isStale c r = true) : applyRegion c r = c := by
  simp [applyRegion, checkAndPut, h]

theorem applyRegion_accept {c : Cache} {r : Region} (h : isStale c r = false) :
    applyRegion c r = putRegion c r := by
  simp [applyRegion, checkAndPut, h]

/-- a property of the cache that a put keeps is kept by `applyRegion`, which puts the region or drops it as stale -/
theorem applyRegion_ind {P : Cache → Prop} {c : Cache} (r : Region) (h : P c) (hput : P (putRegion c r)) :
    P (applyRegion c r) := by
  cases hs : isStale c r with
  | true => rw [applyRegion_stale hs]; exact h
  | false => rw [applyRegion_accept hs]; exact hput

end PdModel.SyncRegion
