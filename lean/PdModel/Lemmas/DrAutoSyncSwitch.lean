import PdModel.Model.DrAutoSync
import PdModel.Spec.C19
/-!
The event list of a DR auto-sync operation: its shape (`Sw`), its translation into the vocabulary of
`Spec.C19`, and the ids it obtains from the allocator.
-/
namespace PdModel.DrAutoSync
open PdModel.Spec

def toSpecState : DrState → C19.DrState
  | .none => .none | .sync => .sync | .async => .async | .syncRecover => .syncRecover

def toSpec (v : Served) : C19.Served := (toSpecState v.1, v.2)

def specEv : Ev → Option C19.Ev
  | .alloc id => some (.id id)
  | .allocFail => some .idFail
  | .file st id _ seen => some (.offer (toSpecState st) id (toSpec seen))
  | .save st id ok seen => some (.persist (toSpecState st) id ok (toSpec seen))
  | _ => none

def specEvs (l : List Ev) : List C19.Ev := l.filterMap specEv

theorem specEvs_append (a b : List Ev) : specEvs (a ++ b) = specEvs a ++ specEvs b :=
  List.filterMap_append

theorem toSpecState_inj (a b : DrState) : toSpecState a = toSpecState b ↔ a = b := by
  cases a <;> cases b <;> simp [toSpecState]

/-- `Sw P cur evs fin`: `evs` is a sequence of scans and of attempted state switches
    `alloc ; file ; save [; publish]` (or a failed allocation alone), the file and the save of every switch saw the state that was
    served before it, a publish follows exactly the successful saves, every performed switch `a → b`
    satisfies `P a b`, and `fin` is the state served in the end. -/
inductive Sw (P : Served → Served → Prop) : Served → List Ev → Served → Prop where
  | done (cur) : Sw P cur [] cur
  | scan (cur k l n evs fin) : Sw P cur evs fin → Sw P cur (.scan k l n :: evs) fin
  | count (cur n evs fin) : Sw P cur evs fin → Sw P cur (.count n :: evs) fin
  | allocFail (cur evs fin) : Sw P cur evs fin → Sw P cur (.allocFail :: evs) fin
  | failed (cur st id okf evs fin) : Sw P cur evs fin →
      Sw P cur (.alloc id :: .file st id okf cur :: .save st id false cur :: evs) fin
  | switched (cur st id okf evs fin) : P cur (st, id) → Sw P (st, id) evs fin →
      Sw P cur (.alloc id :: .file st id okf cur :: .save st id true cur :: .publish st id :: evs) fin

theorem Sw.append {P} {a b c : Served} {e1 e2 : List Ev} (h1 : Sw P a e1 b) (h2 : Sw P b e2 c) :
    Sw P a (e1 ++ e2) c := by
  induction h1 with
  | done cur => exact h2
  | scan cur k l n evs fin _ ih => exact .scan _ _ _ _ _ _ (ih h2)
  | count cur n evs fin _ ih => exact .count _ _ _ _ (ih h2)
  | allocFail cur evs fin _ ih => exact .allocFail _ _ _ (ih h2)
  | failed cur st id okf evs fin _ ih => exact .failed _ _ _ _ _ _ (ih h2)
  | switched cur st id okf evs fin hp _ ih => exact .switched _ _ _ _ _ _ hp (ih h2)

theorem Sw.mono {P Q : Served → Served → Prop} (hpq : ∀ a b, P a b → Q a b) {a b : Served} {e : List Ev}
    (h : Sw P a e b) : Sw Q a e b := by
  induction h with
  | done cur => exact .done _
  | scan cur k l n evs fin _ ih => exact .scan _ _ _ _ _ _ ih
  | count cur n evs fin _ ih => exact .count _ _ _ _ ih
  | allocFail cur evs fin _ ih => exact .allocFail _ _ _ ih
  | failed cur st id okf evs fin _ ih => exact .failed _ _ _ _ _ _ ih
  | switched cur st id okf evs fin hp _ ih => exact .switched _ _ _ _ _ _ (hpq _ _ hp) ih

def Ev.isScan : Ev → Bool
  | .scan _ _ _ => true | .count _ => true | _ => false

theorem Sw.publish_split {P} {a b : Served} {e : List Ev} (h : Sw P a e b) {st : DrState} {id : Nat}
    (hm : Ev.publish st id ∈ e) :
    ∃ pre post okf seen, P seen (st, id) ∧
      e = pre ++ [.alloc id, .file st id okf seen, .save st id true seen, .publish st id] ++ post := by
  induction h with
  | done cur => exact absurd hm List.not_mem_nil
  | scan _ _ _ _ _ _ _ ih | count _ _ _ _ _ ih | allocFail _ _ _ _ ih =>
    obtain ⟨pre, post, okf, seen, hp, rfl⟩ := ih ((List.mem_cons.1 hm).resolve_left nofun)
    exact ⟨_ :: pre, post, okf, seen, hp, rfl⟩
  | failed cur st' id' okf' evs fin _ ih =>
    obtain ⟨pre, post, okf, seen, hp, rfl⟩ := ih (by simpa using hm)
    exact ⟨_ :: _ :: _ :: pre, post, okf, seen, hp, rfl⟩
  | switched cur st' id' okf' evs fin hp _ ih =>
    simp only [List.mem_cons, reduceCtorEq, false_or, Ev.publish.injEq] at hm
    rcases hm with ⟨rfl, rfl⟩ | hm
    · exact ⟨[], evs, okf', cur, hp, rfl⟩
    · obtain ⟨pre, post, okf, seen, hq, rfl⟩ := ih hm
      exact ⟨_ :: _ :: _ :: _ :: pre, post, okf, seen, hq, rfl⟩

theorem Sw.unchanged {P} {a b : Served} {e : List Ev} (h : Sw P a e b)
    (hn : ∀ st id seen, Ev.save st id true seen ∉ e) : b = a := by
  induction h with
  | done cur => rfl
  | scan _ _ _ _ _ _ _ ih | count _ _ _ _ _ ih | allocFail _ _ _ _ ih =>
    exact ih fun st id seen hm => hn st id seen (.tail _ hm)
  | failed cur st' id' okf evs fin _ ih =>
    exact ih fun st id seen hm => hn st id seen (.tail _ (.tail _ (.tail _ hm)))
  | switched cur st' id' okf evs fin hp _ ih => exact absurd (.tail _ (.tail _ (.head _))) (hn st' id' cur)

def allocIds (evs : List Ev) : List Nat :=
  evs.filterMap (fun e => match e with | .alloc id => some id | _ => none)

/-- the ids handed to the switches of an operation, in the order they are consumed -/
def inIds (xs : List SwitchIn) : List Nat := xs.filterMap (·.id)

def opIds : Op → List Nat
  | .new _ x => inIds [x]
  | .cfg _ x => inIds [x]
  | .tick xs => inIds xs
  | _ => []

theorem allocIds_append (a b : List Ev) : allocIds (a ++ b) = allocIds a ++ allocIds b :=
  List.filterMap_append

theorem sw_of_scans {P} (cur : Served) (evs : List Ev) (h : evs.all Ev.isScan = true) :
    Sw P cur evs cur ∧ allocIds evs = [] := by
  induction evs with
  | nil => exact ⟨.done _, rfl⟩
  | cons e evs ih =>
    rw [List.all_cons, Bool.and_eq_true] at h
    cases e with
    | scan k l n => exact ⟨.scan _ _ _ _ _ _ (ih h.2).1, (ih h.2).2⟩
    | count n => exact ⟨.count _ _ _ _ (ih h.2).1, (ih h.2).2⟩
    | _ => exact absurd h.1 Bool.false_ne_true

def publishIds (evs : List Ev) : List Nat :=
  evs.filterMap (fun e => match e with | .publish _ id => some id | _ => none)

theorem sw_publishIds_sublist {P} {a b : Served} {e : List Ev} (h : Sw P a e b) :
    (publishIds e).Sublist (allocIds e) := by
  induction h with
  | done cur => exact List.Sublist.refl _
  | scan _ _ _ _ _ _ _ ih | count _ _ _ _ _ ih | allocFail _ _ _ _ ih => exact ih
  | failed cur st id okf evs fin _ ih => exact List.Sublist.cons _ ih
  | switched cur st id okf evs fin _ _ ih => exact List.Sublist.cons_cons _ ih

theorem idsOf_specEvs (evs : List Ev) : C19.idsOf (specEvs evs) = allocIds evs := by
  simp only [C19.idsOf, specEvs, allocIds, List.filterMap_filterMap]
  congr 1; funext e; cases e <;> rfl

def Fresh (ids used : List Nat) : Prop := ids.Nodup ∧ ∀ i ∈ ids, i ∉ used

theorem Fresh.prefix {a rest used : List Nat} (h : Fresh (a ++ rest) used) : Fresh a used :=
  ⟨(List.nodup_append.1 h.1).1, fun i hi => h.2 i (List.mem_append_left _ hi)⟩

theorem Fresh.suffix {a b used : List Nat} (h : Fresh (a ++ b) used) {a' : List Nat} (ha : ∀ i ∈ a', i ∈ a) :
    Fresh b (a' ++ used) := by
  obtain ⟨hnd, hu⟩ := h
  rw [List.nodup_append] at hnd
  refine ⟨hnd.2.1, fun i hi => ?_⟩
  rw [List.mem_append, not_or]
  exact ⟨fun h => hnd.2.2 i (ha i h) i hi rfl, hu i (List.mem_append_right _ hi)⟩

theorem Fresh.cons {id : Nat} {ids used : List Nat} (h : Fresh (id :: ids) used) :
    id ∉ used ∧ Fresh ids (id :: used) :=
  ⟨h.2 id List.mem_cons_self, h.suffix (a := [id]) (a' := [id]) fun _ hi => hi⟩

theorem sw_to_run {c : C19.Cause} {rs : List C19.Report} {a b : Served} {evs : List Ev}
    (h : Sw (fun a b => C19.Allowed c rs (toSpec a) (toSpec b)) a evs b) {used : List Nat}
    (hf : Fresh (allocIds evs) used) : C19.Run c rs (toSpec a) used (specEvs evs) (toSpec b) := by
  induction h generalizing used with
  | done cur => exact .done _ _
  | scan _ _ _ _ _ _ _ ih | count _ _ _ _ _ ih => exact ih hf
  | allocFail cur evs fin _ ih => exact .idFail _ _ _ _ (ih hf)
  | failed cur st id okf evs fin _ ih =>
    obtain ⟨hn, hrest⟩ := Fresh.cons (ids := allocIds evs) hf
    exact .failed _ _ _ _ _ _ hn (ih hrest)
  | switched cur st id okf evs fin hp _ ih =>
    obtain ⟨hn, hrest⟩ := Fresh.cons (ids := allocIds evs) hf
    exact .switched _ _ _ _ _ _ hn hp (ih hrest)

end PdModel.DrAutoSync
