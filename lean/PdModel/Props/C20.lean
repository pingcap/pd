import PdModel.Model.Bootstrap
import PdModel.Lemmas.Bootstrap
import PdModel.Lemmas.BootstrapEvents
import PdModel.Spec.C20
import PdModel.Generated.Bootstrap
/-!
C20 – property theorems.  Quantifiers: every number of members, every number of bootstrap requests with
arbitrary (also malformed, also foreign-cluster) payloads sent to any member, every interleaving of their
validation, transaction and raft-cluster start steps with leader changes, every transaction fault (error
with or without effect); every number of members initialising the cluster id with arbitrary candidate values.
No bound on the length of a history.
-/
namespace PdModel.Bootstrap
open PdModel.Spec

theorem inv_reachable (cid n l : Nat) (ops : List Op) : Inv (run (init cid n l) ops) :=
  inv_run (inv_init cid n l) ops

/-- In every reachable state: at most one transaction has ever succeeded; while
    none has, nothing is stored and no request has been accepted; once request `r`'s has, the stored cluster
    meta (with the cluster's id), the one store and the one region are exactly those of `r`'s – well-formed –
    payload, and `r` is the only request that is (or is about to be) answered `ok`. -/
theorem bootstrap_exactly_once (cid n l : Nat) (ops : List Op) :
    let s := run (init cid n l) ops
    s.wins.length ≤ 1 ∧
    (s.wins = [] → s.etcd = {} ∧
        ∀ (r : Nat) (x : Req), s.reqs[r]? = some x → x.phase ≠ .done .ok ∧ x.phase ≠ .committed) ∧
    (∀ r, s.wins = [r] → ∃ x : Req, s.reqs[r]? = some x ∧ checkReq x.payload = none ∧
        s.etcd = full cid r x.payload ∧
        ∀ (r' : Nat) (x' : Req), s.reqs[r']? = some x' → (x'.phase = .done .ok ∨ x'.phase = .committed) → r' = r) := by
  intro s
  have hi : Inv s := inv_reachable cid n l ops
  refine ⟨hi.winsLe, fun hw => ⟨hi.empty hw, fun r x hx => ⟨fun hp => ?_, fun hp => ?_⟩⟩, fun r hw => ?_⟩
  · exact nomatch (hi.okIn r x hx (.inr hp)).symm.trans hw
  · exact nomatch (hi.okIn r x hx (.inl hp)).symm.trans hw
  · obtain ⟨x, hx, h1, h2, _⟩ := hi.won r hw
    have hc : s.cid = cid := run_cid _ ops
    refine ⟨x, hx, h1, hc ▸ h2, fun r' x' hx' hp => ?_⟩
    exact (List.cons.inj ((hi.okIn r' x' hx' hp.symm).symm.trans hw)).1

/-- the answers a history produces, oldest first -/
def outputs : St → List Op → List StepOut
  | _, [] => []
  | s, op :: ops => (step s op).2 :: outputs (step s op).1 ops

def isOkOut : StepOut → Bool
  | .resp .ok => true
  | _ => false

theorem isOkOut_eq_false {out : StepOut} (h : out ≠ .resp .ok) : isOkOut out = false := by
  cases out with
  | resp o => cases o <;> first | rfl | exact absurd rfl h
  | _ => rfl

theorem Step.oks {s : St} {op : Op} {res : St × StepOut} (hs : Step s op res) :
    res.1.oks.length = s.oks.length + (isOkOut res.2).toNat := by
  cases hs with
  | started => exact List.length_append
  | isBootRefused ho | configRefused ho => rcases ho with rfl | rfl <;> rfl
  | answered ho => rw [isOkOut_eq_false fun e => ho.ne_ok (StepOut.resp.inj e)]; rfl
  | failed _ _ ho => rw [isOkOut_eq_false fun e => ho (StepOut.resp.inj e)]; rfl
  | _ => rfl

theorem outputs_oks (ops : List Op) (s : St) :
    ((outputs s ops).filter isOkOut).length + s.oks.length = (run s ops).oks.length := by
  induction ops generalizing s with
  | nil => exact Nat.zero_add _
  | cons op ops ih =>
    rw [run_cons, ← ih, (step_spec s op).oks, outputs, List.filter_cons]
    cases isOkOut (step s op).2
    · rfl
    · exact Nat.add_right_comm _ 1 _

/-- over the answers of any history (any members, requests, interleaving, leader changes, transaction faults)
    at most one is `ok` -/
theorem at_most_one_ok_answer (cid n l : Nat) (ops : List Op) :
    ((outputs (init cid n l) ops).filter isOkOut).length ≤ 1 :=
  Nat.le_trans (Nat.le_add_right _ _) (outputs_oks ops (init cid n l) ▸ (inv_reachable cid n l ops).oksLe)

theorem Step.etcd {s : St} {op : Op} {res : St × StepOut} (hs : Step s op res) (hi : Inv s) :
    res.1.etcd = s.etcd ∨ (s.etcd = {} ∧ ∃ r f, op = .commit r f ∧ res.1.wins = [r]) := by
  cases hs with
  | @won r f _ _ _ hroot | @wonUnseen r f _ _ _ hroot =>
    have hw := hi.wins_nil hroot
    exact .inr ⟨hi.empty hw, r, f, rfl, show s.wins ++ [r] = [r] by rw [hw]; rfl⟩
  | _ => exact .inl rfl

/-- A step of a reachable state leaves the stored records untouched unless it is
    the first successful transaction (on an empty store), which then is the single winner. -/
theorem loser_changes_nothing (cid n l : Nat) (ops : List Op) (op : Op) :
    let s := run (init cid n l) ops
    (step s op).1.etcd = s.etcd ∨
    (s.etcd = {} ∧ ∃ r f, op = .commit r f ∧ (step s op).1.wins = [r]) :=
  (step_spec _ op).etcd (inv_reachable cid n l ops)

/-- First half of the clause (the second is `accepted_is_well_formed`): a request whose payload fails the check
    is answered at once – not leader, cluster id mismatch, already bootstrapped or malformed – it never reaches
    the transaction and the stored records and the members are untouched. -/
theorem malformed_payload_rejected (s : St) (m hdr : Nat) (p : Payload) (b : Bad) (hb : checkReq p = some b) :
    (step s (.boot m hdr p)).1.etcd = s.etcd ∧ (step s (.boot m hdr p)).1.members = s.members ∧
    (step s (.boot m hdr p)).1.wins = s.wins ∧
    ((step s (.boot m hdr p)).2 = .bad ∨ (step s (.boot m hdr p)).2 = .resp .notLeader ∨
     (step s (.boot m hdr p)).2 = .resp .mismatch ∨ (step s (.boot m hdr p)).2 = .resp .already ∨
     (step s (.boot m hdr p)).2 = .resp (.malformed b)) := by
  have hs := step_spec s (.boot m hdr p)
  generalize step s (.boot m hdr p) = res at hs
  cases hs with
  | bad => exact ⟨rfl, rfl, rfl, .inl rfl⟩
  | parked hc => cases hb.symm.trans hc
  | answered ho =>
    refine ⟨rfl, rfl, rfl, .inr ?_⟩
    obtain rfl | rfl | ⟨_, rfl | ⟨b', hb', rfl⟩⟩ := ho
    · exact .inl rfl
    · exact .inr (.inl rfl)
    · exact .inr (.inr (.inl rfl))
    · cases hb.symm.trans hb'
      exact .inr (.inr (.inr rfl))

/-- Second half of `malformed_payload_rejected`: in every reachable state, a request that stands before its
    transaction, has committed it or is accepted carries a payload that passes the check. -/
theorem accepted_is_well_formed (cid n l : Nat) (ops : List Op) (r : Nat) (x : Req)
    (hx : (run (init cid n l) ops).reqs[r]? = some x)
    (hp : x.phase = .atTxn ∨ x.phase = .committed ∨ x.phase = .done .ok) : checkReq x.payload = none :=
  (inv_reachable cid n l ops).valid r x hx hp

/-- a Bootstrap or IsBootstrapped request naming another cluster id is refused (as "not leader" by a
    follower, as a cluster id mismatch by the leader) and changes neither the stored records nor any member -/
theorem foreign_cluster_id_refused (s : St) (m hdr : Nat) (p : Payload) (hf : hdr ≠ s.cid) :
    ((step s (.boot m hdr p)).1.etcd = s.etcd ∧ (step s (.boot m hdr p)).1.members = s.members ∧
      (step s (.boot m hdr p)).1.wins = s.wins ∧
      ((step s (.boot m hdr p)).2 = .bad ∨ (step s (.boot m hdr p)).2 = .resp .notLeader ∨
       (step s (.boot m hdr p)).2 = .resp .mismatch)) ∧
    ((step s (.isBoot m hdr)).1 = s ∧
      ((step s (.isBoot m hdr)).2 = .bad ∨ (step s (.isBoot m hdr)).2 = .resp .notLeader ∨
       (step s (.isBoot m hdr)).2 = .resp .mismatch)) := by
  constructor
  · have hs := step_spec s (.boot m hdr p)
    generalize step s (.boot m hdr p) = res at hs
    cases hs with
    | bad => exact ⟨rfl, rfl, rfl, .inl rfl⟩
    | parked => exact absurd rfl hf
    | answered ho =>
      refine ⟨rfl, rfl, rfl, .inr ?_⟩
      obtain rfl | rfl | ⟨hc, _⟩ := ho
      · exact .inl rfl
      · exact .inr rfl
      · exact absurd hc hf
  · have hs := step_spec s (.isBoot m hdr)
    generalize step s (.isBoot m hdr) = res at hs
    cases hs with
    | bad => exact ⟨rfl, .inl rfl⟩
    | isBootRefused ho => exact ⟨rfl, .inr (ho.imp (congrArg _) (congrArg _))⟩
    | isBoot => exact absurd rfl hf

/-- PutClusterConfig with a foreign cluster id in the header, or in the BODY (the metapb.Cluster to be
    stored), is never answered `ok`.  (The model stores nothing on PutClusterConfig, so the state is the same
    whatever the answer.) -/
theorem foreign_cluster_id_refused_config (s : St) (m hdr body : Nat) (hf : hdr ≠ s.cid ∨ body ≠ s.cid) :
    (step s (.putConfig m hdr body)).1 = s ∧ (step s (.putConfig m hdr body)).2 ≠ .cfg .ok := by
  have hs := step_spec s (.putConfig m hdr body)
  generalize step s (.putConfig m hdr body) = res at hs
  cases hs with
  | bad | configRefused => exact ⟨rfl, nofun⟩
  | config hc => exact ⟨rfl, fun e => hf.elim (absurd rfl) (absurd (hc (StepOut.cfg.inj e)))⟩

theorem tsoRun_foreign (cid : Nat) (leader : Bool) (hdrs : List Nat) :
    ∀ (i h : Nat), hdrs[i]? = some h → h ≠ cid → ∃ a, (tsoRun cid leader hdrs)[i]? = some a ∧ a ≠ .ts := by
  induction hdrs with
  | nil => intro i h hi; cases hi
  | cons x xs ih =>
    intro i h hi hne
    -- once the stream has ended with the answer `a`, every later request goes unanswered
    have ended (a : TsoAns) (ha : a ≠ .ts) :
        ∃ b, (a :: xs.map fun _ => TsoAns.closed)[i]? = some b ∧ b ≠ .ts := by
      cases i with
      | zero => exact ⟨a, rfl, ha⟩
      | succ j => exact ⟨.closed, by simp [lt_length_of_getElem? (show xs[j]? = some h from hi)], nofun⟩
    unfold tsoRun
    by_cases hx : x ≠ cid
    · rw [if_pos hx]; exact ended _ nofun
    · rw [if_neg hx]
      by_cases hl : (!leader) = true
      · rw [if_pos hl]; exact ended _ nofun
      · rw [if_neg hl]
        cases i with
        | zero => exact absurd (Option.some.inj hi) fun e => hx (e ▸ hne)
        | succ j => exact ih j h hi hne

/-- On one stream EVERY request is compared: a request naming another
    cluster is never answered with a timestamp, whatever was accepted before it on the same stream. -/
theorem foreign_cluster_id_refused_tso (s : St) (m : Nat) (mem : Member) (hdrs : List Nat)
    (hm : s.members[m]? = some mem) :
    step s (.tso m hdrs) = (s, .tso (tsoRun s.cid mem.leader hdrs)) ∧
    ∀ (i h : Nat), hdrs[i]? = some h → h ≠ s.cid →
      ∃ a, (tsoRun s.cid mem.leader hdrs)[i]? = some a ∧ a ≠ .ts :=
  ⟨by simp [step, hm], tsoRun_foreign s.cid mem.leader hdrs⟩

/-- Some request does succeed: a well-formed request for this cluster that reaches a leader whose raft cluster
    is not running, while nothing is stored yet, is accepted when its three steps run back to back (whatever
    other requests stand parked in `s`) – so "at most one" is "exactly one" as soon as such a request completes. -/
theorem uncontended_bootstrap_succeeds (s : St) (m : Nat) (mem : Member) (p : Payload)
    (hm : s.members[m]? = some mem) (hl : mem.leader = true) (hr : mem.running = false)
    (hroot : s.etcd.root = none) (hp : checkReq p = none) :
    let r := s.reqs.length
    let s1 := (step s (.boot m s.cid p)).1
    let s2 := (step s1 (.commit r .none)).1
    (step s (.boot m s.cid p)).2 = .parked ∧ (step s1 (.commit r .none)).2 = .done ∧
    (step s2 (.start r)).2 = .resp .ok ∧ s2.etcd = full s.cid r p := by
  have hv : validate s mem s.cid = none := validate_eq_none.2 ⟨hl, rfl⟩
  have e1 : step s (.boot m s.cid p) =
      ({ s with reqs := s.reqs ++ [{ member := m, payload := p, phase := .atTxn }] }, .parked) := by
    simp [step, hm, hv, hr, hp]
  simp only [e1]
  have e2 : step { s with reqs := s.reqs ++ [{ member := m, payload := p, phase := .atTxn }] }
      (.commit s.reqs.length .none) =
      (setReq { s with reqs := s.reqs ++ [{ member := m, payload := p, phase := .atTxn }],
                       etcd := full s.cid s.reqs.length p, wins := s.wins ++ [s.reqs.length] }
        s.reqs.length { member := m, payload := p, phase := .committed }, .done) := by
    simp [step, hroot, full]
  simp only [e2]
  refine ⟨trivial, trivial, ?_, by simp [setReq]⟩
  simp [step, setReq, hm]

theorem initId_spec (s : IdSt) (mine : Nat) (f : Fault) :
    (∀ v, s.key = some v → (initId s mine f).1.key = some v) ∧
    ∀ v ∈ (initId s mine f).1.given, v ∈ s.given ∨ (initId s mine f).1.key = some v := by
  unfold initId
  cases f <;> cases hk : s.key <;> simp +contextual [eq_comm, hk]

theorem idRun_given (ops : List (Nat × Fault)) (s : IdSt) (h : ∀ v ∈ s.given, s.key = some v) :
    ∀ v ∈ (idRun s ops).given, (idRun s ops).key = some v :=
  foldl_inv (fun t : IdSt => ∀ v ∈ t.given, t.key = some v) _ ops s h fun t o _ ht v hv =>
    let ⟨h1, h2⟩ := initId_spec t o.1 o.2
    (h2 v hv).elim (fun hv => h1 v (ht v hv)) id

/-- For every number of members racing through `initOrGetClusterID` with arbitrary
    candidates and every transaction fault: all values handed out are equal to the stored key, hence to each
    other; and once the key is set no further call changes it. -/
theorem cluster_id_agreement (ops : List (Nat × Fault)) :
    C20.IdAgree (idRun {} ops).given ∧ (∀ v ∈ (idRun {} ops).given, (idRun {} ops).key = some v) ∧
    ∀ (v mine : Nat) (f : Fault), (idRun {} ops).key = some v → (initId (idRun {} ops) mine f).1.key = some v := by
  have same := idRun_given ops {} nofun
  exact ⟨fun a ha b hb => Option.some.inj ((same a ha).symm.trans (same b hb)), same,
    fun v mine f => (initId_spec _ mine f).1 v⟩

theorem refuses_req (a : C20.Ev) (r : Nat) (i : C20.Info) (h : C20.refuses a (.req r i) = true) :
    a = .resp r .refused := by
  cases a with
  | req _ _ => simp [C20.refuses] at h
  | recs _ => simp [C20.refuses] at h
  | resp r' k => cases k <;> simp [C20.refuses] at h ⊢; exact h

theorem holds_of_einv (s : St) (evs : List C20.Ev) (hi : Inv s) (h : EInv s evs) : C20.Holds s.cid evs := by
  have good {r p} (hw : s.wins = [r]) (hp : payloadOf s r p) : (infoOf p false).wellFormed = true :=
    (checkReq_iff_wellFormed p false).1 (payloadOf_won hi hw hp).1
  refine ⟨fun i hi' j hj => h.accU i j hi' hj, ?_, fun i hi' j hj hij => h.stable i j hij hj, ?_⟩
  · intro k hk ha
    obtain ⟨r, p, j, hw, _, hp, hgk, hjk, hgj, hall⟩ := h.acc k hk ha
    refine ⟨j, hjk, ?_, fun l hl hkl => hall l hkl hl⟩
    rw [hgj, hgk]
    simp [C20.issuesGood, good hw hp]
  · intro j hj hc
    obtain ⟨hgj, r, p, i, hw, hp, hij, hgi⟩ := h.compl j hj hc
    refine ⟨i, hij, ?_, ?_, fun l hl => ?_⟩ <;> rw [hgi]
    · simp [C20.isGoodReq, good hw hp]
    · rw [hgj]; exact recordsOf_won hi hw hp
    cases hr : C20.refuses (C20.getEv evs l) (.req r (infoOf p false)) with
    | false => rfl
    | true => exact absurd (refuses_req _ _ _ hr) (h.noRef r hw l hl)

theorem C20_holds_from {s : St} {evs : List C20.Ev} (hi : Inv s) (h : EInv s evs) (ops : List Op) :
    C20.Holds s.cid (evs ++ events s ops) :=
  run_cid s ops ▸ holds_of_einv _ _ (inv_run hi ops) (einv_run hi h ops)

/-- For every history of the model – any number of members and requests with
    arbitrary payloads and cluster ids, any interleaving of their validation, transaction and start steps with
    leader changes, any transaction fault – the events a client and an observer of the stored records see
    (requests issued, answers, records after every step) satisfy `Spec.C20.Holds`: at most one request is
    accepted; it was well-formed and for this cluster and from then on the records are exactly its own;
    records never change once present; they come from one well-formed request that is never refused. -/
theorem C20_holds (cid n l : Nat) (ops : List Op) : C20.Holds cid (events (init cid n l) ops) :=
  C20_holds_from (inv_init cid n l) (einv_nil _ rfl) ops

/-! The constants of `Generated.Bootstrap` are regenerated from the Go source on every run. -/

/-- the bootstrap transaction and the cluster-id transaction are both guarded by "key was never created";
    the payload is checked before the transaction is built; the request is validated (leader, cluster id)
    before bootstrapCluster is entered -/
theorem bootstrap_structure :
    PdModel.Generated.Bootstrap.bootstrapTxnGuardedByRootAbsent = true ∧
    PdModel.Generated.Bootstrap.clusterIdTxnGuardedByKeyAbsent = true ∧
    PdModel.Generated.Bootstrap.payloadCheckedBeforeTxn = true ∧
    PdModel.Generated.Bootstrap.requestValidatedBeforeBootstrap = true := by decide

/-- every gRPC handler of `Server` calls validateRequest, except the five that are documented not to
    (member discovery, the TSO stream – which compares the cluster id itself – and PD-to-PD streams) -/
theorem handlers_validate_requests :
    PdModel.Generated.Bootstrap.handlersWithoutValidate =
      ["GetDCLocationInfo", "GetMembers", "SyncMaxTS", "SyncRegions", "Tso"] := by decide

/-! Non-vacuity: two members, a malformed and a foreign request, two racing well-formed requests, a leader
    change between the winner's transaction and its raft-cluster start, a late request at the new leader. -/
def pA : Payload := { storeId := 1, regionId := 2, peers := [(3, 1)] }
def pB : Payload := { storeId := 4, regionId := 5, peers := [(6, 4)] }
def pBad : Payload := { storeId := 1, regionId := 2, peers := [(3, 9)] }

def demoOps : List Op :=
  [.boot 0 7 pBad, .boot 0 8 pA, .boot 1 7 pA, .boot 0 7 pA, .boot 0 7 pB, .commit 4 .none, .lead 1,
   .commit 3 .none, .boot 1 7 pA, .start 4, .isBoot 1 7, .isBoot 0 7]

example : (run (init 7 2 0) demoOps).wins = [4] ∧
    (run (init 7 2 0) demoOps).etcd = full 7 4 pB ∧
    (run (init 7 2 0) demoOps).reqs.map (·.phase) =
      [.done (.malformed .peerStore), .done .mismatch, .done .notLeader, .done .conflict, .done .ok,
       .done .already] := by decide

/-- what the observer sees of a race: two requests parked, the second wins, the first is refused, a late one
    is told "already" -/
example : events (init 7 2 0) [.boot 0 7 pA, .boot 0 7 pB, .commit 1 .none, .start 1, .commit 0 .none, .boot 0 7 pA] =
    [.req 0 (infoOf pA false), .recs {}, .req 1 (infoOf pB false), .recs {},
     .recs ⟨some 7, [4], [5], true⟩, .resp 1 .accepted, .recs ⟨some 7, [4], [5], true⟩,
     .resp 0 .refused, .recs ⟨some 7, [4], [5], true⟩,
     .req 2 (infoOf pA false), .resp 2 .refused, .recs ⟨some 7, [4], [5], true⟩] := by decide

example : C20.Holds 7 (events (init 7 2 0) demoOps) := C20_holds 7 2 0 demoOps

end PdModel.Bootstrap
