import PdModel.Lemmas.RuleMgr
/-! savePatch: what the storage holds after all, or some, of the writes of a patch.  Initialize on a storage that
    holds exactly what is served loads exactly what is served. -/
namespace PdModel.Rules
open PdModel.Spec.C13

def storeGetR (st : Storage) (k : K) : Option Rule :=
  match mapGet (fun kv : K × Option Rule => kv.1) k st.rules with
  | some kv => kv.2
  | none => none

def ruleWrite (kv : K × Option Rule) : Write := match kv.2 with | none => .deleteRule kv.1 | some r => .saveRule r
def groupWrite (g : Group) : Write := if g.isDefault then .deleteGroup g.id else .saveGroup g

theorem writes_eq (p : Patch) : p.writes = p.mutR.map ruleWrite ++ p.mutG.map groupWrite := rfl

theorem apply_ruleWrite_groups (st : Storage) (kv : K × Option Rule) : (st.apply (ruleWrite kv)).groups = st.groups := by
  unfold ruleWrite; cases kv.2 <;> rfl

theorem apply_groupWrite_rules (st : Storage) (g : Group) : (st.apply (groupWrite g)).rules = st.rules := by
  unfold groupWrite; split <;> rfl

theorem apply_ruleWrite_get (st : Storage) (kv : K × Option Rule) (hs : ∀ r, kv.2 = some r → kv.1 = r.key) (k : K) :
    storeGetR (st.apply (ruleWrite kv)) k = if kv.1 = k then kv.2 else storeGetR st k := by
  unfold ruleWrite storeGetR
  cases hv : kv.2 with
  | none =>
    rw [Storage.apply, mapGet_mapDel]
    by_cases e : kv.1 = k
    · rw [if_pos e, if_pos e]
    · rw [if_neg e, if_neg e]
  | some r =>
    have hk := hs r hv
    simp only [Storage.apply, mapGet_mapSet, ← hk]
    by_cases e : kv.1 = k <;> simp [e]

theorem apply_groupWrite_get (st : Storage) (g : Group) (k : K) :
    mapGet gKey k (st.apply (groupWrite g)).groups =
      if gKey g = k then (some g).filter nonDefault else mapGet gKey k st.groups := by
  unfold groupWrite
  cases hd : g.isDefault with
  | true =>
    rw [if_pos rfl, Storage.apply, mapGet_mapDel, Option.filter, nonDefault, hd]
    rfl
  | false =>
    rw [if_neg Bool.false_ne_true, Storage.apply, setG, mapGet_mapSet, Option.filter, nonDefault, hd]; rfl

theorem fold_ruleWrites_get {mutR : List (K × Option Rule)}
    (hk : KeysNodup (fun kv : K × Option Rule => kv.1) mutR)
    (hs : ∀ kv ∈ mutR, ∀ r, kv.2 = some r → kv.1 = r.key) (st : Storage) (k : K) :
    storeGetR ((mutR.map ruleWrite).foldl Storage.apply st) k =
      match mapGet (fun kv : K × Option Rule => kv.1) k mutR with
      | some kv => kv.2
      | none => storeGetR st k := by
  rw [List.foldl_map]
  refine (foldl_lookup _ _ storeGetR (·.2) mutR hk (fun kv hkv s k => apply_ruleWrite_get s kv (hs kv hkv) k) st k).trans ?_
  cases mapGet (fun kv : K × Option Rule => kv.1) k mutR <;> rfl

theorem fold_ruleWrites_groups (mutR : List (K × Option Rule)) (st : Storage) :
    ((mutR.map ruleWrite).foldl Storage.apply st).groups = st.groups := by
  rw [List.foldl_map]
  exact foldl_inv (fun s => s.groups = st.groups) _ mutR st rfl fun s kv _ h => (apply_ruleWrite_groups s kv).trans h

theorem fold_groupWrites_get {mutG : List Group} (hk : KeysNodup gKey mutG) (st : Storage) (id : Nat) :
    getG id ((mutG.map groupWrite).foldl Storage.apply st).groups =
      match getG id mutG with
      | some g => (some g).filter nonDefault
      | none => getG id st.groups := by
  rw [List.foldl_map]
  refine (foldl_lookup gKey _ (fun s k => mapGet gKey k s.groups) (fun g => (some g).filter nonDefault) mutG hk
    (fun g _ s k => ?_) st (id, 0)).trans ?_
  · exact apply_groupWrite_get s g k
  · unfold getG; cases mapGet gKey (id, 0) mutG <;> rfl

theorem fold_groupWrites_rules (mutG : List Group) (st : Storage) :
    ((mutG.map groupWrite).foldl Storage.apply st).rules = st.rules := by
  rw [List.foldl_map]
  exact foldl_inv (fun s => s.rules = st.rules) _ mutG st rfl fun s g _ h => (apply_groupWrite_rules s g).trans h

/-- the storage holds exactly what is served: every served rule under its key, every non-default group -/
structure InSync (s : St) : Prop where
  rules  : ∀ k, storeGetR s.store k = getR k s.mgr.cfg.rules
  groups : ∀ id, getG id s.store.groups = (getG id s.mgr.cfg.groups).filter nonDefault

/-- all writes of a patch applied to a storage that agrees with what is served on every key the patch does not
    write: the result agrees with the committed configuration everywhere -/
theorem writes_sync (c : Config) (hc : ConfigWF c) (p : Patch) (hp : PatchWF p) (rl : RuleList) (st0 : Storage)
    (hr : ∀ k, mapGet (fun kv : K × Option Rule => kv.1) k p.mutR = none → storeGetR st0 k = getR k c.rules)
    (hg : ∀ id, getG id p.mutG = none → getG id st0.groups = (getG id c.groups).filter nonDefault) :
    InSync { mgr := { cfg := p.commit c, ruleList := rl }, store := p.writes.foldl Storage.apply st0 } := by
  constructor
  · intro k
    show storeGetR _ k = getR k (p.commit c).rules
    rw [writes_eq, List.foldl_append, storeGetR, fold_groupWrites_rules, ← storeGetR,
      fold_ruleWrites_get hp.keys (fun kv hkv r hr => (hp.self kv hkv r hr).1), commit_findR _ _ hp, Patch.findR]
    cases hm : mapGet (fun kv : K × Option Rule => kv.1) k p.mutR with
    | some kv => rfl
    | none => exact hr k hm
  · intro id
    show getG id _ = (getG id (p.commit c).groups).filter nonDefault
    rw [writes_eq, List.foldl_append, fold_groupWrites_get hp.gkeys, fold_ruleWrites_groups, commit_getG _ hc _ hp]
    cases hm : getG id p.mutG with
    | some g => rfl
    | none => exact hg id hm

theorem accept_sync (s : St) (hc : ConfigWF s.mgr.cfg) (hsync : InSync s) (p : Patch) (hp : PatchWF p)
    (rl : RuleList) :
    InSync { mgr := { cfg := (p.trim s.mgr.cfg).commit s.mgr.cfg, ruleList := rl },
             store := (p.trim s.mgr.cfg).writes.foldl Storage.apply s.store } :=
  writes_sync s.mgr.cfg hc _ (trim_wf _ p hp) rl s.store (fun k _ => hsync.rules k) (fun id _ => hsync.groups id)

theorem apply_other_rule (st : Storage) (w : Write) (k : K) (h : w.target ≠ (true, k)) :
    storeGetR (st.apply w) k = storeGetR st k := by
  unfold storeGetR
  cases w with
  | saveRule r => rw [Storage.apply, mapGet_mapSet, if_neg fun e : r.key = k => h (e ▸ rfl)]
  | deleteRule k' => rw [Storage.apply, mapGet_mapDel, if_neg fun e : k' = k => h (e ▸ rfl)]
  | saveGroup g => rfl
  | deleteGroup id => rfl

theorem apply_other_group (st : Storage) (w : Write) (id : Nat) (h : w.target ≠ (false, (id, 0))) :
    getG id (st.apply w).groups = getG id st.groups := by
  unfold getG
  cases w with
  | saveRule r => rfl
  | deleteRule k' => rfl
  | saveGroup g => rw [Storage.apply, setG, mapGet_mapSet, if_neg fun e : gKey g = (id, 0) => h (e ▸ rfl)]
  | deleteGroup id' => rw [Storage.apply, mapGet_mapDel, if_neg fun e : (id', 0) = (id, 0) => h (e ▸ rfl)]

/-- some of the writes of a patch are the writes of a smaller patch: a key the patch does not write keeps its value -/
theorem fold_filter_other {p : Patch} (hp : PatchWF p) (q : Write → Bool) (st : Storage) :
    (∀ k, mapGet (fun kv : K × Option Rule => kv.1) k p.mutR = none →
      storeGetR ((p.writes.filter q).foldl Storage.apply st) k = storeGetR st k) ∧
    (∀ id, getG id p.mutG = none → getG id ((p.writes.filter q).foldl Storage.apply st).groups = getG id st.groups) := by
  rw [writes_eq, List.filter_append, List.filter_map, List.filter_map, List.foldl_append]
  constructor
  · intro k hk
    rw [storeGetR, fold_groupWrites_rules, ← storeGetR,
      fold_ruleWrites_get (hp.keys.sublist List.filter_sublist)
        (fun kv hkv r hr => (hp.self kv (List.mem_filter.1 hkv).1 r hr).1),
      mapGet_filter _ _ hp.keys, hk]
    rfl
  · intro id hid
    rw [fold_groupWrites_get (hp.gkeys.sublist List.filter_sublist), fold_ruleWrites_groups, getG,
      mapGet_filter _ _ hp.gkeys, ← getG, hid]
    rfl

/-- the writes done before the failure touch only keys the patch writes again, so `writes_sync` applies -/
theorem retry_sync (s : St) (hc : ConfigWF s.mgr.cfg) (hsync : InSync s) (p : Patch) (hp : PatchWF p)
    (rl : RuleList) (q : Write → Bool) :
    InSync { mgr := { cfg := (p.trim s.mgr.cfg).commit s.mgr.cfg, ruleList := rl },
             store := (p.trim s.mgr.cfg).writes.foldl Storage.apply
               (((p.trim s.mgr.cfg).writes.filter q).foldl Storage.apply s.store) } :=
  have hp' := trim_wf s.mgr.cfg p hp
  have hd := fold_filter_other hp' q s.store
  writes_sync s.mgr.cfg hc _ hp' rl _ (fun k hk => (hd.1 k hk).trans (hsync.rules k))
    fun id hid => (hd.2 id hid).trans (hsync.groups id)

/-- the storage as savePatch leaves it: one entry per key, each rule under its own key, no junk -/
structure StoreWF (st : Storage) : Prop where
  keys  : KeysNodup (fun kv : K × Option Rule => kv.1) st.rules
  self  : ∀ kv ∈ st.rules, ∃ r, kv = (r.key, some r)
  gkeys : KeysNodup gKey st.groups

theorem storeWF_apply (st : Storage) (h : StoreWF st) (w : Write) : StoreWF (st.apply w) := by
  cases w with
  | saveRule r =>
    refine ⟨keysNodup_mapSet _ h.keys, ?_, h.gkeys⟩
    intro kv hkv
    rcases (mem_mapSet _ _ kv _).1 hkv with e | ⟨e, _⟩
    · exact ⟨r, e⟩
    · exact h.self kv e
  | deleteRule k =>
    exact ⟨keysNodup_mapDel _ h.keys, fun kv hkv => h.self kv (List.mem_filter.1 hkv).1, h.gkeys⟩
  | saveGroup g => exact ⟨h.keys, h.self, keysNodup_mapSet _ h.gkeys⟩
  | deleteGroup id => exact ⟨h.keys, h.self, keysNodup_mapDel _ h.gkeys⟩

theorem storeWF_fold (ws : List Write) {st : Storage} (h : StoreWF st) : StoreWF (ws.foldl Storage.apply st) :=
  foldl_inv StoreWF _ ws st h fun st w _ h => storeWF_apply st h w

/-- loadRules on a clean storage: every entry is taken, nothing is repaired -/
theorem loadLoop_clean : ∀ (l : List (K × Option Rule)) (rules : List Rule),
    (∀ kv ∈ l, ∃ r, kv = (r.key, some r) ∧ ruleOK r = true) →
    KeysNodup (fun kv : K × Option Rule => kv.1) l →
    (∀ kv ∈ l, getR kv.1 rules = none) →
    loadLoop l rules [] [] = (commitRules l rules, [], []) := by
  intro l
  induction l with
  | nil => intro rules _ _ _; rfl
  | cons kv rest ih =>
    intro rules hself hk hnew
    rw [KeysNodup, List.pairwise_cons] at hk
    obtain ⟨r, rfl, hok⟩ := hself _ List.mem_cons_self
    have hnone : getR r.key rules = none := hnew _ List.mem_cons_self
    simp only [loadLoop, adjustRule_of_ok r hok, hnone, Option.isSome_none, Bool.false_eq_true, ↓reduceIte,
      ne_eq, not_true_eq_false, commitRules, List.foldl_cons]
    apply ih _ (fun x hx => hself x (List.mem_cons_of_mem _ hx)) hk.2
    intro x hx
    unfold getR setR
    rw [mapGet_mapSet]
    have : ¬ r.key = x.1 := hk.1 x hx
    simp only [this, ↓reduceIte]
    exact hnew x (List.mem_cons_of_mem _ hx)

theorem configWF_empty : ConfigWF {} :=
  ⟨List.Pairwise.nil, fun _ h => (List.not_mem_nil h).elim, List.Pairwise.nil⟩

/-- a manager started on a storage that holds exactly what is served (no junk, every rule under its
    own key) loads the same rules, the same group configurations and builds the same index; it does not touch
    the storage. -/
theorem load_serves_storage (ip : InitParams) (s : St) (hc : ConfigWF s.mgr.cfg)
    (hidx : buildRuleList s.mgr.cfg.grules = .ok s.mgr.ruleList) (hsync : InSync s) (hst : StoreWF s.store) :
    ∃ m', initMgr ip s.store = (.ok m', s.store) ∧ m'.ruleList = s.mgr.ruleList ∧
      (∀ k, getR k m'.cfg.rules = getR k s.mgr.cfg.rules) ∧
      (∀ id, m'.cfg.getGroup id = s.mgr.cfg.getGroup id) := by
  have hself : ∀ kv ∈ s.store.rules, ∃ r, kv = (r.key, some r) ∧ ruleOK r = true := by
    intro kv hkv
    obtain ⟨r, rfl⟩ := hst.self kv hkv
    have h := hsync.rules r.key
    rw [storeGetR, mapGet_of_mem _ _ hst.keys _ hkv] at h
    exact ⟨r, rfl, hc.valid r (mapGet_some _ h.symm).2⟩
  have hload := loadLoop_clean s.store.rules [] hself hst.keys (fun _ _ => rfl)
  -- what start-up does with such a storage is to commit it, read as a patch, to the empty configuration
  let P : Patch := ⟨s.store.rules, s.store.groups⟩
  have hP : PatchWF P :=
    ⟨hst.keys, fun kv hkv r hr => by obtain ⟨r', rfl, hok⟩ := hself kv hkv; cases hr; exact ⟨rfl, hok⟩, hst.gkeys⟩
  have hc' : ConfigWF (P.commit {}) := commit_wf _ configWF_empty P hP
  have hLget : ∀ k, getR k (P.commit {}).rules = getR k s.mgr.cfg.rules := fun k => by
    rw [commit_findR _ P hP, ← hsync.rules k]
    unfold Patch.findR storeGetR
    cases mapGet (fun kv : K × Option Rule => kv.1) k s.store.rules <;> rfl
  have hgg : ∀ id, (P.commit {}).getGroup id = s.mgr.cfg.getGroup id := fun id => by
    rw [commit_getGroup _ configWF_empty P hP, getGroup_eq s.mgr.cfg, ← hsync.groups id]
    show (match getG id s.store.groups with | some g => g | none => _) = _
    cases getG id s.store.groups <;> rfl
  have hbuild : buildRuleList (P.commit {}).grules = .ok s.mgr.ruleList :=
    (build_congr _ s.mgr.cfg hc' hc hLget hgg).trans hidx
  -- an accepted index has a rule, and that rule was loaded
  have hLne : (commitRules s.store.rules []).isEmpty = false := by
    cases hrules : s.mgr.cfg.rules with
    | nil => rw [Config.grules, hrules] at hidx; cases hidx
    | cons r rs =>
      have h : getR r.key (commitRules s.store.rules []) = _ := hLget r.key
      rw [hrules, getR, getR, mapGet_cons, if_pos rfl] at h
      exact List.isEmpty_eq_false_iff_exists_mem.2 ⟨r, (mapGet_some _ h).2⟩
  refine ⟨{ cfg := P.commit {}, ruleList := s.mgr.ruleList }, ?_, rfl, hLget, hgg⟩
  unfold initMgr
  rw [hload]
  simp only [List.foldl_nil, List.map_nil, List.filter_nil, hLne, Bool.false_eq_true, ↓reduceIte]
  show (match buildRuleList (P.commit {}).grules with
    | .error e => ((Except.error e : Except BuildErr Mgr), s.store)
    | .ok rl => (Except.ok ({ cfg := P.commit {}, ruleList := rl } : Mgr), s.store)) = _
  rw [hbuild]

end PdModel.Rules
