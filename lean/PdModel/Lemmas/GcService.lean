import PdModel.Model.GcSafePoint
import PdModel.Prelude.ListFacts
/-!
Service safe points: what `LoadMinServiceGCSafePoint` (model: `scan`, `loadMin`) guarantees about the
minimum it returns and the table it leaves, for every table, every time up to `maxI64` and every failing write
(`LoadMinOk`); then what `UpdateServiceGCSafePoint` (model: `usp`) can return: an error, or `ok` in one of four
ways, each with the guarantees of the `loadMin` calls behind it (`UspOk`).  Each function is followed forwards,
branch by branch, to a statement about whatever it returns (`LoadMinRes`, `RemoveRes`, `UspOk`); who holds an
equation for the result reads the case off with `cases`.  What holds of table and minimum after every `ok` answer,
whichever of the four it is, is `Good` (`usp_good`); the rest of `LoadMinOk` relates the table left to the one before.
-/
namespace PdModel.GcSafePoint

theorem mem_tins (t : Table) (e x : Entry) : x ∈ tins t e ↔ x = e ∨ x ∈ t := by
  induction t with
  | nil => simp [tins]
  | cons y ys ih =>
    simp only [tins]
    split
    · simp
    · simp only [List.mem_cons, ih]
      exact or_left_comm

theorem mem_tremove (t : Table) (id : String) (x : Entry) : x ∈ tremove t id ↔ x ∈ t ∧ x.id ≠ id := by
  simp [tremove]

theorem mem_tput (t : Table) (e x : Entry) : x ∈ tput t e ↔ x = e ∨ (x ∈ t ∧ x.id ≠ e.id) := by
  simp [tput, mem_tins, mem_tremove]

/-- what holds of the record written and of the old records under other keys holds of every record after `Save` -/
theorem forall_mem_tput {t : Table} {e : Entry} {P : Entry → Prop} (he : P e) (ht : ∀ x ∈ t, x.id ≠ e.id → P x) :
    ∀ x ∈ tput t e, P x := fun x hx =>
  ((mem_tput t e x).1 hx).elim (fun h => h ▸ he) fun h => ht x h.1 h.2

theorem tick_nofail (w : W) (h : w.failAt = 0) : w.tick.2 = false ∧ w.tick.1.failAt = 0 := by
  simp [W.tick, h]

theorem tick_failAt (w : W) : w.tick.1.failAt = w.failAt := rfl

variable {gc : String} {now : Int}

/-- `Spec.C15.live`, said of a stored record: the records the loop compares are those not expired and the garbage
    collector's own -/
def live (gc : String) (now : Int) (e : Entry) : Prop := e.id = gc ∨ now ≤ e.exp

theorem takeMin_spec (m : Option Entry) (e : Entry) :
    ∃ m', takeMin m e = some m' ∧ m'.sp ≤ e.sp ∧ (∀ m0, m = some m0 → m'.sp ≤ m0.sp) ∧
      (m' = e ∨ m = some m') := by
  cases m with
  | none => exact ⟨e, rfl, Nat.le_refl _, nofun, Or.inl rfl⟩
  | some x =>
    unfold takeMin
    dsimp only
    split
    · next h => exact ⟨e, rfl, Nat.le_refl _, fun m0 h0 => by cases h0; exact Nat.le_of_lt h, Or.inl rfl⟩
    · next h => exact ⟨x, rfl, Nat.le_of_not_lt h, fun m0 h0 => by cases h0; exact Nat.le_refl _, Or.inr rfl⟩

/-- `m` is the running minimum over the compared records of `t`, those among `es` (still to visit) left aside -/
structure IsMin (gc : String) (now : Int) (t es : List Entry) (m : Option Entry) : Prop where
  le  : ∀ e ∈ t, live gc now e → e ∈ es ∨ ∃ m0, m = some m0 ∧ m0.sp ≤ e.sp
  src : ∀ m0, m = some m0 → ∃ e ∈ t, live gc now e ∧ m0.sp = e.sp

theorem IsMin.skip {t es : List Entry} {m : Option Entry} {e : Entry}
    (h : IsMin gc now t (e :: es) m) (he : ¬ live gc now e) : IsMin gc now t es m :=
  ⟨fun d hd hc => (h.le d hd hc).imp_left fun hm =>
    (List.mem_cons.1 hm).resolve_left fun hde => he (hde ▸ hc :), h.src⟩

/-- `e` is compared, in the form `e'` (itself, or with the expiry repaired) -/
theorem IsMin.take {t es : List Entry} {m : Option Entry} {e : Entry}
    (h : IsMin gc now t (e :: es) m) (het : e ∈ t) (he : live gc now e) (e' : Entry) (hs : e'.sp = e.sp) :
    IsMin gc now t es (takeMin m e') := by
  obtain ⟨m', hm1, hm2, hm3, hm4⟩ := takeMin_spec m e'
  rw [hm1]
  constructor
  · intro d hd hc
    rcases h.le d hd hc with hm | ⟨m0, hm0, hle⟩
    · rcases List.mem_cons.1 hm with rfl | hm
      · exact .inr ⟨m', rfl, hs ▸ hm2⟩
      · exact .inl hm
    · exact .inr ⟨m', rfl, Nat.le_trans (hm3 m0 hm0) hle⟩
  · intro m0 hm
    cases hm
    exact hm4.elim (fun h' => ⟨e, het, he, h' ▸ hs⟩) (h.src _)

/-- invariant of the loop over the records `t` read at its start, `es` those still to visit -/
structure SInv (gc : String) (now : Int) (t : Table) (es : List Entry) (a : Scan) : Prop where
  min    : IsMin gc now t es a.min
  src    : ∀ x ∈ a.tbl, x ∈ t ∨ ∃ e ∈ t, e.id = gc ∧ x = { e with exp := maxI64 }
  /-- without storage failures an expired record survives only until it is visited -/
  pruned : a.w.failAt = 0 → ∀ x ∈ a.tbl, now ≤ x.exp ∨ x ∈ es
  gc     : (a.hasGC = true ∨ ∃ e ∈ es, e.id = gc ∧ e.exp = maxI64) → ∃ x ∈ a.tbl, x.id = gc ∧ x.exp = maxI64
  ok     : a.failed = false

theorem sinv_start (gc : String) (now : Int) (t : Table) (w : W) :
    SInv gc now t t { tbl := t, w := w } :=
  ⟨⟨fun _ h _ => Or.inl h, nofun⟩, fun _ hx => Or.inl hx, fun _ _ hx => Or.inr hx,
    fun h => h.elim nofun id, rfl⟩

theorem scan_hasGC (c : Prop) [Decidable c] (a : Scan) :
    (if c then { a with hasGC := true } else a) = { a with hasGC := decide c || a.hasGC } := by
  split <;> simp [*]

theorem scan_inv (gc : String) (now : Int) (hnow : now ≤ maxI64) (t : Table) (es : List Entry) :
    ∀ (a : Scan), (∀ e ∈ es, e ∈ t) → SInv gc now t es a →
      (scan gc now es a).failed = true ∨ SInv gc now t [] (scan gc now es a) := by
  induction es with
  | nil => exact fun a _ h => Or.inr h
  | cons e es ih =>
    intro a ht h
    have het : e ∈ t := ht e (List.mem_cons_self ..)
    have ht' : ∀ d ∈ es, d ∈ t := fun d hd => ht d (List.mem_cons_of_mem _ hd)
    -- what is known of the old table, said for the records that remain to visit after `e`
    have rest : a.w.failAt = 0 → ∀ x ∈ a.tbl, (x = e → now ≤ x.exp) → now ≤ x.exp ∨ x ∈ es := fun hf x hx hxe =>
      (h.pruned hf x hx).elim Or.inl fun hm => (List.mem_cons.1 hm).elim (fun he => Or.inl (hxe he)) Or.inr
    have oldgc : (a.hasGC = true ∨ ∃ d ∈ es, d.id = gc ∧ d.exp = maxI64) →
        ∃ x ∈ a.tbl, x.id = gc ∧ x.exp = maxI64 := fun hp =>
      h.gc (hp.imp id fun ⟨d, hd, h2⟩ => ⟨d, List.mem_cons_of_mem _ hd, h2⟩)
    rw [scan]
    by_cases hfin : e.id = gc ∧ e.exp ≠ maxI64
    · rw [if_pos hfin]
      dsimp only
      by_cases hfail : a.w.tick.2 = true
      · rw [if_pos hfail]; exact Or.inl rfl
      · rw [if_neg hfail]
        refine ih _ ht' ⟨h.min.take het (Or.inl hfin.1) _ rfl, ?_, ?_, ?_, h.ok⟩
        · exact forall_mem_tput (Or.inr ⟨e, het, hfin.1, rfl⟩) fun x hx _ => h.src x hx
        · exact fun hf => forall_mem_tput (Or.inl hnow) fun x hx hne => rest hf x hx fun he => absurd (he ▸ rfl) hne
        · exact fun _ => ⟨_, (mem_tput _ _ _).2 (Or.inl rfl), hfin.1, rfl⟩
    · rw [if_neg hfin, scan_hasGC]
      dsimp only
      have hgcinf : e.id = gc → e.exp = maxI64 := fun hid =>
        Decidable.byContradiction fun hx => hfin ⟨hid, hx⟩
      by_cases hexp : e.exp < now
      · -- a failing removal is ignored
        rw [if_pos hexp]
        have hne : e.id ≠ gc := fun hid => absurd (hgcinf hid ▸ hexp) (Int.not_lt.2 hnow)
        have hdead : ¬ live gc now e := fun hc => hc.elim hne fun hc => absurd hexp (Int.not_lt.2 hc)
        refine ih _ ht' ⟨h.min.skip hdead, ?_, ?_, ?_, h.ok⟩
        · intro x hx
          refine h.src x ?_
          split at hx
          · exact hx
          · exact ((mem_tremove _ _ _).1 hx).1
        · intro hf x hx
          rw [(tick_nofail a.w hf).1] at hx
          obtain ⟨hx, hne'⟩ := (mem_tremove _ _ _).1 hx
          exact rest hf x hx fun he => absurd (he ▸ rfl) hne'
        · intro hp
          obtain ⟨x, hx, hid, hex⟩ := oldgc (hp.imp (by rw [decide_eq_false hne]; exact id) id)
          refine ⟨x, ?_, hid, hex⟩
          split
          · exact hx
          · exact (mem_tremove _ _ _).2 ⟨hx, hid ▸ Ne.symm hne⟩
      · rw [if_neg hexp]
        refine ih _ ht' ⟨h.min.take het (Or.inr (Int.not_lt.1 hexp)) e rfl, h.src, ?_, ?_, h.ok⟩
        · exact fun hf x hx => rest hf x hx fun he => he ▸ Int.not_lt.1 hexp
        · intro hp
          by_cases hid : e.id = gc
          · exact h.gc (Or.inr ⟨e, List.mem_cons_self .., hid, hgcinf hid⟩)
          · exact oldgc (hp.imp (by rw [decide_eq_false hid]; exact id) id)

theorem scan_failAt (gc : String) (now : Int) (es : List Entry) :
    ∀ a : Scan, (scan gc now es a).w.failAt = a.w.failAt := by
  induction es with
  | nil => exact fun _ => rfl
  | cons e es ih =>
    intro a
    rw [scan]
    by_cases hfin : e.id = gc ∧ e.exp ≠ maxI64
    · rw [if_pos hfin]
      dsimp only
      by_cases hfail : a.w.tick.2 = true
      · rw [if_pos hfail]; rfl
      · rw [if_neg hfail]; exact ih _
    · rw [if_neg hfin, scan_hasGC]
      dsimp only
      by_cases hexp : e.exp < now
      · rw [if_pos hexp]; exact ih _
      · rw [if_neg hexp]; exact ih _

/-- What holds of the table `t` and the minimum `m` reported with it after every answered request (`f` the index of
    the failing write): the minimum is not above a live record, without storage failures no record is expired,
    gc_worker's record is there and never expires. -/
structure Good (gc : String) (now : Int) (f : Nat) (t : Table) (m : Nat) : Prop where
  below  : ∀ x ∈ t, live gc now x → m ≤ x.sp
  pruned : f = 0 → ∀ x ∈ t, now ≤ x.exp
  worker : ∃ x ∈ t, x.id = gc ∧ x.exp = maxI64

/-- A record `e` that is not below the minimum and not expired is written; gc_worker's record was there, or is `e`. -/
theorem Good.put {f : Nat} {t : Table} {m : Nat} (hb : ∀ x ∈ t, live gc now x → m ≤ x.sp)
    (hp : f = 0 → ∀ x ∈ t, now ≤ x.exp) (e : Entry) (hm : m ≤ e.sp) (he : now ≤ e.exp)
    (hg : (e.id = gc ∧ e.exp = maxI64) ∨ (e.id ≠ gc ∧ ∃ x ∈ t, x.id = gc ∧ x.exp = maxI64)) :
    Good gc now f (tput t e) m := by
  refine ⟨forall_mem_tput (fun _ => hm) fun x hx _ => hb x hx,
    fun hf => forall_mem_tput he fun x hx _ => hp hf x hx, ?_⟩
  rcases hg with hg | ⟨hne, x, hx, hid, hex⟩
  · exact ⟨e, (mem_tput _ _ _).2 (Or.inl rfl), hg⟩
  · exact ⟨x, (mem_tput _ _ _).2 (Or.inr ⟨hx, fun h => hne (h.symm.trans hid)⟩), hid, hex⟩

/-- what a successful LoadMinServiceGCSafePoint guarantees: `t` the table before, `f` the index of the failing
    write, `t2` the table left, `m` the minimum -/
structure LoadMinOk (gc : String) (now : Int) (t : Table) (f : Nat) (t2 : Table) (m : Entry) : Prop
    extends Good gc now f t2 m.sp where
  /-- every record left is an old one or gc_worker's -/
  frame  : ∀ x ∈ t2, x ∈ t ∨ x.id = gc
  attain : (∃ e ∈ t, live gc now e) → ∃ e ∈ t, live gc now e ∧ m.sp = e.sp

theorem initGC_ok (gc : String) (t : Table) (w : W) (v : Nat) (t2 : Table) (w2 : W) (m : Entry)
    (h : initGC gc t w v = (t2, w2, .ok m)) :
    m = { id := gc, sp := v, exp := maxI64 } ∧ t2 = tput t m ∧ w2.failAt = w.failAt := by
  unfold initGC at h
  dsimp only at h
  split at h
  · cases h
  · cases h; exact ⟨rfl, rfl, rfl⟩

/-- the empty table is the loop over no records that finds no minimum -/
theorem loadMin_eq (gc : String) (now : Int) (t : Table) (w : W) :
    loadMin gc now t w =
      let a := scan gc now t { tbl := t, w := w }
      if a.failed then (a.tbl, a.w, .error .storage)
      else match a.min with
        | none => initGC gc a.tbl a.w 0
        | some m => if !a.hasGC then initGC gc a.tbl a.w m.sp else (a.tbl, a.w, .ok m) := by
  cases t <;> rfl

/-- what LoadMinServiceGCSafePoint can return: an error, or a minimum with the guarantees of `LoadMinOk`, the write
    counter still failing at the same index -/
inductive LoadMinRes (gc : String) (now : Int) (t : Table) (w : W) : Table × W × Except SErr Entry → Prop where
  | err {t2 : Table} {w2 : W} {e : SErr} : LoadMinRes gc now t w (t2, w2, .error e)
  | ok {t2 : Table} {w2 : W} {m : Entry} (hk : LoadMinOk gc now t w.failAt t2 m) (hw : w2.failAt = w.failAt) :
      LoadMinRes gc now t w (t2, w2, .ok m)

theorem loadMin_res (gc : String) (hnow : now ≤ maxI64) (t : Table) (w : W) :
    LoadMinRes gc now t w (loadMin gc now t w) := by
  rw [loadMin_eq]
  dsimp only
  have hwf := scan_failAt gc now t { tbl := t, w := w }
  rcases scan_inv gc now hnow t t _ (fun _ he => he) (sinv_start gc now t w) with hf | hinv
  · rw [if_pos hf]; exact .err
  rw [if_neg (by rw [hinv.ok]; exact Bool.false_ne_true)]
  generalize scan gc now t { tbl := t, w := w } = a at hinv hwf
  have hframe : ∀ x ∈ a.tbl, x ∈ t ∨ x.id = gc := fun x hx =>
    (hinv.src x hx).imp id fun ⟨_, _, hid, hxe⟩ => hxe ▸ hid
  have hpruned : w.failAt = 0 → ∀ x ∈ a.tbl, now ≤ x.exp := fun hw x hx =>
    (hinv.pruned (hwf.trans hw) x hx).elim id nofun
  -- the exits through `initGC`: gc_worker's record is written with a safe point `v` below everything compared
  have init : ∀ v : Nat, (∀ x ∈ a.tbl, live gc now x → v ≤ x.sp) →
      ((∃ e ∈ t, live gc now e) → ∃ e ∈ t, live gc now e ∧ v = e.sp) →
      LoadMinRes gc now t w (initGC gc a.tbl a.w v) := by
    intro v hv hat
    unfold initGC
    refine ite_ind (fun _ => .err) fun _ =>
      .ok ⟨.put hv hpruned _ (Nat.le_refl _) hnow (Or.inl ⟨rfl, rfl⟩),
        forall_mem_tput (Or.inr rfl) fun x hx _ => hframe x hx, hat⟩ hwf
  cases hmin : a.min with
  | none =>
    refine init 0 (fun _ _ _ => Nat.zero_le _) fun ⟨e, he, hc⟩ => ?_
    obtain ⟨m0, hm0, _⟩ := (hinv.min.le e he hc).resolve_left nofun
    rw [hmin] at hm0; cases hm0
  | some m0 =>
    have hbelow : ∀ x ∈ a.tbl, live gc now x → m0.sp ≤ x.sp := by
      intro x hx hc
      have key : ∀ e ∈ t, live gc now e → m0.sp ≤ e.sp := fun e he hc => by
        obtain ⟨m1, hm1, hle⟩ := (hinv.min.le e he hc).resolve_left nofun
        rw [hmin] at hm1; cases hm1; exact hle
      rcases hinv.src x hx with h1 | ⟨e, he, hid, rfl⟩
      · exact key x h1 hc
      · exact key e he (Or.inl hid)
    have hattain : ∃ e ∈ t, live gc now e ∧ m0.sp = e.sp := hinv.min.src m0 hmin
    cases hg : a.hasGC with
    | false => exact init m0.sp hbelow fun _ => hattain
    | true => exact .ok ⟨⟨hbelow, hpruned, hinv.gc (Or.inl hg)⟩, hframe, fun _ => hattain⟩ hwf

/-- what `usp` can return: an error, or `ok` in one of four ways, each with the table it leaves, the minimum it
    reports and the guarantees of the `loadMin` calls behind it -/
inductive UspOk (gc : String) (t : Table) (svc : String) (ttl : Int) (sp : Nat) (now : Int) (failAt : Nat) :
    Table × SOut → Prop where
  | err {t' : Table} {e : SErr} : UspOk gc t svc ttl sp now failAt (t', .err e)
  | removed {t' : Table} {m : Entry} (h0 : ttl ≤ 0) (hgc : svc ≠ gc) (hv : validId svc = true)
      (hk : LoadMinOk gc now (tremove t svc) failAt t' m) :
      UspOk gc t svc ttl sp now failAt (t', .ok m.id (m.exp - now) m.sp)
  | refused {t' : Table} {m : Entry} (h0 : 0 < ttl) (hlt : sp < m.sp)
      (hk : LoadMinOk gc now t failAt t' m) :
      UspOk gc t svc ttl sp now failAt (t', .ok m.id (m.exp - now) m.sp)
  /-- recorded; the minimum found before the write is the answer (some other service holds it) -/
  | saved {t2 : Table} {m : Entry} (h0 : 0 < ttl) (hge : m.sp ≤ sp) (hv : validId svc = true)
      (hgc : svc = gc → (newEntry svc ttl sp now).exp = maxI64) (hk : LoadMinOk gc now t failAt t2 m) :
      UspOk gc t svc ttl sp now failAt (tput t2 (newEntry svc ttl sp now), .ok m.id (m.exp - now) m.sp)
  /-- recorded; the minimum is loaded again after the write (the service itself held it) -/
  | reloaded {t2 t' : Table} {m m' : Entry} (h0 : 0 < ttl) (hge : m.sp ≤ sp) (hv : validId svc = true)
      (hgc : svc = gc → (newEntry svc ttl sp now).exp = maxI64) (hk : LoadMinOk gc now t failAt t2 m)
      (hk' : LoadMinOk gc now (tput t2 (newEntry svc ttl sp now)) failAt t' m') :
      UspOk gc t svc ttl sp now failAt (t', .ok m'.id (m'.exp - now) m'.sp)

theorem okOut_inv (t : Table) (m : Entry) (now : Int) (t' : Table) (mid : String) (mttl : Int) (msp : Nat)
    (h : okOut t m now = (t', .ok mid mttl msp)) : t' = t ∧ msp = m.sp := by
  cases h; exact ⟨rfl, rfl⟩

theorem le_newEntry_exp (svc : String) {ttl : Int} (sp : Nat) {now : Int} (hnow : now ≤ maxI64)
    (h : 0 < ttl) : now ≤ (newEntry svc ttl sp now).exp := by
  unfold newEntry
  dsimp only
  split
  · exact hnow
  · omega

/-- what the removal step of `usp` can return: an error, or the table as it was (positive ttl) or without the
    service's record, the write counter still failing at the same index -/
inductive RemoveRes (gc : String) (t : Table) (svc : String) (ttl : Int) (w : W) :
    Except SErr (Table × W) → Prop where
  | err {e : SErr} : RemoveRes gc t svc ttl w (.error e)
  | ok {t1 : Table} {w1 : W} (hw : w1.failAt = w.failAt)
      (hcase : (0 < ttl ∧ t1 = t) ∨ (ttl ≤ 0 ∧ svc ≠ gc ∧ validId svc = true ∧ t1 = tremove t svc)) :
      RemoveRes gc t svc ttl w (.ok (t1, w1))

theorem uspRemove_res (gc : String) (t : Table) (svc : String) (ttl : Int) (w : W) :
    RemoveRes gc t svc ttl w (uspRemove gc t svc ttl w) := by
  unfold uspRemove
  refine ite_ind (fun h0 => ?_) fun h0 => .ok rfl (Or.inl ⟨Int.lt_of_not_ge h0, rfl⟩)
  refine ite_ind (fun _ => .err) fun hgc => ?_
  refine ite_ind (fun _ => .err) fun hv => ?_
  rw [Bool.not_eq_true', Bool.not_eq_false] at hv
  exact ite_ind (fun _ => .err) fun _ => .ok rfl (Or.inr ⟨h0, hgc, hv, rfl⟩)

theorem usp_ok {t : Table} {svc : String} {ttl : Int} {sp : Nat} {failAt : Nat} {r : Table × SOut}
    (hnow : now ≤ maxI64) (h : usp gc t svc ttl sp now failAt = r) : UspOk gc t svc ttl sp now failAt r := by
  subst h
  unfold usp
  have hr := uspRemove_res gc t svc ttl { failAt := failAt }
  generalize uspRemove gc t svc ttl { failAt := failAt } = q at hr ⊢
  cases hr with
  | err => exact .err
  | @ok t1 w1 hw1 hcase =>
    dsimp only [uspLoad]
    have hl := loadMin_res gc hnow t1 w1
    generalize loadMin gc now t1 w1 = r at hl ⊢
    cases hl with
    | err => exact .err
    | @ok t2 w2 m hk hw2 =>
      rw [show w1.failAt = failAt from hw1] at hk hw2
      dsimp only [uspSave]
      refine ite_ind (fun hc => ?_) fun hc => ?_
      · -- a positive ttl: nothing was removed
        obtain ⟨hpos, rfl⟩ := hcase.resolve_right fun h0 => Int.not_lt.2 h0.1 hc.1
        refine ite_ind (fun _ => .err) fun _ => ?_
        refine ite_ind (fun _ => .err) fun hg => ?_
        refine ite_ind (fun _ => .err) fun hv => ?_
        refine ite_ind (fun _ => .err) fun _ => ?_
        have hgc : svc = gc → (newEntry svc ttl sp now).exp = maxI64 := fun hs =>
          Decidable.byContradiction fun hx => hg ⟨hs, hx⟩
        rw [Bool.not_eq_true', Bool.not_eq_false] at hv
        refine ite_ind (fun _ => ?_) fun _ => .saved hpos hc.2 hv hgc hk
        unfold uspReload
        have hl' := loadMin_res gc hnow (tput t2 (newEntry svc ttl sp now)) w2.tick.1
        generalize loadMin gc now (tput t2 (newEntry svc ttl sp now)) w2.tick.1 = r' at hl' ⊢
        cases hl' with
        | err => exact .err
        | ok hk' _ => exact .reloaded hpos hc.2 hv hgc hk ((tick_failAt w2).trans hw2 ▸ hk')
      · obtain ⟨hpos, rfl⟩ | ⟨h0, hgc, hv, rfl⟩ := hcase
        · exact .refused hpos (Nat.lt_of_not_le fun hle => hc ⟨hpos, hle⟩) hk
        · exact .removed h0 hgc hv hk

theorem usp_good {t : Table} {svc : String} {ttl : Int} {sp : Nat} {failAt : Nat} {t' : Table} {mid : String}
    {mttl : Int} {msp : Nat} (hnow : now ≤ maxI64) (h : usp gc t svc ttl sp now failAt = (t', .ok mid mttl msp)) :
    Good gc now failAt t' msp := by
  cases usp_ok hnow h with
  | removed h0 hgc hv hk => exact hk.toGood
  | refused h0 hlt hk => exact hk.toGood
  | reloaded h0 hge hv hgc hk hk' => exact hk'.toGood
  | saved h0 hge hv hgc hk =>
    -- the new record replaces gc_worker's only if it is gc_worker's own, and then it never expires
    refine .put hk.below hk.pruned _ hge (le_newEntry_exp svc sp hnow h0) ?_
    by_cases hs : svc = gc
    · exact Or.inl ⟨hs, hgc hs⟩
    · exact Or.inr ⟨hs, hk.worker⟩

end PdModel.GcSafePoint
