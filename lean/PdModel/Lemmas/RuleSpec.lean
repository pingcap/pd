import PdModel.Lemmas.RuleIndex
import PdModel.Lemmas.RuleOverride
/-! The functions of `Spec.C13` (what the monitor computes from the implementation's report) are the
    model-level characterisations used in the theorems. -/
namespace PdModel.Rules
open PdModel.Spec.C13

def mkG (gs : List Group) (r : Rule) : GRule := ⟨r, groupOf gs r.group⟩

theorem groupOf_eq_getGroup (c : Config) (id : Nat) : groupOf c.groups id = c.getGroup id := by
  have : (fun g : Group => g.id == id) = fun g => decide (gKey g = (id, 0)) := by
    funext g
    rw [Bool.eq_iff_iff, beq_iff_eq, decide_eq_true_iff, gKey, Prod.mk.injEq, and_iff_left rfl]
  rw [groupOf, this]
  rfl

theorem grules_eq_map (c : Config) : c.grules = c.rules.map (mkG c.groups) := by
  unfold Config.grules mkG
  apply List.map_congr_left
  intro r _
  rw [groupOf_eq_getGroup]

theorem before_iff (gs : List Group) (a b : Rule) : before gs a b = true ↔ RLt (mkG gs a) (mkG gs b) := by
  unfold before RLt mkG
  simp only [Bool.or_eq_true, decide_eq_true_eq, Bool.and_eq_true, beq_iff_eq]

theorem insertBy_eq (lt : Rule → Rule → Bool) (r : Rule) (l : List Rule) : insertBy lt r l = insBy lt r l := by
  induction l with
  | nil => rfl
  | cons x xs ih => simp only [insertBy, insBy, ih]

theorem sort_map (gs : List Group) (l : List Rule) :
    sortRules (l.map (mkG gs)) = (sortBy (before gs) l).map (mkG gs) := by
  rw [sortRules_eq, sortBy, funext fun r => funext (insertBy_eq (before gs) r)]
  exact (foldr_insBy_map _ (mkG gs) goesBefore
    (fun x y => Bool.eq_iff_iff.2 ((goesBefore_iff _ _).trans (before_iff gs x y).symm)) l).symm

theorem coverList_eq_map (c : Config) (k : Nat) :
    coverList c.grules k = (rulesAt ⟨c.rules, c.groups⟩ k).map (mkG c.groups) := by
  rw [coverList, grules_eq_map, List.filter_map, sort_map]
  rfl

theorem coverList_rulesAt (c : Config) (k : Nat) :
    (coverList c.grules k).map (·.rule) = rulesAt ⟨c.rules, c.groups⟩ k := by
  rw [coverList_eq_map, List.map_map]
  exact List.map_id _

theorem overrides_iff (gs : List Group) (later r : Rule) :
    overrides gs later r = (decide (RLt (mkG gs r) (mkG gs later)) && ovG (mkG gs later) (mkG gs r)) := by
  unfold overrides ovG
  have h : before gs r later = decide (RLt (mkG gs r) (mkG gs later)) := by
    rw [Bool.eq_iff_iff, before_iff]; simp
  rw [h]
  rfl

theorem prepare_coverList {rules : List GRule} (hw : RulesWF rules) (k : Nat) :
    prepareRulesForApply (coverList rules k) = applyPos (coverList rules k) :=
  have ⟨hm, hs⟩ := coverList_spec rules hw k
  prepareRulesForApply_eq _ (hs.imp RLt.toKLe) fun a ha b hb => hw.grp a ((hm a).1 ha).1 b ((hm b).1 hb).1

theorem prepare_applyOf (c : Config) (hw : RulesWF c.grules) (k : Nat) :
    (prepareRulesForApply (coverList c.grules k)).map (·.rule) =
      applyOf c.groups (rulesAt ⟨c.rules, c.groups⟩ k) := by
  rw [prepare_coverList hw k, applyPos_eq_filter [] (coverList c.grules k) (coverList_spec c.grules hw k).2, List.nil_append,
    coverList_eq_map, applyOf, List.filter_map, List.map_map]
  refine (List.map_id _).trans (List.filter_congr fun r _ => ?_)
  simp only [Function.comp, List.any_map, overrides_iff]
  rfl

theorem boundaries_mem (c : Config) (x : Nat) :
    x ∈ boundaries ⟨c.rules, c.groups⟩ ↔ x ∈ bkeys c.grules := by
  rw [mem_bkeys, grules_eq_map]
  unfold boundaries
  simp only [List.mem_append, List.mem_map, List.mem_filter, bne_iff_ne, ne_eq]
  constructor
  · rintro (⟨r, hr, rfl⟩ | ⟨r, ⟨hr, he⟩, rfl⟩)
    · exact ⟨mkG c.groups r, ⟨r, hr, rfl⟩, Or.inl rfl⟩
    · exact ⟨mkG c.groups r, ⟨r, hr, rfl⟩, Or.inr ⟨he, rfl⟩⟩
  · rintro ⟨g, ⟨r, hr, rfl⟩, h | ⟨he, h⟩⟩
    · exact Or.inl ⟨r, hr, h.symm⟩
    · exact Or.inr ⟨r, ⟨hr, he⟩, h.symm⟩

theorem bkeys_splitKeys (c : Config) (s e : Nat) :
    (bkeys c.grules).filter (inside s e) = splitKeys ⟨c.rules, c.groups⟩ s e := by
  unfold splitKeys
  apply ascending_ext _ _ ((bkeys_sorted _).filter _) (foldr_insertNat _).1
  intro x
  rw [(foldr_insertNat _).2, List.mem_filter, List.mem_filter, boundaries_mem]

theorem region_applyFor (c : Config) (hw : RulesWF c.grules) {rl : RuleList} (hb : Built c.grules rl) (s e : Nat) :
    (getRulesForApplyRegion rl s e).map (·.map (·.rule)) = applyFor ⟨c.rules, c.groups⟩ s e := by
  rw [getRulesForApplyRegion_built hb]
  unfold applyFor
  have e1 : (bkeys c.grules).any (inside s e) = (boundaries ⟨c.rules, c.groups⟩).any (inside s e) := by
    rw [Bool.eq_iff_iff, List.any_eq_true, List.any_eq_true]
    exact exists_congr fun x => and_congr_left fun _ => (boundaries_mem c x).symm
  rw [e1]
  by_cases hin : (boundaries ⟨c.rules, c.groups⟩).any (inside s e) = true
  · simp [hin]
  · obtain ⟨r, hr, h0⟩ := hb.zero
    have hle : (boundaries ⟨c.rules, c.groups⟩).any (fun b => decide (b ≤ s)) = true := by
      rw [List.any_eq_true]
      exact ⟨0, (boundaries_mem c 0).2 ((mem_bkeys _ 0).2 ⟨r, hr, Or.inl h0.symm⟩), by simp⟩
    simp only [hin, Bool.false_eq_true, ↓reduceIte, hle, Bool.not_true, Option.map_some]
    rw [prepare_applyOf c hw s]

theorem validApply_map (L : List GRule) :
    validApply (L.map (·.rule)) = (decide (leaderSum L ≤ 1) && decide (leaderSum L + voterSum L ≥ 1)) := by
  unfold validApply leaderSum voterSum
  simp only [List.filter_map, List.foldl_map]
  rfl

theorem keyOK_built (c : Config) (hw : RulesWF c.grules) {rl : RuleList} (hb : Built c.grules rl) (k : Nat) :
    keyOK ⟨c.rules, c.groups⟩ k = true := by
  have hok := checkApplyRules_ok _ (built_key_ok hb k).2
  unfold keyOK
  simp only
  rw [← prepare_applyOf c hw k, validApply_map]
  simp [hok.1, hok.2]

end PdModel.Rules
