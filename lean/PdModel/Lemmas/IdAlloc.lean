import PdModel.Model.IdAlloc
import PdModel.Spec.C04
import PdModel.Prelude.ListFacts
/-!
The invariant of the allocator model and what one step does.  `Inv.replace` goes through the clauses for every change
that keeps the grant log (one instance replaced or appended), `inv_bump` for the one that grows it, `cas_cases` lists the outcomes of the transaction, `StepOk` says
what every step satisfies and `step_ok` is the one case analysis of `step`.
-/
namespace PdModel.IdAlloc
open PdModel.Spec

/-- Instance `i` may still hand out the ids `base + 1 … end_`, all at most the stored bound (`win`).  No id of
    the log lies in such a range (`gout`), so the next id is new; the ranges are disjoint (`disj`), so it lies
    in no other one; the ids its instance returned before are at most `last ≤ base` (`glast`), so it is larger. -/
structure Inv (s : St) : Prop where
  win   : ∀ (i : Nat) (x : Inst), s.insts[i]? = some x →
            x.base ≤ x.end_ ∧ x.end_ ≤ s.bound ∧ x.last ≤ x.base
  disj  : ∀ (i j : Nat) (x y : Inst), i ≠ j → s.insts[i]? = some x → s.insts[j]? = some y →
            x.end_ ≤ y.base ∨ y.end_ ≤ x.base
  gout  : ∀ g ∈ s.granted, ∀ (i : Nat) (x : Inst), s.insts[i]? = some x →
            g.id ≤ x.base ∨ x.end_ < g.id
  gle   : ∀ g ∈ s.granted, g.prev < g.id ∧ g.id ≤ g.bound ∧ g.bound ≤ s.bound
  glast : ∀ g ∈ s.granted, ∀ (x : Inst), s.insts[g.inst]? = some x → g.id ≤ x.last
  nodup : (s.granted.map (·.id)).Nodup
  incr  : ∀ (i : Nat), ((s.granted.filter (·.inst = i)).map (·.id)).Pairwise (· > ·)
  ginst : ∀ g ∈ s.granted, g.inst < s.insts.length

variable {s s' : St} {i : Nat} {x x' : Inst}

theorem inv_init (k : Nat) : Inv (init k) where
  win _ _ h := nomatch h
  disj _ _ _ _ _ h := nomatch h
  gout _ h := nomatch h
  gle _ h := nomatch h
  glast _ h := nomatch h
  nodup := .nil
  incr _ := .nil
  ginst _ h := nomatch h

/-- `hins`: instance `i` is replaced by `x'` (`getElem?_set_cases`) or `x'` is appended at `i`
    (`getElem?_snoc_cases`).  Of all clauses only the instances that speak of `x'` are left to show. -/
theorem Inv.replace (h : Inv s)
    (hins : ∀ j y, s'.insts[j]? = some y → (j = i ∧ y = x') ∨ (j ≠ i ∧ s.insts[j]? = some y))
    (hlen : s.insts.length ≤ s'.insts.length)
    (hb : s.bound ≤ s'.bound) (hg : s'.granted = s.granted)
    (hwin : x'.base ≤ x'.end_ ∧ x'.end_ ≤ s'.bound ∧ x'.last ≤ x'.base)
    (hdisj : ∀ j y, j ≠ i → s.insts[j]? = some y → x'.end_ ≤ y.base ∨ y.end_ ≤ x'.base)
    (hgout : ∀ g ∈ s.granted, g.id ≤ x'.base ∨ x'.end_ < g.id)
    (hglast : ∀ g ∈ s.granted, g.inst = i → g.id ≤ x'.last) : Inv s' where
  win j y hy := by
    rcases hins j y hy with ⟨_, rfl⟩ | ⟨_, h0⟩
    · exact hwin
    · have := h.win j y h0; exact ⟨this.1, Nat.le_trans this.2.1 hb, this.2.2⟩
  disj a b y z hab hy hz := by
    rcases hins a y hy with ⟨rfl, rfl⟩ | ⟨ha, h1⟩ <;> rcases hins b z hz with ⟨rfl, rfl⟩ | ⟨hb', h2⟩
    · exact absurd rfl hab
    · exact hdisj b z hb' h2
    · exact (hdisj a y ha h1).symm
    · exact h.disj a b y z hab h1 h2
  gout g hm j y hy := by
    rcases hins j y hy with ⟨_, rfl⟩ | ⟨_, h0⟩
    · exact hgout g (hg ▸ hm)
    · exact h.gout g (hg ▸ hm) j y h0
  gle g hm := have := h.gle g (hg ▸ hm); ⟨this.1, this.2.1, Nat.le_trans this.2.2 hb⟩
  glast g hm y hy := by
    rcases hins _ y hy with ⟨e, rfl⟩ | ⟨_, h0⟩
    · exact hglast g (hg ▸ hm) e
    · exact h.glast g (hg ▸ hm) y h0
  nodup := hg ▸ h.nodup
  incr := hg ▸ h.incr
  ginst g hm := Nat.lt_of_lt_of_le (h.ginst g (hg ▸ hm)) hlen

/-- Instance `i` gets a window inside its old one or above the old stored bound: the ids it may hand out were
    its own before, or nobody's. -/
theorem Inv.set (h : Inv s) (hx : s.insts[i]? = some x) {st : Option Nat} (hb : s.bound ≤ st.getD 0)
    (hwin : x'.base ≤ x'.end_ ∧ x'.end_ ≤ st.getD 0 ∧ x'.last ≤ x'.base) (hlast : x.last ≤ x'.last)
    (hin : x.base ≤ x'.base ∧ x'.end_ ≤ x.end_ ∨ s.bound ≤ x'.base) :
    Inv (setInst { s with stored := st } i x') :=
  h.replace (fun _ _ hy => getElem?_set_cases hy) (Nat.le_of_eq List.length_set.symm) hb rfl hwin
    (fun j y hj hy => hin.elim
      (fun hi => (h.disj i j x y (Ne.symm hj) hx hy).imp (Nat.le_trans hi.2) (Nat.le_trans · hi.1))
      fun ha => .inr (Nat.le_trans (h.win j y hy).2.1 ha))
    (fun g hm => hin.elim
      (fun hi => (h.gout g hm i x hx).imp (Nat.le_trans · hi.1) (Nat.lt_of_le_of_lt hi.2))
      fun ha => .inl (Nat.le_trans (Nat.le_trans (h.gle g hm).2.1 (h.gle g hm).2.2) ha))
    (fun g hm e => Nat.le_trans (h.glast g hm x (e ▸ hx)) hlast)

theorem Inv.set_pending (h : Inv s) (hx : s.insts[i]? = some x) {p} {st : Option Nat} (hb : s.bound ≤ st.getD 0) :
    Inv (setInst { s with stored := st } i { x with pending := p }) :=
  have hw := h.win i x hx
  h.set hx hb ⟨hw.1, Nat.le_trans hw.2.1 hb, hw.2.2⟩ (Nat.le_refl _) (.inl ⟨Nat.le_refl _, Nat.le_refl _⟩)

theorem inv_new (h : Inv s) (m : Nat) : Inv { s with insts := s.insts ++ [{ member := m }] } :=
  h.replace (x' := { member := m })
    (fun j y hy => (getElem?_snoc_cases hy).symm.imp_right fun h => ⟨Nat.ne_of_lt h.1, h.2⟩)
    (by simp) (Nat.le_refl _) rfl ⟨Nat.le_refl _, Nat.zero_le _, Nat.le_refl _⟩
    (fun _ y _ _ => .inl (Nat.zero_le _))
    -- an empty window excludes no id
    (fun g _ => (Nat.lt_or_ge 0 g.id).symm)
    -- a grant never refers to an instance that does not exist yet
    (fun g hm e => absurd e (Nat.ne_of_lt (h.ginst g hm)))

theorem casHolds_iff {v} : casHolds s x v = true ↔ s.stored = v ∧ s.leader = x.member ∧ x.member ≠ 0 := by
  simp only [casHolds, Bool.and_eq_true, beq_iff_eq, bne_iff_ne, and_assoc]

theorem cas_cases (s : St) (i : Nat) (f : Fault) :
    (∀ x, s.insts[i]? = some x → x.pending = none) ∧ cas s i f = (s, .bad) ∨
    ∃ x v k, s.insts[i]? = some x ∧ x.pending = some (v, k) ∧
      ((f = .errBefore ∨ casHolds s x v = false) ∧
          cas s i f = (setInst s i { x with pending := none }, if f = .none then .conflict else .err) ∨
       f ≠ .errBefore ∧ casHolds s x v = true ∧
          cas s i f = (setInst { s with stored := some (s.bound + s.step) } i
              (if f = .errAfter then { x with pending := none }
               else { x with pending := none, base := s.bound, end_ := s.bound + s.step }),
            if f = .errAfter then .err else .ok)) := by
  unfold cas
  split
  · next h => exact .inl ⟨fun x hx => (nomatch h ▸ hx), rfl⟩
  · next x hx =>
    split
    · next hp => exact .inl ⟨fun y hy => Option.some.inj (hx ▸ hy) ▸ hp, rfl⟩
    · next v k hp =>
      refine .inr ⟨x, v, k, hx, hp, ?_⟩
      cases hc : casHolds s x v
      · exact .inl ⟨.inr rfl, by cases f <;> rfl⟩
      · have hv : v.getD 0 = s.bound := (casHolds_iff.1 hc).1 ▸ rfl
        rw [hv]
        cases f
        · exact .inr ⟨nofun, rfl, rfl⟩
        · exact .inl ⟨.inl rfl, rfl⟩
        · exact .inr ⟨nofun, rfl, rfl⟩

theorem cas_ok_window {f : Fault} (h : (cas s i f).2 = .ok) :
    ∃ x, (cas s i f).1.insts[i]? = some x ∧ x.end_ = x.base + (cas s i f).1.step := by
  rcases cas_cases s i f with ⟨_, e⟩ | ⟨x, v, k, hx, _, ⟨_, e⟩ | ⟨_, _, e⟩⟩ <;> rw [e] at h ⊢
  · cases h
  · split at h <;> cases h
  · have hf : f ≠ .errAfter := fun e => by subst e; cases h
    rw [if_neg hf]
    exact ⟨_, List.getElem?_set_self (List.getElem?_eq_some_iff.1 hx).1, rfl⟩

theorem bump_eq (hx : s.insts[i]? = some x) :
    bump s i = ({ setInst s i { x with base := x.base + 1, last := x.base + 1 } with
                  granted := ⟨i, x.base + 1, s.bound, x.last⟩ :: s.granted }, .id (x.base + 1)) := by
  unfold bump; rw [hx]

theorem inv_bump (h : Inv s) (hx : s.insts[i]? = some x) (hlt : x.base < x.end_) : Inv (bump s i).1 := by
  rw [bump_eq hx]
  have hw := h.win i x hx
  have h1 : Inv (setInst s i { x with base := x.base + 1, last := x.base + 1 }) :=
    h.set hx (Nat.le_refl _) ⟨hlt, hw.2.1, Nat.le_refl _⟩ (Nat.le_succ_of_le hw.2.2) (.inl ⟨Nat.le_succ _, Nat.le_refl _⟩)
  exact {
    win := h1.win
    disj := h1.disj
    gout := List.forall_mem_cons.2 ⟨fun j y hy => by
      rcases getElem?_set_cases hy with ⟨_, rfl⟩ | ⟨hj, h0⟩
      · exact .inl (Nat.le_refl _)
      · exact (h.disj i j x y (Ne.symm hj) hx h0).imp (Nat.le_trans hlt) Nat.lt_succ_of_le, h1.gout⟩
    gle := List.forall_mem_cons.2 ⟨⟨Nat.lt_succ_of_le hw.2.2, Nat.le_trans hlt hw.2.1, Nat.le_refl _⟩, h.gle⟩
    glast := List.forall_mem_cons.2 ⟨fun y hy => by
      rcases getElem?_set_cases hy with ⟨_, rfl⟩ | ⟨hj, _⟩
      · exact Nat.le_refl _
      · exact absurd rfl hj, h1.glast⟩
    nodup := List.nodup_cons.2 ⟨fun hm => by
      obtain ⟨g, hg, e⟩ := List.mem_map.1 hm
      have := h.gout g hg i x hx
      have e : g.id = x.base + 1 := e
      omega, h.nodup⟩
    incr := fun j => by
      show (List.map _ (List.filter _ (_ :: s.granted))).Pairwise _
      rw [List.filter_cons]
      split
      · next hj =>
        refine List.pairwise_cons.2 ⟨fun a ha => ?_, h.incr j⟩
        obtain ⟨g, hg, rfl⟩ := List.mem_map.1 ha
        have hg := List.mem_filter.1 hg
        have := h.glast g hg.1 x (by rw [of_decide_eq_true hg.2, ← of_decide_eq_true hj]; exact hx)
        exact Nat.lt_succ_of_le (Nat.le_trans this hw.2.2)
      · exact h.incr j
    ginst := List.forall_mem_cons.2
      ⟨Nat.lt_of_lt_of_eq (List.getElem?_eq_some_iff.1 hx).1 List.length_set.symm, h1.ginst⟩ }

theorem finishStep_cases (s : St) (i : Nat) (k : Kind) (f : Fault) :
    (k = .alloc ∧ (cas s i f).2 = .ok ∧ finishStep s i k f = bump (cas s i f).1 i) ∨
      finishStep s i k f = cas s i f := by
  unfold finishStep
  generalize cas s i f = r
  obtain ⟨s1, o⟩ := r
  cases k <;> cases o <;> first | exact .inr rfl | exact .inl ⟨rfl, rfl, rfl⟩

theorem finishStep_rebase (s : St) (i : Nat) (f : Fault) : finishStep s i .rebase f = cas s i f :=
  (finishStep_cases s i .rebase f).resolve_left (fun h => nomatch h.1)

/-- what a client observes of one step: a successful allocation, with the stored bound
    at the moment of the return -/
def evOf (after : St) (op : Op) (o : Out) : Option C04.Ev :=
  match op, o with
  | .alloc i _, .id n => some ⟨i, n, after.bound⟩
  | .galloc i, .id n => some ⟨i, n, after.bound⟩
  | .finish i _, .id n => some ⟨i, n, after.bound⟩
  | _, _ => none

def toEv (g : Grant) : C04.Ev := ⟨g.inst, g.id, g.bound⟩

variable {op : Op} {r : St × Out}

theorem evOf_ne_id {a : St} {o : Out} (h : ∀ n, o ≠ .id n) : evOf a op o = none := by
  unfold evOf; split <;> first | rfl | exact absurd rfl (h _)

/-- What every step satisfies.  `0 < step` is needed (only) for the id taken right after a successful
    transaction: the new window must not be empty.  `logs`: the ghost log of `r.1` is the log of `s` and, before
    it, what a client sees of the result `r` of `op`. -/
structure StepOk (s : St) (op : Op) (r : St × Out) : Prop where
  frame : r.1.step = s.step ∧ s.bound ≤ r.1.bound
  inv   : Inv s → 0 < s.step → Inv r.1
  logs  : r.1.granted.map toEv = (evOf r.1 op r.2).toList ++ s.granted.map toEv

namespace StepOk

/-- a step that changes at most the instances and the leader record and shows no allocation -/
theorem quiet {l : List Inst} {m : Nat} {o : Out} (he : evOf { s with insts := l, leader := m } op o = none)
    (hi : Inv s → Inv { s with insts := l, leader := m }) : StepOk s op ({ s with insts := l, leader := m }, o) :=
  ⟨⟨rfl, Nat.le_refl _⟩, fun h _ => hi h, by rw [he]; rfl⟩

theorem refuse : StepOk s op (s, .bad) := quiet (evOf_ne_id nofun) id

theorem trans {r1 : St × Out} (h1 : StepOk s op r1) (ho : ∀ n, r1.2 ≠ .id n) (h2 : StepOk r1.1 op r) :
    StepOk s op r :=
  ⟨⟨h2.frame.1.trans h1.frame.1, Nat.le_trans h1.frame.2 h2.frame.2⟩,
    fun h hs => h2.inv (h1.inv h hs) (h1.frame.1 ▸ hs), by rw [h2.logs, h1.logs, evOf_ne_id ho]; rfl⟩

theorem of_rd (k : Kind) : StepOk s op (rd s i k, .parked) := by
  unfold rd
  split
  · next x hx => exact quiet (evOf_ne_id nofun) (·.set_pending hx (Nat.le_refl _))
  · exact quiet (evOf_ne_id nofun) id

theorem after_rd {k : Kind} (h : StepOk (rd s i k) op r) : StepOk s op r := (of_rd k).trans nofun h

theorem of_cas (f : Fault) : StepOk s op (cas s i f) := by
  rcases cas_cases s i f with ⟨_, e⟩ | ⟨x, v, k, hx, _, ⟨_, e⟩ | ⟨_, _, e⟩⟩ <;> rw [e]
  · exact refuse
  · exact quiet (evOf_ne_id fun _ => by split <;> nofun) (·.set_pending hx (Nat.le_refl _))
  · refine ⟨⟨rfl, Nat.le_add_right _ _⟩, fun h _ => ?_, by rw [evOf_ne_id fun _ => by split <;> nofun]; rfl⟩
    have hw := h.win i x hx
    split
    · exact h.set_pending hx (Nat.le_add_right _ _)
    · exact h.set hx (Nat.le_add_right _ _)
        ⟨Nat.le_add_right _ _, Nat.le_refl _, Nat.le_trans hw.2.2 (Nat.le_trans hw.1 hw.2.1)⟩ (Nat.le_refl _)
        (.inr (Nat.le_refl _))

variable (hop : ∀ a n, evOf a op (.id n) = some ⟨i, n, a.bound⟩)
include hop

/-- `bump` is the one place where the log grows and the one place where an allocation returns an id (`stored`
    answers `.id` too; `evOf` drops it) -/
theorem of_bump (hx : s.insts[i]? = some x) (hne : 0 < s.step → x.base ≠ x.end_) : StepOk s op (bump s i) := by
  refine ⟨?_, fun h hs => inv_bump h hx (Nat.lt_of_le_of_ne (h.win i x hx).1 (hne hs)), ?_⟩ <;> rw [bump_eq hx]
  · exact ⟨rfl, Nat.le_refl _⟩
  · rw [hop]; rfl

theorem of_finishStep (s : St) (k : Kind) (f : Fault) : StepOk s op (finishStep s i k f) := by
  have hc : StepOk s op (cas s i f) := of_cas f
  rcases finishStep_cases s i k f with ⟨_, ok, e⟩ | e <;> rw [e]
  · obtain ⟨x, hx, he⟩ := cas_ok_window ok
    exact hc.trans (ok ▸ nofun) (of_bump hop hx fun _ => by omega)
  · exact hc

end StepOk

/-- One case analysis of `step`; each leaf is put together from `rd`, `cas`, `finishStep` and `bump` on a window
    that is not used up. -/
theorem step_ok (s : St) (op : Op) : StepOk s op (step s op) := by
  cases op <;> simp only [step]
  case new m => exact .quiet rfl (inv_new · m)
  -- the invariant does not mention `leader`
  case leader m => exact .quiet rfl fun h => { h with }
  case stored => exact .quiet rfl id
  case alloc i f =>
    have hop : ∀ a n, evOf a (.alloc i f) (.id n) = some ⟨i, n, a.bound⟩ := fun _ _ => rfl
    split
    · exact .refuse
    · next x hx =>
      split
      · exact .refuse
      · split
        · exact .after_rd (.of_finishStep hop _ _ f)
        · next hn => exact .of_bump hop hx fun _ e => hn (beq_iff_eq.2 e)
  case rebase i f =>
    split
    · exact .refuse
    · split
      · exact .refuse
      · rw [finishStep_rebase]; exact .after_rd (.of_cas f)
  case galloc i =>
    have hop : ∀ a n, evOf a (.galloc i) (.id n) = some ⟨i, n, a.bound⟩ := fun _ _ => rfl
    split
    · exact .refuse
    · next x hx =>
      split
      · exact .refuse
      · split
        · exact .of_rd _
        · next hn => exact .of_bump hop hx fun _ e => hn (beq_iff_eq.2 e)
  case grebase i =>
    split
    · exact .refuse
    · split
      · exact .refuse
      · exact .of_rd _
  case finish i f =>
    have hop : ∀ a n, evOf a (.finish i f) (.id n) = some ⟨i, n, a.bound⟩ := fun _ _ => rfl
    split
    · exact .refuse
    · split
      · exact .refuse
      · exact .of_finishStep hop s _ f

theorem inv_run (h : Inv s) (hs : 0 < s.step) (ops : List Op) : Inv (run s ops) :=
  (foldl_inv (fun t => Inv t ∧ 0 < t.step) _ ops s ⟨h, hs⟩ fun t op _ ht =>
    ⟨(step_ok t op).inv ht.1 ht.2, (step_ok t op).frame.1 ▸ ht.2⟩).1

end PdModel.IdAlloc
