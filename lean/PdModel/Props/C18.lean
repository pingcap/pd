import PdModel.Lemmas.Config
import PdModel.Generated.Config
/-!
Quantifiers of the C18 theorems: every sequence of the eight setters with arbitrary (valid and invalid,
finite and non-finite) values, of other members' writes and of reloads, every failure mask (any subset of
the storage writes of every call fails), every initial configuration, rule-manager and mode-manager state
and every set of registered scheduler types.  No bound on the length of the history.

The case analysis over the operations is made once, in `step_spec` (Lemmas/Config.lean); the theorems about
one call below are its fields, and `C18_step` puts them into the shape of `Spec.C18.StepOk`.
-/
namespace PdModel.Config
open PdModel.Spec.C18

/-- what an observer sees of a model state: the served configuration and what a fresh options object
    reloads -/
def obsOf (defaults : List String) (s : St) : Obs := { served := s.served, reloaded := reload defaults s }

def stepOf (defaults : List String) (s : St) (op : Op) : Step :=
  { kind := kindOf op, pre := obsOf defaults s, post := obsOf defaults (step s op).st,
    ok := decide ((step s op).res = .ok) }

def steps (defaults : List String) : St → List Op → List Step
  | _, [] => []
  | s, op :: ops => stepOf defaults s op :: steps defaults (step s op).st ops

/-- Whatever the setter, the value and the failure mask: a call
    that does not report success leaves the served configuration exactly as it was. -/
theorem rejected_leaves_served_unchanged (s : St) (op : Op) (h : (step s op).res ≠ .ok) :
    (step s op).st.served = s.served := (step_spec s op).rejected h

/-- an accepted change is stored as a whole: the stored value is the served configuration -/
theorem accepted_is_stored (s : St) (op : Op) (hs : op.isSetter = true) (h : (step s op).res = .ok) :
    (step s op).st.stored = some (step s op).st.served := (step_spec s op).stored hs h

/-- After an accepted change a fresh options object reloads the served
    configuration, up to the reload normalisation (`Spec.C18.normalise`: missing default schedulers
    re-added, deprecated flags migrated). -/
theorem accepted_is_reloaded (defaults : List String) (s : St) (op : Op) (hs : op.isSetter = true)
    (h : (step s op).res = .ok) :
    reload defaults (step s op).st = some (normalise defaults (step s op).st.served) :=
  congrArg (Option.map (normalise defaults)) (accepted_is_stored s op hs h)

/-- When the serving options object itself reloads (the member is re-elected
    after another member led and wrote), it serves afterwards, in every section, exactly what a fresh
    object reloads from the storage – nothing of its earlier in-memory configuration survives. -/
theorem reload_serves_storage (s : St) (c : Cfg) (h : s.stored = some c) :
    (step s .reload).res = .ok ∧ (step s .reload).st.stored = s.stored ∧
    reload s.defaults (step s .reload).st = some (step s .reload).st.served := by
  obtain ⟨h1, h2, h3⟩ := (step_spec s .reload).reloadIs rfl
  refine ⟨h1, h2, ?_⟩
  unfold reload; rw [h2, h, h3 c h]; rfl

/-- another member's write leaves what this member serves as it is -/
theorem foreign_write_keeps_served (s : St) (x : Section) : (step s (.foreign x)).st.served = s.served :=
  (step_spec s (.foreign x)).foreignKept x rfl

/-- for a scheduling section that passed validation the normalisation only re-adds default schedulers
    (the deprecated flags are all off and stay off) -/
theorem normalise_of_accepted_sched (defaults registered : List String) (c : Sched)
    (h : validateSched registered c = .ok) :
    normSched defaults c = { c with schedulers := addDefaults defaults c.schedulers } :=
  have ⟨_, _, _, _, _, _, _, hd, hr⟩ := validateSched_ok h
  normSched_of_off defaults hd hr

/-- An accepted scheduling section has a finite non-negative tolerant ratio,
    space ratios in [0,1] with high < low and only registered scheduler types; an accepted replication
    section has an isolation level that is empty or one of its location labels; an accepted PD-server
    section has a non-negative flow-round digit. -/
theorem accepted_in_domain (s : St) (op : Op) (h : (step s op).res = .ok) :
    (kindOf op = .sched → schedDomain s.registered (step s op).st.served.sched = true) ∧
    (kindOf op = .repl → replDomain (step s op).st.served.repl = true) ∧
    (kindOf op = .pd → pdDomain (step s op).st.served.pd = true) := (step_spec s op).domain h

/-- a scheduling section outside its domain is never accepted (contrapositive form, on the request itself) -/
theorem out_of_domain_sched_rejected (s : St) (c : Sched) (mask : Nat)
    (h : schedDomain s.registered c = false) : (step s (.sched c mask)).res ≠ .ok :=
  fun hok => Bool.false_ne_true (h.symm.trans ((setSched_setter s c mask).wrote hok).1)

/-- one call is observed as the property demands (the normalisation uses the state's default schedulers) -/
theorem C18_step (s : St) (op : Op) : StepOk s.defaults s.registered (stepOf s.defaults s op) where
  completes := rfl
  rejected hok := rejected_leaves_served_unchanged s op (of_decide_eq_false hok)
  durable h1 h2 hok := by
    obtain ⟨hs, -⟩ | ⟨x, rfl⟩ | rfl := step_cases s op
    · exact accepted_is_reloaded s.defaults s op hs (of_decide_eq_true hok)
    · exact absurd rfl h2
    · exact absurd rfl h1
  reloaded hk _ := by
    obtain ⟨-, h1, -⟩ | ⟨x, rfl⟩ | rfl := step_cases s op
    · exact absurd hk h1
    · cases hk
    · cases h : s.stored with
      -- a reload writes nothing, so with nothing stored a fresh object still reloads nothing
      | none => exact .inl (congrArg (Option.map _) (((step_spec s .reload).reloadIs rfl).2.1.trans h))
      | some c => exact .inr (reload_serves_storage s c h).2.2
  foreignKept hk := by
    obtain ⟨-, -, h2, -⟩ | ⟨x, rfl⟩ | rfl := step_cases s op
    · exact absurd hk h2
    · exact foreign_write_keeps_served s x
    · cases hk
  domain hok := accepted_in_domain s op (of_decide_eq_true hok)

/-- both lists are constants of the state, so the hypotheses pass to the next state -/
theorem C18_holds_from {defaults registered : List String} (s : St) (ops : List Op) (hd : s.defaults = defaults)
    (hr : s.registered = registered) : Holds defaults registered (steps defaults s ops) := by
  induction ops generalizing s with
  | nil => exact fun _ h => nomatch h
  | cons op ops ih =>
    intro x hx
    rcases List.mem_cons.mp hx with rfl | hx
    · subst hd hr; exact C18_step s op
    · exact ih _ ((step_defaults s op).trans hd) ((step_spec s op).registered.trans hr) x hx

/-- **C18.** Every history of the model (setter calls, other members' writes and reloads of the serving
    object, in any order) is observed as the property demands. -/
theorem C18_holds (s : St) (ops : List Op) : Holds s.defaults s.registered (steps s.defaults s ops) :=
  C18_holds_from s ops rfl rfl

/-- the three domains hold for the served configuration throughout every history of setter calls that
    starts inside them (a reload serves whatever another member stored) -/
theorem domain_invariant (s : St) (ops : List Op) (hs : ops.all Op.isSetter = true)
    (h : schedDomain s.registered s.served.sched = true ∧ replDomain s.served.repl = true ∧
      pdDomain s.served.pd = true) :
    schedDomain s.registered (run s ops).served.sched = true ∧ replDomain (run s ops).served.repl = true ∧
      pdDomain (run s ops).served.pd = true := by
  induction ops generalizing s with
  | nil => exact h
  | cons op ops ih =>
    rw [List.all_cons, Bool.and_eq_true] at hs
    have hr := (step_spec s op).registered
    have := ih (step s op).st hs.2 (hr ▸ (step_spec s op).domainKept hs.1 h)
    rwa [hr] at this

/-! Non-vacuity: a concrete history with an accepted and three rejected scheduling sections (ratios in the
    wrong order, NaN, unregistered type), label properties with failing persists (the F8 shapes), a
    replication section rejected for its isolation level, one whose persist fails (the rule keeps the new
    labels, so the next attempt is refused), a negative digit, an unparsable version and a replication-mode
    switch whose status write and revert both fail (stored = new, served = old). -/
def demoSched : Sched :=
  { tolerant := .fin 0, low := .fin 800000, high := .fin 700000, rate := .fin 0,
    disable := [false, false, false, false, false, false], enable := [true, true, true, true, true], other := "o",
    limits := [], schedulers := [⟨"balance-region", "-", false⟩, ⟨"balance-leader", "-", false⟩] }

def demoCfg : Cfg :=
  { sched := demoSched, repl := ⟨3, [], false, true, ""⟩, pd := ⟨"auto", true, 3, "p"⟩, labels := [],
    version := (4, 0, 0), rmode := ⟨"majority", "", "r"⟩ }

def demoInit : St :=
  { served := demoCfg, stored := some demoCfg, rule := some ⟨3, []⟩,
    registered := ["balance-leader", "balance-region", "hot-region", "label"],
    defaults := ["balance-region", "balance-leader", "hot-region"] }

def demoDefaults : List String := ["balance-region", "balance-leader", "hot-region"]

def demoOps : List Op :=
  [.sched { demoSched with low := .fin 900000 } 0,
   .sched { demoSched with low := .fin 600000 } 0,
   .sched { demoSched with tolerant := .nan } 0,
   .sched { demoSched with schedulers := [⟨"no-such", "-", false⟩] } 0,
   .lpset "reject-leader" "zone" "z1" 0,
   .lpset "reject-leader" "zone" "z1" 1,
   .lpdel "reject-leader" "host" "h1" 1,
   .repl ⟨5, ["zone"], false, true, "rack"⟩ 0,
   .repl ⟨5, ["zone"], false, true, "zone"⟩ 1,
   .repl ⟨5, ["zone"], false, true, "zone"⟩ 0,
   .pd ⟨"selfhost", true, -1, "p"⟩ 0,
   .pd ⟨"selfhost", true, 5, "p"⟩ 0,
   .cver none 0,
   .rmode ⟨"dr-auto-sync", "zone", "r"⟩ 6,
   .rmode ⟨"dr-auto-sync", "zone", "r"⟩ 0]

set_option maxRecDepth 100000 in
example : (steps demoDefaults demoInit demoOps).map (·.ok) =
    [true, false, false, false, true, false, false, false, false, false, false, true, false, false, true] := by decide +kernel

set_option maxRecDepth 100000 in
example : (run demoInit demoOps).served.labels = [⟨"reject-leader", [("zone", "z1")]⟩] := by decide +kernel

set_option maxRecDepth 100000 in
example : (run demoInit demoOps).rule = some ⟨3, ["zone"]⟩ := by decide +kernel

set_option maxRecDepth 100000 in
example : ((run demoInit (demoOps.take 14)).stored.map (·.rmode.mode), (run demoInit (demoOps.take 14)).served.rmode.mode) =
    (some "dr-auto-sync", "majority") := by decide +kernel

set_option maxRecDepth 100000 in
example : check demoDefaults demoInit.registered (steps demoDefaults demoInit demoOps) = true := by decide +kernel

/-- on the lists extracted from the source, every default scheduler is a registered one: the types that
    `addDefaults` appends at a reload are among those `schedDomain` admits (that the normalisation keeps a
    section in its domain is not stated as a theorem) -/
theorem default_schedulers_registered :
    PdModel.Generated.Config.defaultSchedulers.all
      (fun d => PdModel.Generated.Config.registeredSchedulers.contains d) = true := by decide +kernel

theorem C18_holds_extracted (s : St) (ops : List Op)
    (h : s.defaults = PdModel.Generated.Config.defaultSchedulers) :
    Holds PdModel.Generated.Config.defaultSchedulers s.registered
      (steps PdModel.Generated.Config.defaultSchedulers s ops) := C18_holds_from s ops h rfl

/-- structure obligations, re-checked against the facts regenerated from the Go source: the setters of the
    scheduling, replication, PD-server and replication-mode sections validate (`SetClusterVersion`: parses)
    before they swap the served section in, `SetScheduleConfig` swaps before it persists, and `Reload`
    adjusts after it has loaded.  No fact is extracted for the label-property setters, nor for the order
    swap → persist of the setters other than `SetScheduleConfig`. -/
theorem setters_validate_swap_persist_in_this_order :
    PdModel.Generated.Config.schedValidatedBeforeSwap = true ∧
    PdModel.Generated.Config.schedSwappedBeforePersist = true ∧
    PdModel.Generated.Config.replValidatedBeforeSwap = true ∧
    PdModel.Generated.Config.pdValidatedBeforeSwap = true ∧
    PdModel.Generated.Config.rmodeValidatedBeforeSwap = true ∧
    PdModel.Generated.Config.versionParsedBeforeSwap = true ∧
    PdModel.Generated.Config.reloadAdjustsAfterLoad = true := by decide

end PdModel.Config
