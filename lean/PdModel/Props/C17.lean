import PdModel.Lemmas.StorageRS
import PdModel.Lemmas.StoragePrune
import PdModel.Spec.C17
import PdModel.Generated.StorageLoad
/-!
C17 – property theorems.  The histories they quantify over are defined next to their lemmas: `KOp`, `runKV`,
`specGet` in Lemmas/StorageKV.lean; `ROp`, `runRS`, `toKOps`, `RSInv` in Lemmas/StorageRS.lean.

`…_partial` = proved under the spelled-out hypothesis that no id equals 2^64 − 1 (`Bounded`, ids `< maxU64`);
the pinned code loses that id (`load_max_id_counterexample`, known finding F7a).
-/
namespace PdModel.StorageLoad
open PdModel.SyncRegion PdModel.PadKey PdModel.Spec

variable {V : Type}

/-- Zero-padded key order = id order, for every width `w` and all numbers below `10^w`, and in
    particular for the 20-digit keys of all uint64 ids. -/
theorem padded_key_order :
    (∀ (w a b : Nat), a < 10 ^ w → b < 10 ^ w → keyLt (digits w a) (digits w b) = decide (a < b)) ∧
    (∀ a b : Nat, a ≤ maxU64 → b ≤ maxU64 → keyLt (padKey a) (padKey b) = decide (a < b)) :=
  ⟨keyLt_digits, fun _ _ ha hb => keyLtId_of_le ha hb⟩

/-- After every history of saves and deletes of uint64 ids the kv is in key
    order and `Load` returns the value saved last and not deleted since. -/
theorem kv_history (ops : List (KOp V)) (hid : ∀ op ∈ ops, op.id ≤ maxU64) :
    Sorted (runKV [] ops) ∧ (∀ e ∈ runKV [] ops, e.1 ≤ maxU64) ∧
    ∀ j, kvLoad (runKV [] ops) j = specGet ops j :=
  have h := runKV_spec ops [] hid List.Pairwise.nil (List.forall_mem_nil _)
  ⟨h.1, runKV_forall (· ≤ maxU64) ops [] hid (List.forall_mem_nil _), h.2⟩

/-- `loadRegions` with the collecting callback.  For every kv in key order without the id 2^64 − 1 (see `kv_history` /
    `flush_makes_saved_visible` for where such kvs come from), every maximal and minimal page size (min ≥ 1,
    max ≥ 1), all records readable (`bad` = cannot be unmarshalled) and every tolerable error pattern: the load ends
    without error and the callback received exactly the stored items in ascending id order (each once). -/
theorem load_regions_exact_once_partial (kv : KV V) (hs : Sorted kv) (hb : Bounded kv)
    (bad : Nat × V → Bool) (hbad : ∀ e ∈ kv, bad e = false)
    (maxLimit minLimit : Nat) (hmin : 1 ≤ minLimit) (hmax : 1 ≤ maxLimit) (errs : List Bool)
    (ht : Tolerable minLimit maxLimit errs) :
    loadRegions (fun (_ : Unit) (_ : Nat × V) => ((), ([] : List Nat))) bad maxLimit minLimit kv () errs =
      some (false, { kv := kv, cb := (), loaded := kv }) := by
  rw [loadRegions_spec hmin hmax hs hb hbad (behind_collect ..) ht, foldl_collect]
  rfl

/-- For every save/delete history in which no id is 2^64 − 1, every page limit ≥ 1 and no failing LoadRange call
    (`LoadStores` gives up at the first): LoadStores ends without error and its callback receives exactly the stored
    items in ascending id order – each item saved and not deleted once, with the value saved last, and nothing else. -/
theorem load_stores_exact_once_partial (ops : List (KOp V)) (hid : ∀ op ∈ ops, op.id < maxU64)
    (limit : Nat) (hl : 1 ≤ limit) :
    loadStores (runKV [] ops) limit [] = some (false, runKV [] ops) ∧
    (runKV [] ops).Pairwise (fun a b => a.1 < b.1) ∧
    ∀ e : Nat × V, e ∈ runKV [] ops ↔ specGet ops e.1 = some e.2 := by
  obtain ⟨hs, _, hload⟩ := kv_history ops (fun op h => Nat.le_of_lt (hid op h))
  refine ⟨?_, hs, fun e => by rw [mem_iff_kvLoad _ hs, hload]⟩
  have := load_regions_exact_once_partial _ hs (runKV_forall (· < maxU64) ops [] hid (List.forall_mem_nil _)) (fun _ => false)
    (fun _ _ => rfl) limit 1 (Nat.le_refl 1) hl [] trivial
  unfold loadRegions at this
  rw [loadStores, loadStoresLoop_eq_regions _ _ 1, this]
  rfl

/-- with the limits extracted from storage.go, up to 6 failing LoadRange calls (anywhere in the load)
    are tolerated -/
theorem tolerable_extracted (errs : List Bool) (h : (errs.filter (fun b => b)).length ≤ 6) :
    Tolerable PdModel.Generated.StorageLoad.minKVRangeLimit PdModel.Generated.StorageLoad.maxKVRangeLimit errs := by
  apply tolerable_of_count
  exact Nat.le_trans (Nat.mul_le_mul_left _ (Nat.pow_le_pow_right (by decide) h)) (by decide)

/-- the same for region values and the limits extracted from storage.go, after any save/delete history -/
theorem load_regions_exact_once_extracted_partial (ops : List (KOp Meta)) (hid : ∀ op ∈ ops, op.id < maxU64)
    (errs : List Bool) (h6 : (errs.filter (fun b => b)).length ≤ 6) :
    loadRegions plainCb (fun _ => false) PdModel.Generated.StorageLoad.maxKVRangeLimit
      PdModel.Generated.StorageLoad.minKVRangeLimit (runKV [] ops) () errs = some (false, { kv := runKV [] ops, cb := (), loaded := runKV [] ops }) ∧
    ∀ e : Nat × Meta, e ∈ runKV [] ops ↔ specGet ops e.1 = some e.2 := by
  obtain ⟨hs, _, hload⟩ := kv_history ops (fun op h => Nat.le_of_lt (hid op h))
  exact ⟨load_regions_exact_once_partial _ hs (runKV_forall (· < maxU64) ops [] hid (List.forall_mem_nil _)) _ (fun _ _ => rfl) _ _
    (by decide) (by decide) errs (tolerable_extracted errs h6), fun e => by rw [mem_iff_kvLoad _ hs, hload]⟩

/-- **F7a (known finding).**  An item with id 2^64 − 1 is stored but neither LoadStores nor loadRegions
    returns it: the end key of the range is exclusive. -/
theorem load_max_id_counterexample :
    let kv : KV Nat := runKV [] [.save (maxU64 - 1) 1, .save maxU64 2]
    kvLoad kv maxU64 = some 2 ∧
    loadStores kv 100 [] = some (false, [(maxU64 - 1, 1)]) ∧
    (loadRegions (fun (_ : Unit) (_ : Nat × Nat) => ((), ([] : List Nat))) (fun _ => false) 10000 100 kv () []).map
      (fun r => (r.1, r.2.loaded)) = some (false, [(maxU64 - 1, 1)]) := by
  decide

/-- Storage in key order without the id 2^64 − 1, every value stored under its own id and
    readable; the callback is `CheckAndPutRegion` on an empty cache; any page sizes and any tolerable error pattern.  The
    load ends without error; every stored region was handed to the callback exactly once, in id order,
    although stale and overlapped ones are being deleted from the storage during the iteration; afterwards
    every region left in the storage is in the cache, every cached region is in the storage (under its id),
    and the cached regions are pairwise compatible (different ids, disjoint ranges). -/
theorem prune_storage_eq_cache_partial (kv : KV Meta) (hs : Sorted kv) (hb : Bounded kv) (hw : WellKeyed kv)
    (bad : Nat × Meta → Bool) (hbad : ∀ e ∈ kv, bad e = false)
    (maxLimit minLimit : Nat) (hmin : 1 ≤ minLimit) (hmax : 1 ≤ maxLimit) (errs : List Bool)
    (ht : Tolerable minLimit maxLimit errs) :
    ∃ s : LoadSt Meta Cache,
      loadRegions pruneCb bad maxLimit minLimit kv ([] : Cache) errs = some (false, s) ∧
      s.loaded = kv ∧
      (∀ e ∈ s.kv, ({ md := e.2 } : Region) ∈ s.cb) ∧
      (∀ r ∈ s.cb, (r.md.id, r.md) ∈ s.kv) ∧
      (∀ e ∈ s.kv, e ∈ kv) ∧
      s.cb.Pairwise Compat := by
  obtain ⟨hf, h⟩ := prune_fold kv hw kv _ hs (prune_init kv)
  exact ⟨_, loadRegions_spec hmin hmax hs hb hbad hf ht,
    (fold_loaded ..).trans (List.nil_append kv), fun e he => (h.stored e he).resolve_left List.not_mem_nil,
    fun r hr => (h.cached r hr).1, h.sub, h.cons⟩

/-- The "already loaded" flag of `LoadRegionsOnce` is set exactly when the load returned without error: after a
    load that failed part-way (unreadable record, too many failing calls) a retry on the same Storage loads again;
    once set, later calls do nothing. -/
theorem load_regions_once_flag {σ : Type} (f : σ → Nat × V → σ × List Nat) (bad : Nat × V → Bool)
    (maxLimit minLimit : Nat) (kv : KV V) (init : σ) (errs : List Bool) :
    ((loadRegionsOnce f bad maxLimit minLimit false kv init errs).1 = true ↔
      ∃ s, loadRegions f bad maxLimit minLimit kv init errs = some (false, s)) ∧
    (loadRegionsOnce f bad maxLimit minLimit false kv init errs).2 =
      some (loadRegions f bad maxLimit minLimit kv init errs) ∧
    loadRegionsOnce f bad maxLimit minLimit true kv init errs = (true, none) := by
  unfold loadRegionsOnce
  rw [if_neg Bool.false_ne_true]
  refine ⟨?_, ?_, rfl⟩
  all_goals rcases loadRegions f bad maxLimit minLimit kv init errs with _ | ⟨_ | _, s⟩ <;> simp

/-- Region backend of the repaired tree, any batch size; every history of saves, deletes and flushes (the automatic
    flush on the `batchSize`-th save included), also flushes and batch-filling saves whose leveldb write fails
    (`flushF`, `saveF`: nothing is dropped, the next successful flush writes the batch).  Once a
    further flush (or close) has returned, the leveldb content is in key order and `LoadRegion(id)` returns,
    for every id, the region saved last under it and not deleted since. -/
theorem flush_makes_saved_visible (batchSize : Nat) (ops : List ROp) (hid : ∀ op ∈ ops, op.id ≤ maxU64) :
    let s := (runRS { batchSize := batchSize } ops).flush
    Sorted s.ldb ∧ s.batch = [] ∧ ∀ j, kvLoad s.ldb j = specGet (toKOps ops) j := by
  have h := runRS_spec ops { batchSize := batchSize } hid (rsinv_empty _)
  obtain ⟨h3, h4⟩ := rsinv_flush h.inv
  exact ⟨h3.srt, rfl, fun j => (h4 j).trans (h.view j)⟩

/-- After such a history and a flush, a full load with the extracted page limits and up to 6 failing LoadRange
    calls hands exactly the regions saved and not deleted to the collecting callback, once each, in id order –
    provided no id is 2^64 − 1. -/
theorem saved_not_deleted_exact_region_backend_partial (batchSize : Nat) (ops : List ROp)
    (hid : ∀ op ∈ ops, op.id < maxU64) (errs : List Bool) (h6 : (errs.filter (fun b => b)).length ≤ 6) :
    let s := (runRS { batchSize := batchSize } ops).flush
    loadRegions (fun (_ : Unit) (_ : Nat × Meta) => ((), ([] : List Nat))) (fun _ => false)
      PdModel.Generated.StorageLoad.maxKVRangeLimit PdModel.Generated.StorageLoad.minKVRangeLimit s.ldb () errs =
        some (false, { kv := s.ldb, cb := (), loaded := s.ldb }) ∧
    ∀ e : Nat × Meta, e ∈ s.ldb ↔ specGet (toKOps ops) e.1 = some e.2 := by
  intro s
  obtain ⟨hs, _, hl⟩ := flush_makes_saved_visible batchSize ops (fun op h => Nat.le_of_lt (hid op h))
  -- the ids in leveldb are ids of the history
  have hb : Bounded s.ldb :=
    have h := (runRS_spec ops { batchSize := batchSize } (fun op h => Nat.le_of_lt (hid op h)) (rsinv_empty _)).ids
      (· < maxU64) (fun k hk => have ⟨op, ho, e, _⟩ := mem_toKOps hk; e ▸ hid op ho)
      (List.forall_mem_nil _) (List.forall_mem_nil _)
    (flush_forall (· < maxU64) h.1 h.2).2
  exact ⟨load_regions_exact_once_partial _ hs hb _ (fun _ _ => rfl) _ _ (by decide) (by decide) errs
    (tolerable_extracted errs h6), fun e => by rw [mem_iff_kvLoad _ hs, hl]⟩

/-- Region backend in any state with an empty batch that satisfies `RSInv` (right after a flush or close:
    `reachable_rsinv`), then any further operations and a stop of the process at any point: every id the further
    operations did not touch is loaded exactly as it was at the flush. -/
theorem stop_keeps_flushed (s : RS) (hs : RSInv s) (hb : s.batch = []) (ops : List ROp)
    (hid : ∀ op ∈ ops, op.id ≤ maxU64) (j : Nat) (hj : ∀ op ∈ ops, ¬ op.touches j) :
    kvLoad (runRS s ops).crash.ldb j = kvLoad s.ldb j :=
  ((runRS_spec ops s hid hs).frame j
    (fun k hk e => have ⟨op, ho, _, ht⟩ := mem_toKOps hk; hj op ho (e ▸ ht)) (by rw [hb]; rfl)).2

/-- the states reached by a history and a flush are among those `stop_keeps_flushed` speaks about -/
theorem reachable_rsinv (batchSize : Nat) (ops : List ROp) (hid : ∀ op ∈ ops, op.id ≤ maxU64) :
    RSInv (runRS { batchSize := batchSize } ops).flush ∧ (runRS { batchSize := batchSize } ops).flush.batch = [] :=
  ⟨(rsinv_flush (runRS_spec ops _ hid (rsinv_empty _)).inv).1, rfl⟩

/-- **F7b on the pinned tree before the repair** (`DeleteRegion` only touches leveldb): save (pending in the
    batch), delete, flush → the region is back. -/
theorem delete_then_flush_unfixed_counterexample :
    let r : Meta := { id := 2, startKey := 10, endKey := 20, confVer := 1, version := 1, peers := [] }
    let s0 : RS := { batchSize := 100 }
    kvLoad ((s0.save r).deleteUnfixed 2).flush.ldb 2 = some r ∧
    kvLoad ((s0.save r).delete 2).flush.ldb 2 = none := by
  decide

/-- in the model the weights are the float64 bit patterns (see the note at `Weights`): what was saved last for a
    store is what `LoadStores` attaches to it -/
theorem weights_round_trip (w : Weights) (id l r j : Nat) :
    weightOf (weightsSave w id l r) j = if j = id then (l, r) else weightOf w j := by
  have hw : ∀ (w : Weights) (j : Nat), weightOf w j = (kvLoad w j).getD (oneBits, oneBits) := fun w j => by
    unfold weightOf kvLoad
    cases w.find? (fun e => e.1 == j) <;> rfl
  rw [hw, hw, show weightsSave w id l r = kvRemove w id ++ [(id, (l, r))] from rfl, kvLoad_put]
  split <;> rfl

/-- obligations on the facts regenerated from the Go source on every run: the page sizes are usable
    (min ≥ 1, max ≥ min, six halvings stay above the minimum and the seventh does not), both key builders use
    the 20-digit zero-padded format, `RegionStorage.Remove` (repair of F7b) drops the pending batch entry
    before it deletes from leveldb, under the storage mutex, `FlushRegion` holds that mutex, and `LoadRegionsOnce` sets
    its flag after the call of `loadRegions` (as `loadRegionsOnce` in the model), and `Storage.Flush` / `Storage.Close`
    do not look at the backend selector (the pending batch is flushed whichever backend is selected). -/
theorem limits_sane :
    1 ≤ PdModel.Generated.StorageLoad.minKVRangeLimit ∧
    PdModel.Generated.StorageLoad.minKVRangeLimit ≤ PdModel.Generated.StorageLoad.maxKVRangeLimit ∧
    PdModel.Generated.StorageLoad.minKVRangeLimit * 2 ^ 6 ≤ PdModel.Generated.StorageLoad.maxKVRangeLimit ∧
    PdModel.Generated.StorageLoad.maxKVRangeLimit / 2 ^ 7 < PdModel.Generated.StorageLoad.minKVRangeLimit ∧
    PdModel.Generated.StorageLoad.storeKeyZeroPadded20 = true ∧
    PdModel.Generated.StorageLoad.regionKeyZeroPadded20 = true ∧
    PdModel.Generated.StorageLoad.removeIsOneSection = true ∧
    PdModel.Generated.StorageLoad.removeDropsPendingFirst = true ∧
    PdModel.Generated.StorageLoad.flushIsOneSection = true ∧
    PdModel.Generated.StorageLoad.onceFlagSetAfterLoad = true ∧
    PdModel.Generated.StorageLoad.flushLooksAtSelector = false ∧
    PdModel.Generated.StorageLoad.closeLooksAtSelector = false := by decide

end PdModel.StorageLoad
