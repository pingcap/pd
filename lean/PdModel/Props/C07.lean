import PdModel.Model.RegionTree
import PdModel.Spec.C07
import PdModel.Lemmas.RegionTreeQuery
import PdModel.Generated.RegionTree
/-!
C07 – property theorems.  `abs s` is the list of current regions of a `RegionsInfo` state (its main tree read
through the shared items), `Inv s` the invariant (Lemmas/RegionTreeRefine.lean): ordered non-overlapping
tree with exact size counter, tree = id map, every per-store sub-tree = the matching filter of the tree.

Quantifiers: every history of puts of well-formed regions (`Spec.C07.WF`, decidable) and removals of cached
regions, of any length, over arbitrary byte-string keys; every query argument; every choice a random pick
can make.  `pkg/btree` enters only through the ordered-list abstraction of the model.
-/
namespace PdModel.RegionTree
open PdModel.Spec

/-- SetRegion = `put` on the current regions; it reports exactly the displaced regions; the invariant
    is kept. -/
theorem put_refines (s : RegionsInfo) (r : Region) (h : Inv s) (hr : C07.WF r) :
    Inv (setRegion s r).1 ∧ abs (setRegion s r).1 = C07.put (abs s) r ∧
      (setRegion s r).2 = C07.displaced (abs s) r :=
  let p := setRegion_refines h hr; ⟨p.inv, p.abs_eq, p.out_eq⟩

/-- RemoveRegion (of the cached region of an id) = `remove` on the current regions. -/
theorem remove_refines (s : RegionsInfo) (r : Region) (h : Inv s) (hr : getRegion s r.id = some r) :
    Inv (removeRegion s r) ∧ abs (removeRegion s r) = C07.remove (abs s) r.id := by
  obtain ⟨x, hx, rfl, _⟩ := getRegion_cached h hr
  exact removeRegion_refines h hr (RemovesAs.refl (h.wf x hx))

/-- RemoveRegion with an OLDER RegionInfo of a cached id (RaftCluster.DropCacheRegion reads the region and removes
    it under two lock acquisitions; a heartbeat that moves the leader or changes roles / pending peers can land in
    between): if the old object still has the start key and size of the cached region and a peer (one per store) on
    every store where the cached region is indexed, the id leaves the map, the main tree and every sub-tree, and
    all counters stay exact. -/
theorem remove_stale_refines (s : RegionsInfo) (g c : Region) (h : Inv s)
    (hc : getRegion s g.id = some c) (h1 : g.startKey = c.startKey) (h3 : g.size = c.size)
    (hnd : (g.peers.map (·.store)).Nodup)
    (hcover : ∀ role st, C07.OnStore role st c → st ∈ g.peers.map (·.store)) :
    Inv (removeRegion s g) ∧ abs (removeRegion s g) = C07.remove (abs s) g.id := by
  obtain ⟨_, _, _, hid⟩ := getRegion_cached h hc
  exact removeRegion_refines h hc ⟨h1, hid.symm, h3, hnd, hcover⟩

/-- one step of a history: put a region, or drop the cached region of an id (RaftCluster.DropCacheRegion) -/
inductive Mut where
  | put (r : Region)
  | drop (id : Nat)

def applyMut (s : RegionsInfo) : Mut → RegionsInfo
  | .put r => (setRegion s r).1
  | .drop id => match getRegion s id with
    | some g => removeRegion s g
    | none => s

def specMut (L : List Region) : Mut → List Region
  | .put r => C07.put L r
  | .drop id => C07.remove L id

def Mut.WF : Mut → Prop
  | .put r => C07.WF r
  | .drop _ => True

theorem get_none_remove {L : List Region} {id : Nat} (h : C07.get L id = none) : C07.remove L id = L := by
  unfold C07.remove
  rw [List.filter_eq_self]
  intro y hy
  unfold C07.get at h
  rw [List.find?_eq_none] at h
  simpa using h y hy

theorem applyMut_refines (s : RegionsInfo) (m : Mut) (h : Inv s) (hm : m.WF) :
    Inv (applyMut s m) ∧ abs (applyMut s m) = specMut (abs s) m := by
  cases m with
  | put r => exact ⟨(put_refines s r h hm).1, (put_refines s r h hm).2.1⟩
  | drop id =>
    simp only [applyMut, specMut]
    cases hg : getRegion s id with
    | none =>
      refine ⟨h, ?_⟩
      rw [get_none_remove]; rw [← getRegion_eq h]; exact hg
    | some g =>
      obtain ⟨_, _, _, rfl⟩ := getRegion_cached h hg
      exact remove_refines s g h hg

theorem history_refines_from (ms : List Mut) (hms : ∀ m ∈ ms, m.WF) (s : RegionsInfo) (h : Inv s) :
    Inv (ms.foldl applyMut s) ∧ abs (ms.foldl applyMut s) = ms.foldl specMut (abs s) := by
  induction ms generalizing s with
  | nil => exact ⟨h, rfl⟩
  | cons m ms ih =>
    obtain ⟨h1, h2⟩ := applyMut_refines s m h (hms m List.mem_cons_self)
    rw [List.foldl_cons, List.foldl_cons, ← h2]
    exact ih (fun m' hm' => hms m' (List.mem_cons_of_mem _ hm')) _ h1

/-- the invariant ("sorted, pairwise non-overlapping, tree = id map, sub-trees = filters, counters exact")
    holds after every history of drops and puts of well-formed regions, and the state is the specification's
    region list -/
theorem history_refines (ms : List Mut) (hms : ∀ m ∈ ms, m.WF) :
    Inv (ms.foldl applyMut {}) ∧ abs (ms.foldl applyMut {}) = ms.foldl specMut [] :=
  history_refines_from ms hms {} inv_init

theorem get_eq (s : RegionsInfo) (h : Inv s) (id : Nat) : getRegion s id = C07.get (abs s) id := getRegion_eq h id

theorem search_eq (s : RegionsInfo) (h : Inv s) (k : Key) : searchRegion s k = C07.search (abs s) k := search_eq_aux h k

theorem searchPrev_eq (s : RegionsInfo) (h : Inv s) (k : Key) :
    searchPrevRegion s k = C07.searchPrev (abs s) k := by
  unfold C07.searchPrev
  rw [← find_map_eq h k]
  unfold searchPrevRegion searchPrevOf
  cases hf : find s.acc s.tree.items k with
  | none => rfl
  | some cur =>
    -- the inner lookup is the one GetAdjacentRegions does at the start key of `cur`
    refine Eq.trans ?_ (adjacent_prev_eq h { startKey := (s.acc cur).startKey })
    unfold getAdjacentRegions adjacentOf
    simp only
    cases (s.tree.items.filter (fun a => decide ((s.acc a).startKey < (s.acc cur).startKey))).getLast? with
    | none => rfl
    | some p => by_cases e : (s.acc p).endKey = (s.acc cur).startKey <;> simp only [e, if_true, if_false]

theorem takeLimit_map {β γ : Type} (f : β → γ) (limit : Int) (l : List β) :
    takeLimit limit (l.map f) = (C07.takeLimit limit l).map f := by
  unfold takeLimit C07.takeLimit
  split
  · rw [List.map_take]
  · rfl

theorem scanRange_eq (s : RegionsInfo) (h : Inv s) (sk ek : Key) (limit : Int) :
    scanRange s sk ek limit = (C07.scan (abs s) sk ek limit).map some := by
  -- the items visited are those getOverlaps collects for the range [sk, ek)
  have hvis : (scanFrom s.acc s.tree.items sk).takeWhile
      (fun a => decide (¬ (ek ≠ [] ∧ ek ≤ (s.acc a).startKey))) =
      overlapsOf s.acc s.tree.items { startKey := sk, endKey := ek } := rfl
  unfold scanRange C07.scan
  simp only
  rw [hvis, overlapsOf_eq_filter _ h.ord]
  have hmap : (s.tree.items.filter (fun a => decide (C07.Overlap (s.acc a) { startKey := sk, endKey := ek }))).map (regionOfItem s) =
      ((abs s).filter (fun x => decide ((x.endKey = [] ∨ sk < x.endKey) ∧ (ek = [] ∨ x.startKey < ek)))).map some := by
    unfold abs
    rw [List.filter_map, List.map_map]
    apply List.map_congr_left
    intro a ha
    exact h.map.getRegion (List.mem_filter.1 ha).1
  rw [hmap, takeLimit_map]

theorem overlaps_eq (s : RegionsInfo) (h : Inv s) (q : Region) : getOverlaps s q = C07.overlaps (abs s) q :=
  overlaps_eq_aux h q

theorem adjacent_eq (s : RegionsInfo) (h : Inv s) (q : Region) :
    getAdjacentRegions s q = C07.adjacent (abs s) q := by
  refine Prod.ext (adjacent_prev_eq h q) ?_
  unfold getAdjacentRegions C07.adjacent adjacentOf abs
  simp only
  rw [List.head?_filter, List.find?_map]
  simp only [Function.comp_def]
  cases hl : s.tree.items.find? (fun a => decide (q.startKey < (s.acc a).startKey)) with
  | none => rfl
  | some n =>
    have hnm : n ∈ s.tree.items := List.mem_of_find?_eq_some hl
    by_cases e : q.endKey = (s.acc n).startKey
    · simp only [Option.map_some, e, if_true]; exact h.map.getRegion hnm
    · have e' : ¬ (s.acc n).startKey = q.endKey := fun h' => e h'.symm
      simp only [Option.map_some, e, e', if_false]

/-- for a cached region the next neighbour is simply "the region that starts where it ends" -/
theorem adjacent_of_cached (s : RegionsInfo) (h : Inv s) (q : Region) (hq : q ∈ abs s) :
    (getAdjacentRegions s q).2 = (abs s).find? (fun n => decide (q.endKey ≠ [] ∧ n.startKey = q.endKey)) := by
  rw [adjacent_eq s h, ← next_eq_find? (fun r : Region => r) (abs_ordered h) hq]
  unfold C07.adjacent
  cases (abs s).find? (fun n => decide (q.startKey < n.startKey)) <;> rfl

theorem tree_len_eq_map_len (s : RegionsInfo) (h : Inv s) : treeLen s = regionCount s ∧ regionCount s = (abs s).length :=
  ⟨treeLen_eq_regionCount h, (treeLen_eq_regionCount h).symm.trans (List.length_map _).symm⟩

theorem leaderCount_eq (s : RegionsInfo) (h : Inv s) (st : Nat) :
    storeCount s .leader st = C07.storeCount (abs s) .leader st := storeCount_eq h _ st
theorem followerCount_eq (s : RegionsInfo) (h : Inv s) (st : Nat) :
    storeCount s .follower st = C07.storeCount (abs s) .follower st := storeCount_eq h _ st
theorem learnerCount_eq (s : RegionsInfo) (h : Inv s) (st : Nat) :
    storeCount s .learner st = C07.storeCount (abs s) .learner st := storeCount_eq h _ st
theorem pendingCount_eq (s : RegionsInfo) (h : Inv s) (st : Nat) :
    storeCount s .pending st = C07.storeCount (abs s) .pending st := storeCount_eq h _ st
theorem leaderSize_eq (s : RegionsInfo) (h : Inv s) (st : Nat) :
    storeSize s .leader st = C07.storeSize (abs s) .leader st := storeSize_eq h _ st
theorem followerSize_eq (s : RegionsInfo) (h : Inv s) (st : Nat) :
    storeSize s .follower st = C07.storeSize (abs s) .follower st := storeSize_eq h _ st
theorem learnerSize_eq (s : RegionsInfo) (h : Inv s) (st : Nat) :
    storeSize s .learner st = C07.storeSize (abs s) .learner st := storeSize_eq h _ st
theorem pendingSize_eq (s : RegionsInfo) (h : Inv s) (st : Nat) :
    storeSize s .pending st = C07.storeSize (abs s) .pending st := storeSize_eq h _ st
theorem totalSize_eq (s : RegionsInfo) (h : Inv s) : totalSize s = C07.sumSize (abs s) :=
  (Tree.total_eq h.total).trans (sumOf_eq_spec _ _)
theorem storeRegions_eq (s : RegionsInfo) (h : Inv s) (st : Nat) :
    storeRegions s st = C07.storeRegions (abs s) .leader st ++ C07.storeRegions (abs s) .follower st ++
      C07.storeRegions (abs s) .learner st := by
  unfold storeRegions
  rw [List.map_append, List.map_append, storeItems_eq h, storeItems_eq h, storeItems_eq h]
theorem storeRegionCount_eq (s : RegionsInfo) (h : Inv s) (st : Nat) :
    storeRegionCount s st = C07.storeCount (abs s) .leader st + C07.storeCount (abs s) .follower st +
      C07.storeCount (abs s) .learner st := by
  unfold storeRegionCount; rw [storeCount_eq h, storeCount_eq h, storeCount_eq h]

/-- whatever index the rank computation chooses in whichever of the ranges, a returned region is a region
    of that store and kind lying fully inside one of the ranges -/
theorem random_pick_sound (s : RegionsInfo) (h : Inv s) (role : Role) (st : Nat) (ranges : List (Key × Key))
    (p : Region) (hp : p ∈ randRegionCands s role st ranges) :
    p ∈ abs s ∧ C07.OnStore role st p ∧ ∃ rg ∈ C07.normRanges ranges, Involved p rg.1 rg.2 := by
  rw [randRegionCands_eq h] at hp
  unfold C07.randCands C07.storeRegions at hp
  simp only [List.mem_flatMap, List.mem_filter, decide_eq_true_eq] at hp
  obtain ⟨rg, hrg, ⟨h1, h2⟩, h3⟩ := hp
  exact ⟨h1, h2, rg, hrg, h3⟩

/-- every region of that store and kind lying fully inside one of the ranges can be returned -/
theorem random_pick_complete (s : RegionsInfo) (h : Inv s) (role : Role) (st : Nat) (ranges : List (Key × Key))
    (p : Region) (hp : p ∈ abs s) (ho : C07.OnStore role st p)
    (hr : ∃ rg ∈ C07.normRanges ranges, Involved p rg.1 rg.2) :
    p ∈ randRegionCands s role st ranges := by
  rw [randRegionCands_eq h]
  unfold C07.randCands C07.storeRegions
  simp only [List.mem_flatMap, List.mem_filter, decide_eq_true_eq]
  obtain ⟨rg, hrg, h3⟩ := hr
  exact ⟨rg, hrg, ⟨hp, ho⟩, h3⟩

inductive Cmd where
  | put (r : Region)
  | drop (id : Nat)
  | ask (q : C07.Query)
  /-- a random pick that returned `p` -/
  | pick (role : Role) (store : Nat) (ranges : List (Key × Key)) (p : Region)

def answerOf (s : RegionsInfo) : C07.Query → C07.Obs
  | .get id => .region (getRegion s id)
  | .search k => .region (searchRegion s k)
  | .searchPrev k => .region (searchPrevRegion s k)
  | .scan a b l => .regions ((scanRange s a b l).filterMap id)
  | .overlaps q => .regions (getOverlaps s q)
  | .adjacent q => .pair (getAdjacentRegions s q).1 (getAdjacentRegions s q).2
  | .count => .nat (treeLen s)
  | .totalSize => .int (totalSize s)
  | .storeCount role st => .nat (storeCount s role st)
  | .storeSize role st => .int (storeSize s role st)
  | .storeRegions role st => .regions ((s.sub role st).items.map s.acc)

/-- what an observer of the model sees (a pick event is recorded when the model can return that region) -/
def observe : RegionsInfo → List Cmd → List C07.Ev
  | _, [] => []
  | s, .put r :: cs => .put r (setRegion s r).2 :: observe (setRegion s r).1 cs
  | s, .drop id :: cs => .remove id :: observe (applyMut s (.drop id)) cs
  | s, .ask q :: cs => .ask q (answerOf s q) :: observe s cs
  | s, .pick role st rg p :: cs =>
    if p ∈ randRegionCands s role st rg then .pick role st rg (some p) :: observe s cs else observe s cs

theorem answerOf_eq (s : RegionsInfo) (h : Inv s) (q : C07.Query) : answerOf s q = C07.expected (abs s) q := by
  cases q with
  | get id => exact congrArg C07.Obs.region (getRegion_eq h id)
  | search k => exact congrArg C07.Obs.region (search_eq_aux h k)
  | searchPrev k => exact congrArg C07.Obs.region (searchPrev_eq s h k)
  | scan a b l =>
    refine congrArg C07.Obs.regions ?_
    rw [scanRange_eq s h, List.filterMap_map]
    exact List.filterMap_some
  | overlaps q => exact congrArg C07.Obs.regions (overlaps_eq_aux h q)
  | adjacent q => exact congrArg (fun p => C07.Obs.pair p.1 p.2) (adjacent_eq s h q)
  | count => exact congrArg C07.Obs.nat ((tree_len_eq_map_len s h).1.trans (tree_len_eq_map_len s h).2)
  | totalSize => exact congrArg C07.Obs.int (totalSize_eq s h)
  | storeCount role st => exact congrArg C07.Obs.nat (storeCount_eq h role st)
  | storeSize role st => exact congrArg C07.Obs.int (storeSize_eq h role st)
  | storeRegions role st => exact congrArg C07.Obs.regions (storeItems_eq h role st)

theorem C07_holds_from (cs : List Cmd) (s : RegionsInfo) (h : Inv s) : C07.Holds (abs s) (observe s cs) := by
  induction cs generalizing s with
  | nil => trivial
  | cons c cs ih =>
    cases c with
    | put r =>
      simp only [observe, C07.Holds]
      intro hr
      obtain ⟨h1, h2, h3⟩ := put_refines s r h hr
      exact ⟨h3, h2 ▸ ih _ h1⟩
    | drop id =>
      simp only [observe, C07.Holds]
      obtain ⟨h1, h2⟩ := applyMut_refines s (.drop id) h trivial
      exact (show C07.remove (abs s) id = _ from h2.symm) ▸ ih _ h1
    | ask q =>
      simp only [observe, C07.Holds]
      exact ⟨answerOf_eq s h q, ih s h⟩
    | pick role st rg p =>
      simp only [observe]
      split
      · next hp =>
        simp only [C07.Holds, C07.PickOk]
        exact ⟨by rw [← randRegionCands_eq h]; exact hp, ih s h⟩
      · exact ih s h

/-- In every history of the model – any number of puts (the claim covers the history up to the
    first malformed region, as the property does) and drops, any queries in between – every answer is the
    linear-scan answer over the current regions, and every region a random pick returns is a legitimate
    candidate. -/
theorem C07_holds (cs : List Cmd) : C07.Holds [] (observe {} cs) := C07_holds_from cs {} inv_init

/-! Non-vacuity: a concrete history (two regions, a split whose right half is reported first, a merge
    that swallows a neighbour, peers/leader/pending changes, a drop) – the observed trace is accepted by the
    executable checker; and a put whose range overlaps a cached region displaces it. -/
def demoRegion (id : Nat) (a b : Key) (sz : Int) (peers : List Peer) (leader : Nat) (pend : List Peer := []) : Region :=
  { id := id, startKey := a, endKey := b, size := sz, peers := peers, leader := leader, pending := pend }

def demo : List Cmd :=
  [ .put (demoRegion 1 [] [5] 10 [⟨1, 1, false⟩, ⟨2, 2, false⟩, ⟨3, 3, true⟩] 1),
    .put (demoRegion 2 [5] [] 20 [⟨4, 1, false⟩, ⟨5, 2, false⟩] 5 [⟨4, 1, false⟩]),
    .ask (.search [5]), .ask (.searchPrev [7]), .ask (.storeCount .leader 1), .ask (.storeSize .follower 1),
    .put (demoRegion 3 [8] [] 7 [⟨6, 1, false⟩, ⟨7, 3, false⟩] 6),
    .ask (.get 2), .ask (.count),
    .put (demoRegion 2 [5] [8] 9 [⟨4, 1, false⟩, ⟨5, 2, false⟩] 4),
    .put (demoRegion 1 [] [8] 30 [⟨1, 1, false⟩, ⟨2, 2, false⟩, ⟨3, 3, true⟩] 2),
    .ask (.scan [] [] 0), .ask (.totalSize), .ask (.storeSize .leader 2), .ask (.adjacent (demoRegion 0 [] [8] 0 [] 0)),
    .pick .leader 1 [([8], [])] (demoRegion 3 [8] [] 7 [⟨6, 1, false⟩, ⟨7, 3, false⟩] 6),
    .drop 3, .ask (.count) ]

example : (observe {} demo).length = 18 ∧ C07.check [] (observe {} demo) = true := by decide
example : (abs (setRegion (setRegion {} (demoRegion 1 [] [5] 10 [⟨1, 1, false⟩] 1)).1
    (demoRegion 2 [3] [] 20 [⟨4, 1, false⟩] 4)).1).map (·.id) = [2] := by decide
example : C07.WF (demoRegion 1 [] [5] 10 [⟨1, 1, false⟩, ⟨2, 2, false⟩] 1 [⟨2, 2, false⟩]) ∧
    ¬ C07.WF (demoRegion 1 [7] [3] 10 [⟨1, 1, false⟩] 1) := by decide

/-- structure obligation: the BasicCluster mutators and readers used by the harness each hold the
    cluster lock for their whole body, so a query sees the region set between two mutations. -/
theorem basic_cluster_sections_locked :
    PdModel.Generated.RegionTree.putRegionIsOneSection = true ∧
    PdModel.Generated.RegionTree.removeRegionIsOneSection = true ∧
    PdModel.Generated.RegionTree.searchRegionIsOneSection = true ∧
    PdModel.Generated.RegionTree.searchPrevRegionIsOneSection = true ∧
    PdModel.Generated.RegionTree.scanRangeIsOneSection = true ∧
    PdModel.Generated.RegionTree.getOverlapsIsOneSection = true ∧
    PdModel.Generated.RegionTree.getAdjacentRegionsIsOneSection = true := by decide

/-- structure obligation: every per-store / global counter of BasicCluster is computed inside ONE read-lock
    section (`bc.RLock(); defer bc.RUnlock()` are its first two statements), so a sum of sub-tree counters
    (`GetStoreRegionCount` = leaders + followers + learners, `GetStoreRegionSize`) is taken from one state of the
    region set – which is what `storeRegionCount_eq` / `storeCount_eq` / `storeSize_eq` speak about. -/
theorem basic_cluster_counters_locked :
    PdModel.Generated.RegionTree.storeRegionCountIsOneSection = true ∧
    PdModel.Generated.RegionTree.storeRegionSizeIsOneSection = true ∧
    PdModel.Generated.RegionTree.storeLeaderCountIsOneSection = true ∧
    PdModel.Generated.RegionTree.storeFollowerCountIsOneSection = true ∧
    PdModel.Generated.RegionTree.storePendingPeerCountIsOneSection = true ∧
    PdModel.Generated.RegionTree.storeLeaderRegionSizeIsOneSection = true ∧
    PdModel.Generated.RegionTree.regionCountIsOneSection = true ∧
    PdModel.Generated.RegionTree.averageRegionSizeIsOneSection = true ∧
    PdModel.Generated.RegionTree.storeRegionsIsOneSection = true ∧
    PdModel.Generated.RegionTree.getRegionIsOneSection = true := by decide

/-- glue: a region built from a heartbeat has the (extracted) minimum size, so every size is positive -/
theorem regionFromHeartbeat_size_pos (hb : Heartbeat) : 1 ≤ (regionFromHeartbeat hb).size := by
  unfold regionFromHeartbeat
  simp only
  split
  · decide
  · next h => simp only [emptyRegionApproximateSize, PdModel.Generated.RegionTree.emptyRegionApproximateSize] at h ⊢; omega

end PdModel.RegionTree
