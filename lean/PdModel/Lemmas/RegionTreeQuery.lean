import PdModel.Lemmas.RegionTreeRefine
/-!
The reads of RegionsInfo against the list specification: what the trees answer in terms of items is, read
through the items, the linear scan over `abs s`.
-/
namespace PdModel.RegionTree
open PdModel.Spec.C07 (WFRange WF Overlap OnStore)
open PdModel.Spec

theorem getRegion_eq {s : RegionsInfo} (h : Inv s) (id : Nat) : getRegion s id = C07.get (abs s) id := by
  refine (find?_map_of_iff (o := mapGet s.regions id) (f := s.acc) (p := fun x => decide (x.id = id)) fun a => ?_).symm
  constructor
  · exact fun hm => ⟨(h.map.bwd _ _ hm).1, decide_eq_true (h.map.bwd _ _ hm).2⟩
  · rintro ⟨ha, hp⟩
    rw [← of_decide_eq_true hp]; exact h.map.fwd a ha

theorem find_map_eq {s : RegionsInfo} (h : Inv s) (k : Key) :
    (find s.acc s.tree.items k).map s.acc = C07.search (abs s) k :=
  (find?_map_of_iff (p := fun x => decide (Contains x k)) fun _ =>
    (find_eq_some_iff _ h.ord).trans (and_congr_right fun _ => decide_eq_true_iff.symm)).symm

theorem search_eq_aux {s : RegionsInfo} (h : Inv s) (k : Key) : searchRegion s k = C07.search (abs s) k := by
  rw [← find_map_eq h k]
  unfold searchRegion
  cases hf : find s.acc s.tree.items k with
  | none => rfl
  | some a => exact h.map.getRegion ((find_eq_some_iff _ h.ord).1 hf).1

theorem overlaps_eq_aux {s : RegionsInfo} (h : Inv s) (q : Region) : getOverlaps s q = C07.overlaps (abs s) q := by
  unfold getOverlaps C07.overlaps abs
  rw [overlapsOf_eq_filter _ h.ord, List.filter_map]
  rfl

theorem adjacent_prev_eq {s : RegionsInfo} (h : Inv s) (q : Region) :
    (getAdjacentRegions s q).1 = (abs s).find? (fun p => p.endKey ≠ [] ∧ p.endKey = q.startKey) := by
  unfold abs
  rw [List.find?_map]
  show _ = (s.tree.items.find? (fun a => decide ((s.acc a).endKey ≠ [] ∧ (s.acc a).endKey = q.startKey))).map s.acc
  rw [← prev_eq_find? s.acc h.ord q.startKey]
  unfold getAdjacentRegions adjacentOf
  simp only
  cases hl : (s.tree.items.filter (fun a => decide ((s.acc a).startKey < q.startKey))).getLast? with
  | none => rfl
  | some p =>
    simp only
    split
    · exact h.map.getRegion ((getLast?_filter_eq_some _ (h.ord.asc _) _).1 hl).1
    · rfl

theorem treeLen_eq_regionCount {s : RegionsInfo} (h : Inv s) : treeLen s = regionCount s := by
  unfold treeLen regionCount Tree.length
  have h1 : (s.tree.items.map (fun a => (s.acc a).id)).Nodup :=
    List.pairwise_map.2 (List.Pairwise.imp_of_mem (fun ha hb hne e => hne (h.map.inj _ ha _ hb e))
      ((h.ord.asc _).nodup _))
  have hperm : (s.tree.items.map (fun a => (s.acc a).id)).Perm (s.regions.map (·.1)) := by
    rw [List.perm_ext_iff_of_nodup h1 h.map.keys]
    intro id
    constructor
    · intro hm
      obtain ⟨a, ha, rfl⟩ := List.mem_map.1 hm
      have := mapGet_mem (h.map.fwd a ha)
      exact List.mem_map.2 ⟨_, this, rfl⟩
    · intro hm
      cases hg : mapGet s.regions id with
      | none => exact absurd hm (mapGet_none_iff.1 hg)
      | some a =>
        obtain ⟨g1, g2⟩ := h.map.bwd id a hg
        exact List.mem_map.2 ⟨a, g1, g2⟩
  have := hperm.length_eq
  simpa using this

theorem storeItems_eq {s : RegionsInfo} (h : Inv s) (role : Role) (st : Nat) :
    (s.sub role st).items.map s.acc = C07.storeRegions (abs s) role st := by
  unfold C07.storeRegions abs
  rw [(h.subs role st).1, List.filter_map]
  rfl

theorem storeCount_eq {s : RegionsInfo} (h : Inv s) (role : Role) (st : Nat) :
    storeCount s role st = C07.storeCount (abs s) role st := by
  unfold storeCount C07.storeCount Tree.length
  rw [← storeItems_eq h, List.length_map]

theorem storeSize_eq {s : RegionsInfo} (h : Inv s) (role : Role) (st : Nat) :
    storeSize s role st = C07.storeSize (abs s) role st := by
  unfold storeSize C07.storeSize
  rw [← storeItems_eq h, ← sumOf_eq_spec, Tree.total_eq ((h.subs role st).1 ▸ (h.subs role st).2)]

theorem randRegionCands_eq {s : RegionsInfo} (h : Inv s) (role : Role) (st : Nat) (ranges : List (Key × Key)) :
    randRegionCands s role st ranges = C07.randCands (abs s) role st ranges := by
  unfold randRegionCands C07.randCands randCands
  have hsubO : Ordered s.acc (s.sub role st).items := by
    rw [(h.subs role st).1]; exact h.ord.filter _ _
  have hnorm : normRanges ranges = C07.normRanges ranges := rfl
  have hflat : ((normRanges ranges).flatMap (fun rg => randCands1 s.acc (s.sub role st).items rg.1 rg.2)).map s.acc =
      (C07.normRanges ranges).flatMap (fun rg => (C07.storeRegions (abs s) role st).filter (fun x => decide (Involved x rg.1 rg.2))) := by
    rw [hnorm, List.map_flatMap]
    congr 1
    funext rg
    rw [randCands1_eq_filter _ hsubO, ← storeItems_eq h, List.filter_map]
    rfl
  split
  · next he =>
    have : (s.sub role st).items = [] := by simpa using he
    rw [← hflat, this]
    simp [randCands1, randWindow]
  · exact hflat

theorem abs_ordered {s : RegionsInfo} (h : Inv s) : Ordered id (abs s) :=
  ⟨List.pairwise_map.2 h.ord.1, fun y hy => by
    obtain ⟨b, hb, rfl⟩ := List.mem_map.1 hy; exact h.ord.2 b hb⟩

end PdModel.RegionTree
