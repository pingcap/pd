import PdModel.Lemmas.Tso
import PdModel.Spec.C02
/-!
C02 – property theorems.  Quantifiers: any number of members, any interleaving of getTS / the two
halves of UpdateTimestamp and SyncTimestamp (up to their transaction; transaction and publication) / SetTSO / memory resets / leadership changes, any clock
reading at every step, any transaction fault (except the one named in `Op.faithful`), any history length.
-/
namespace PdModel.Tso
open PdModel.Spec

/-- in every state a faithful history reaches, every grant ever made had its physical time (ns) more than
    `guard` below the window bound that was durably stored at that moment -/
theorem granted_below_stored (c : Cfg) (hc : CfgOk c) (ops : List Op) (hf : ∀ op ∈ ops, op.faithful) :
    ∀ g ∈ (run (init c) ops).grants, ∃ B, g.bound = some B ∧ g.ns + c.guard < B ∧ g.ms = msOf g.ns := by
  obtain ⟨hinv, hcfg⟩ := inv_run c hc ops hf
  intro g hg
  obtain ⟨_, _, hms, B, hB, hlt⟩ := hinv.gr.g g hg
  exact ⟨B, hB, by rw [hcfg] at hlt; exact hlt, hms⟩

/-- the stored bound never decreases, whatever step, faithful or not, is taken from a state satisfying the
    invariant -/
theorem stored_monotone_step (s : St) (h : Inv s) (hc : CfgOk s.cfg) (op : Op) :
    storedLe s (step s op).1 :=
  ((step_ok s op).next h hc).1

/-- what is observed of one step: the stored bound afterwards and the physical part of a granted
    timestamp, if one was granted -/
def obsOf (r : St × Out) : C02.Obs :=
  ⟨r.1.stored, match r.2 with | .ts ms _ => some ms | _ => none⟩

def trace : St → List Op → List C02.Obs
  | _, [] => []
  | s, op :: ops => obsOf (step s op) :: trace (step s op).1 ops

theorem grantMs_of_not_ts {r : St × Out} (h : r.2.isTs = false) : (obsOf r).grantMs = none := by
  unfold obsOf
  split
  · next e => rw [e] at h; cases h
  · rfl

theorem grant_obs_ok {s : St} (h : Inv s) (hc : CfgOk s.cfg) {op : Op} (hf : op.faithful) :
    C02.grantOk (obsOf (step s op)) := by
  intro ms hms
  rcases (step_ok s op).obs with hq | ⟨m, count, p, l, _, e⟩
  · rw [grantMs_of_not_ts hq.noTs] at hms; cases hms
  · -- the grant is in the log of the state after the step, whose invariant bounds it by the window
    have h1 := inv_step h hc hf
    rw [e] at h1 hms ⊢
    cases hms
    obtain ⟨_, _, _, B, hB, hlt⟩ := h1.gr.g _ (List.mem_cons_self ..)
    exact ⟨B, hB, Nat.lt_of_le_of_lt (Nat.div_mul_le_self p 1000000)
      (Nat.lt_of_le_of_lt (Nat.le_add_right ..) hlt)⟩

/-- **A (re)initialised global allocator starts above every window persisted under its root**, also the
    dc-location allocators' ones (`loadTimestamp` takes the maximum over all of them): after a successful
    synchronisation of a reset allocator its physical time is at least `guard` above such a window. -/
theorem sync_above_other_windows (s : St) (m now : Nat) (f : Fault) (E : Nat) (hE : s.ext = some E)
    (hp : (s.mems m).phys = none) (hpend : (s.mems m).pend = none)
    (hok : (step s (.sync m now f)).2 = .ok) :
    ∃ p, ((step s (.sync m now f)).1.mems m).phys = some p ∧ E + s.cfg.guard ≤ p := by
  obtain ⟨L, hL, hEL⟩ := optMax_ge_right s.stored E
  have hge := syncNext_ge s.cfg L now
  have hstep : step s (.sync m now f) = syncFinish s m (some L) now f := by
    simp only [step, hpend, hE, hL]; rfl
  rw [hstep, syncFinish_eq] at hok ⊢
  rw [saveThen_ok hok, setMem_mems_self, setPhys_forward _ _ (by rw [hp]; nofun)]
  exact ⟨_, rfl, by omega⟩

/-- the second conjunct, that no observation is below the window of the start, is what makes the induction go
    through -/
theorem C02_holds_from (s : St) (h : Inv s) (hc : CfgOk s.cfg) (ops : List Op) (hf : ∀ op ∈ ops, op.faithful) :
    C02.Holds (trace s ops) ∧ ∀ o ∈ trace s ops, C02.optLe s.stored o.stored := by
  induction ops generalizing s with
  | nil => exact ⟨⟨.nil, nofun⟩, nofun⟩
  | cons op ops ih =>
    have hfo := hf op (List.mem_cons_self ..)
    obtain ⟨hle, h1⟩ := (step_ok s op).next h hc
    obtain ⟨⟨ihp, ihg⟩, ihs⟩ := ih (step s op).1 (h1 hfo) (step_cfg s op ▸ hc)
      fun o ho => hf o (List.mem_cons_of_mem _ ho)
    exact ⟨⟨List.pairwise_cons.2 ⟨ihs, ihp⟩, List.forall_mem_cons.2 ⟨grant_obs_ok h hc hfo, ihg⟩⟩,
      List.forall_mem_cons.2 ⟨hle, fun o ho => C02.optLe_trans hle (ihs o ho)⟩⟩

/-- For every faithful history (`Op.faithful`): the durably stored window bound never decreases, and every
    granted timestamp's physical part is strictly below the bound stored at the moment of the grant. -/
theorem C02_holds (c : Cfg) (hc : CfgOk c) (ops : List Op) (hf : ∀ op ∈ ops, op.faithful) :
    C02.Holds (trace (init c) ops) :=
  (C02_holds_from (init c) (inv_init c) hc ops hf).1

/-- a failed or rejected window save of UpdateTimestamp (U2;U3) never advances the in-memory time: whenever
    it reports an error, the member's in-memory physical time is unchanged or reset to "uninitialised" -/
theorem failed_save_keeps_memory (s : St) (m next : Nat) (save : Option Nat) (f : Fault)
    (herr : (updFinish s m next save f).2 ≠ .ok) :
    ((updFinish s m next save f).1.mems m).phys = (s.mems m).phys ∨
    ((updFinish s m next save f).1.mems m).phys = none := by
  cases save with
  | none => exact absurd rfl herr
  | some sv =>
    rw [updFinish_some] at herr ⊢
    obtain ⟨st', e⟩ := saveThen_err herr
    rw [e, stepDown_mems_self]; exact .inr rfl

def demoCfg : Cfg := { guard := 1000000, saveInterval := 3000000000, maxLogical := 262144,
                       maxResetGapMs := 86400000, maxRetry := 10 }

theorem demoCfg_ok : CfgOk demoCfg := ⟨by decide, by decide, by decide⟩

/-- Without the window mutex (defect F1) SetTSO may run between the decision and the save of a parked
    UpdateTimestamp.  Replaying that schedule on the model by bypassing the `blocked` guard: the stale save
    lowers the stored bound from T+10h+3s to now+3s, and the next grant (physical T+10h) is above the stored
    bound. -/
def f1Schedule : St :=
  let s0 := run (init demoCfg) [.lead 1, .sync 1 1000000000000 .none, .gupdate 1 1003000000000]
  -- SetTSO(+10h) slips in although an update is pending (no window mutex):
  let s1 := (resetUser s0 1 (1003000 + 36000000) 0 false .none).1
  (step s1 (.finish 1 .none)).1

theorem window_counterexample_unserialised :
    f1Schedule.stored = some 1006000000000 ∧ (f1Schedule.mems 1).phys = some 37003000000000 := by
  decide

/-- The fault excluded by `Op.faithful`: a SetTSO whose save is applied but reported as failed leaves the
    cached bound stale; a later update (clock behind the reset target) lowers the stored window. -/
def errAfterSchedule : List Op :=
  [.lead 1, .sync 1 1000000000000 .none, .setTS 1 (1000000 + 36000000) 0 false .errAfter,
   .update 1 1003100000000 .none]

theorem stored_window_counterexample_errAfter :
    (run (init demoCfg) (errAfterSchedule.take 3)).stored = some 37003000000000 ∧
    (run (init demoCfg) errAfterSchedule).stored = some 1006100000000 := by
  decide

/-- non-vacuity: a faithful history with a hand-over, a gated update, a reset and grants -/
def demoOps : List Op :=
  [.lead 1, .sync 1 1000000000000 .none, .getTS 1 3, .gupdate 1 1000060000000, .getTS 1 2,
   .finish 1 .none, .getTS 1 1, .setTS 1 1000100 7 false .none, .getTS 1 1, .lead 2,
   .getTS 1 1, .sync 2 999000000000 .none, .getTS 2 5]

example : (trace (init demoCfg) demoOps).filterMap (·.grantMs) = [1000000, 1000060, 1000060, 1000100, 1003001] := by
  decide

end PdModel.Tso
