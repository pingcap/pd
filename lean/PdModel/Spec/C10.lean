import PdModel.Prelude.ListFacts
/-
C10 – "Replica repair never targets bad stores nor shrinks healthy replication", stated over what
an operator of PD observes: the store records of the cluster view, the region (peers, leader,
down / pending lists), the replication configuration (or the placement rules the region matches,
with the peers assigned to each rule) and the *steps* of the operator a checker proposed.

The record types of this file (Store, Peer, Region, Step, the region simulator) are plain data and
are shared with the C11 spec and with the models.  A label is looked up by key case-insensitively and
location values are compared case-insensitively (`foldEq` = `strings.EqualFold` on ASCII), exactly where
the pinned code does so (`GetLabelValue`, `CompareLocation`); everything else compares exactly.
-/
namespace PdModel.Spec.C10

/-- one store of the cluster view -/
structure Store where
  id          : Nat
  /-- 0 = Up, 1 = Offline, 2 (or more) = Tombstone -/
  state       : Nat := 0
  /-- whole seconds since the last store heartbeat (the clock reading is an input; the real
      `DownTime()` is this plus a positive fraction of a second) -/
  downSecs    : Nat := 0
  busy        : Bool := false
  pauseLeader : Bool := false
  /-- store-limit bucket has tokens for adding / removing a peer -/
  addAvail    : Bool := true
  rmAvail     : Bool := true
  sendSnap    : Nat := 0
  recvSnap    : Nat := 0
  pending     : Nat := 0
  capacity    : Nat := 0
  available   : Nat := 0
  regionCount : Nat := 0
  labels      : List (String × String) := []
  deriving Repr, DecidableEq, Inhabited

/-- role: 0 = Voter, 1 = Learner, 2 = IncomingVoter, 3 = DemotingVoter -/
structure Peer where
  id    : Nat
  store : Nat
  role  : Nat := 0
  /-- created by the region simulator (an operator step added it) -/
  fresh : Bool := false
  deriving Repr, DecidableEq, Inhabited

structure Region where
  peers   : List Peer
  /-- peer id of the leader, 0 = none -/
  leader  : Nat := 0
  /-- (peer id, reported down seconds) -/
  down    : List (Nat × Nat) := []
  /-- peer ids -/
  pending : List Nat := []
  deriving Repr, DecidableEq, Inhabited

def Peer.isLearner (p : Peer) : Bool := p.role == 1
def Peer.inJoint (p : Peer) : Bool := p.role == 2 || p.role == 3
def Region.stores (r : Region) : List Nat := r.peers.map (·.store)
def Region.voters (r : Region) : List Peer := r.peers.filter (fun p => !p.isLearner)
def Region.learners (r : Region) : List Peer := r.peers.filter (·.isLearner)
def Region.storePeer (r : Region) (store : Nat) : Option Peer := r.peers.find? (·.store == store)
def Region.leaderPeer (r : Region) : Option Peer := r.peers.find? (·.id == r.leader)
def Region.leaderStore (r : Region) : Nat := (r.leaderPeer.map (·.store)).getD 0
def Region.isDown (r : Region) (pid : Nat) : Bool := r.down.any (·.1 == pid)
def Region.isPending (r : Region) (pid : Nat) : Bool := r.pending.contains pid

/-- a peer that is neither reported down nor pending; a peer an operator has just created counts
    as healthy -/
def Region.healthy (r : Region) : List Peer :=
  r.peers.filter (fun p => p.fresh || (!(r.isDown p.id) && !(r.isPending p.id)))

/-- the peer an `add` step creates: a new id (larger than all present ones) -/
def Region.newPeer (r : Region) (store role : Nat) : Peer :=
  { id := (r.peers.map (·.id)).foldl max 0 + 1, store := store, role := role, fresh := true }

def findStore (stores : List Store) (id : Nat) : Option Store := stores.find? (·.id == id)

/-- `strings.EqualFold` on ASCII strings -/
def foldEq (a b : String) : Bool := a.toList.map Char.toLower == b.toList.map Char.toLower

/-- value of a label, "" when absent: the first label whose key equals `key` up to case
    (`StoreInfo.GetLabelValue` uses `strings.EqualFold` on the keys) -/
def Store.label (s : Store) (key : String) : String :=
  match s.labels.find? (fun kv => foldEq kv.1 key) with
  | some kv => kv.2
  | none => ""

/-- label constraint; op: 0 = in, 1 = notIn, 2 = exists, 3 = notExists (anything else never matches) -/
structure Constraint where
  key    : String
  op     : Nat
  values : List String := []
  deriving Repr, DecidableEq, Inhabited

def Constraint.matches (c : Constraint) (s : Store) : Bool :=
  let v := s.label c.key
  match c.op with
  | 0 => v != "" && c.values.contains v
  | 1 => v == "" || !(c.values.contains v)
  | 2 => v != ""
  | 3 => v == ""
  | _ => false

/-- labels that make a store exclusive: it may only be used when a constraint names the label -/
def isExclusiveKey (k : String) : Bool :=
  k.toList.head? == some '$' || k == "engine" || k == "exclusive"

/-- the store satisfies a rule's label constraints (including the exclusive-label convention) -/
def matchConstraints (cs : List Constraint) (s : Store) : Bool :=
  s.labels.all (fun kv => !(isExclusiveKey kv.1) || cs.any (·.key == kv.1)) &&
  cs.all (·.matches s)

/-- replication configuration as seen by an operator of PD -/
structure Conf where
  maxReplicas    : Nat := 3
  locationLabels : List String := []
  isolationLevel : String := ""
  /-- low-space-ratio = lowNum / lowDen -/
  lowNum         : Nat := 4
  lowDen         : Nat := 5
  maxDownSecs    : Nat := 1800
  /-- a store that missed heartbeats for this long is disconnected -/
  disconnectSecs : Nat := 20
  /-- a store with fewer regions than this and more free bytes than `freeBytes` is never "low on space" -/
  fewRegions     : Nat := 30
  freeBytes      : Nat := 8589934592
  /-- the make-up-replica feature switch (max-replicas mode) -/
  makeUpEnabled  : Bool := true
  deriving Repr, DecidableEq, Inhabited

def Store.isUp (s : Store) : Bool := s.state == 0
def Store.connected (c : Conf) (s : Store) : Bool := s.downSecs < c.disconnectSecs
def Store.notDown (c : Conf) (s : Store) : Bool := s.downSecs < c.maxDownSecs

/-- free space ratio below 1 − low-space-ratio (nearly empty stores excepted, pd issue #3444) -/
def Store.lowSpace (c : Conf) (s : Store) : Bool :=
  if s.regionCount < c.fewRegions && s.available > c.freeBytes then false
  else if s.capacity == 0 then decide (c.lowNum < c.lowDen)
  else s.available * c.lowDen < s.capacity * (c.lowDen - c.lowNum)

/-- index of the isolation level among the location labels -/
def levelIdx (labels : List String) (level : String) : Option Nat :=
  let i := labels.findIdx (· == level)
  if i < labels.length then some i else none

/-- two stores carry the same values for the first `n+1` location labels -/
def sameUpTo (labels : List String) (n : Nat) (a b : Store) : Bool :=
  (labels.take (n + 1)).all (fun k => a.label k == b.label k)

/-- the candidate does not share its isolation-level location with any of the `co` stores;
    no location labels / no level / a level that is not a location label = no demand -/
def isolationOK (labels : List String) (level : String) (co : List Store) (s : Store) : Bool :=
  if labels.isEmpty || level == "" then true
  else match levelIdx labels level with
    | none => true
    | some n => co.all (fun c => !(sameUpTo labels n c s))

/-- first location label on which both stores carry a value and the values differ -/
def compareLocation (labels : List String) (a b : Store) : Option Nat :=
  let i := labels.findIdx (fun k => a.label k != "" && b.label k != "" && !(foldEq (a.label k) (b.label k)))
  if i < labels.length then some i else none

/-- how distinct the location of `s` is from the `co` stores (`core.DistinctScore`, base 100) -/
def distinctScore (labels : List String) (co : List Store) (s : Store) : Nat :=
  (co.map (fun c =>
    if c.id == s.id then 0
    else match compareLocation labels c s with
      | some i => 100 ^ (labels.length - i - 1)
      | none => 0)).sum

/-- what a matched placement rule demands, with the peers currently assigned to it -/
structure RuleView where
  constraints    : List Constraint := []
  locationLabels : List String := []
  isolationLevel : String := ""
  count          : Nat := 0
  /-- stores of the peers assigned to the rule -/
  peerStores     : List Nat := []
  /-- right number of peers, all with the demanded role -/
  satisfied      : Bool := true
  deriving Repr, DecidableEq, Inhabited

/-- operator steps, abstracted: `add` creates a peer with the given role (0 voter / 1 learner) -/
inductive Step where
  | add (store : Nat) (role : Nat)
  | promote (store : Nat)
  | demote (store : Nat)
  | remove (store : Nat)
  | transfer (store : Nat)
  | other
  deriving Repr, DecidableEq, Inhabited

/-- region simulator: effect of one step -/
def applyStep (r : Region) : Step → Region
  | .add st role => { r with peers := r.peers ++ [r.newPeer st role] }
  | .promote st => { r with peers := r.peers.map (fun p => if p.store == st then { p with role := 0 } else p) }
  | .demote st => { r with peers := r.peers.map (fun p => if p.store == st then { p with role := 1 } else p) }
  | .remove st =>
    { r with peers := r.peers.filter (fun p => p.store != st),
             leader := if r.leaderStore == st then 0 else r.leader }
  | .transfer st =>
    match r.storePeer st with
    | some p => { r with leader := p.id }
    | none => r
  | .other => r

def applySteps (r : Region) (steps : List Step) : Region := steps.foldl applyStep r

def addedStores (steps : List Step) : List Nat :=
  steps.filterMap (fun s => match s with | .add st _ => some st | _ => none)

def removedStores (steps : List Step) : List Nat :=
  steps.filterMap (fun s => match s with | .remove st => some st | _ => none)

/-- what the checker saw -/
structure Input where
  conf    : Conf
  stores  : List Store
  region  : Region
  /-- `none`: replica checker (max-replicas mode); `some rules`: placement-rule checker -/
  rules   : Option (List RuleView) := none
  /-- stores of the peers no rule wants -/
  orphans : List Nat := []
  deriving Repr, Inhabited

/-- store records of the given store ids that exist, without the stores the operator removes -/
def coStores (x : Input) (ids : List Nat) (steps : List Step) : List Store :=
  (ids.filter (fun i => !(removedStores steps).contains i)).filterMap (findStore x.stores)

/-- the candidate is allowed by the isolation level and label constraints in force -/
def placementOK (x : Input) (steps : List Step) (s : Store) : Bool :=
  match x.rules with
  | none => isolationOK x.conf.locationLabels x.conf.isolationLevel (coStores x x.region.stores steps) s
  | some rules =>
    rules.any (fun rv => matchConstraints rv.constraints s &&
      isolationOK rv.locationLabels rv.isolationLevel (coStores x rv.peerStores steps) s)

/-- a store a repair may put a new peer on -/
def goodTarget (x : Input) (steps : List Step) (t : Nat) : Bool :=
  match findStore x.stores t with
  | none => false
  | some s =>
    s.isUp && s.notDown x.conf && s.connected x.conf && !(s.lowSpace x.conf) &&
    !(x.region.stores.contains t) && placementOK x steps s

/-- when may replication shrink -/
def shrinkAllowed (x : Input) (steps : List Step) : Bool :=
  match x.rules with
  | none => x.region.voters.length > x.conf.maxReplicas
  | some rules => rules.all (·.satisfied) && (removedStores steps).all (x.orphans.contains ·)

/-- **the property** for one proposed operator -/
structure Holds (x : Input) (steps : List Step) : Prop where
  /-- peers are added only on good stores -/
  adds   : ∀ t ∈ addedStores steps, goodTarget x steps t = true
  /-- fewer peers, or fewer healthy peers, only when that is allowed -/
  shrink : ((applySteps x.region steps).peers.length < x.region.peers.length ∨
            (applySteps x.region steps).healthy.length < x.region.healthy.length) →
            shrinkAllowed x steps = true
  /-- a replacement adds before it removes: no prefix of the operator leaves the region with fewer
      peers than both its starting and its final number -/
  order  : ∀ k ∈ List.range (steps.length + 1),
            min x.region.peers.length (applySteps x.region steps).peers.length
              ≤ (applySteps x.region (steps.take k)).peers.length

def checkAdds (x : Input) (steps : List Step) : Bool := (addedStores steps).all (goodTarget x steps)

def checkShrink (x : Input) (steps : List Step) : Bool :=
  !(decide ((applySteps x.region steps).peers.length < x.region.peers.length) ||
    decide ((applySteps x.region steps).healthy.length < x.region.healthy.length)) ||
  shrinkAllowed x steps

def checkOrder (x : Input) (steps : List Step) : Bool :=
  (List.range (steps.length + 1)).all (fun k =>
    decide (min x.region.peers.length (applySteps x.region steps).peers.length
      ≤ (applySteps x.region (steps.take k)).peers.length))

/-- executable checker used as the monitor on implementation operators -/
def check (x : Input) (steps : List Step) : Bool := checkAdds x steps && checkShrink x steps && checkOrder x steps

theorem check_iff (x : Input) (steps : List Step) : check x steps = true ↔ Holds x steps := by
  unfold check checkAdds checkShrink checkOrder
  -- the outer `||` of `checkShrink` is the implication of `Holds.shrink`, the inner one its `∨`
  rw [Bool.and_eq_true, Bool.and_eq_true, or_eq_true_imp, Bool.not_eq_false']
  simp only [List.all_eq_true, Bool.or_eq_true, decide_eq_true_eq]
  constructor
  · rintro ⟨⟨h1, h2⟩, h3⟩
    exact ⟨h1, h2, h3⟩
  · rintro ⟨h1, h2, h3⟩
    exact ⟨⟨h1, h2⟩, h3⟩

/-! ### liveness clause -/

/-- a fresh, empty store nothing speaks against (apart from placement, judged separately) -/
def Store.fresh (c : Conf) (s : Store) : Bool :=
  s.isUp && s.notDown c && s.connected c && !s.busy && s.addAvail && s.sendSnap == 0 && s.recvSnap == 0 &&
  s.pending == 0 && s.regionCount == 0 && !(s.lowSpace c) &&
  s.labels.all (fun kv => !(foldEq kv.1 "specialUse"))

/-- the region can be operated on: it has a voter leader among its peers, is not in a joint state
    and has one peer per store -/
def Region.operable (r : Region) : Bool :=
  (match r.leaderPeer with | some p => p.role == 0 | none => false) && r.peers.all (fun p => !p.inJoint) &&
  decide r.stores.Nodup

/-- as `isolationOK`, but a level that is not one of the location labels promises nothing -/
def isolationDue (labels : List String) (level : String) (co : List Store) (s : Store) : Bool :=
  if labels.isEmpty || level == "" then true
  else match levelIdx labels level with
    | none => false
    | some n => co.all (fun c => !(sameUpTo labels n c s))

/-- fresh, not holding the region, and no store of the cluster is better isolated from `co` -/
def freshBest (x : Input) (labels : List String) (co : List Store) (s : Store) : Bool :=
  s.fresh x.conf && !(x.region.stores.contains s.id) &&
  x.stores.all (fun s' => decide (distinctScore labels co s' ≤ distinctScore labels co s))

/-- the region lacks a peer and a fresh, best-isolated store that the placement demands allow exists -/
def repairDue (x : Input) : Bool :=
  x.region.operable &&
  match x.rules with
  | none =>
    x.conf.makeUpEnabled && decide (x.region.peers.length < x.conf.maxReplicas) &&
    x.stores.any (fun s => freshBest x x.conf.locationLabels (coStores x x.region.stores []) s &&
      isolationDue x.conf.locationLabels x.conf.isolationLevel (coStores x x.region.stores []) s)
  | some rules =>
    rules.any (fun rv => decide (rv.peerStores.length < rv.count) &&
      x.stores.any (fun s => freshBest x rv.locationLabels (coStores x rv.peerStores []) s &&
        matchConstraints rv.constraints s &&
        isolationDue rv.locationLabels rv.isolationLevel (coStores x rv.peerStores []) s))

/-- **liveness**: when a repair is due, the checker proposes some operator -/
def Live (x : Input) (proposed : Bool) : Prop := repairDue x = true → proposed = true

def checkLive (x : Input) (proposed : Bool) : Bool := !(repairDue x) || proposed

theorem checkLive_iff (x : Input) (p : Bool) : checkLive x p = true ↔ Live x p := by
  rw [checkLive, Live, or_eq_true_imp, Bool.not_eq_false']

end PdModel.Spec.C10
