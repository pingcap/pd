/-
C12 – "Rule fitting partitions peers correctly and picks the best assignment", stated over what a
caller of the fitting function can observe: the inputs (stores with labels, the region's peers in
id order, the leader, the ordered rule list) and the result (per rule the peers put into it, the
peers listed as role mismatches and the isolation score; the orphan list; the "satisfied" flag).

Peers are named by their position in the id-ordered peer list of the region.
Core Lean only; no implementation identifiers.
-/
namespace PdModel.Spec.C12

/-! ## Inputs -/

inductive Role where
  | voter | leader | follower | learner
  | invalid            -- any other string
  deriving Repr, DecidableEq, Inhabited

inductive COp where
  | isIn | notIn | exists_ | notExists
  | invalid            -- any other string
  deriving Repr, DecidableEq, Inhabited

structure Label where
  key   : String
  value : String
  deriving Repr, DecidableEq, Inhabited

structure Constraint where
  key    : String
  op     : COp
  values : List String
  deriving Repr, DecidableEq, Inhabited

structure Store where
  id     : Nat
  labels : List Label
  deriving Repr, DecidableEq, Inhabited

structure Rule where
  role   : Role
  count  : Nat
  constraints : List Constraint
  locationLabels : List String
  deriving Repr, DecidableEq, Inhabited

/-- a peer of the region together with the store it lives on (`none`: the store is unknown) -/
structure PeerInfo where
  id       : Nat
  learner  : Bool
  isLeader : Bool
  store    : Option Store
  deriving Repr, DecidableEq, Inhabited

/-! ## Documented semantics of labels, roles and isolation -/

def lowerChar (c : Char) : Char :=
  if 'A' ≤ c ∧ c ≤ 'Z' then Char.ofNat (c.toNat + 32) else c

/-- ASCII case folding (label keys are matched case-insensitively; location values too) -/
def fold (s : String) : String := String.ofList (s.toList.map lowerChar)

/-- value of a label on a store: the first label whose key matches case-insensitively; "" if none -/
def labelValue (s : Store) (key : String) : String :=
  match s.labels.find? (fun l => fold l.key == fold key) with
  | some l => l.value
  | none => ""

/-- `in`: label present and among the values; `notIn`: absent or not among the values;
    `exists` / `notExists`: label present / absent.  An empty value counts as absent. -/
def Constraint.holds (c : Constraint) (s : Store) : Bool :=
  match c.op with
  | .isIn => labelValue s c.key != "" && c.values.contains (labelValue s c.key)
  | .notIn => labelValue s c.key == "" || !c.values.contains (labelValue s c.key)
  | .exists_ => labelValue s c.key != ""
  | .notExists => labelValue s c.key == ""
  | .invalid => false

/-- a label key starting with `$`, or one of the legacy keys, is exclusive: a store carrying it can
    only be used by a rule that names the key in a constraint -/
def isExclusive (key : String) : Bool :=
  (match key.toList with | '$' :: _ => true | _ => false) || key == "engine" || key == "exclusive"

def storeOK (s : Store) (cs : List Constraint) : Bool :=
  s.labels.all (fun l => !isExclusive l.key || cs.any (fun c => c.key == l.key)) &&
  cs.all (fun c => c.holds s)

/-- the role the peer has now equals the role the rule asks for -/
def roleMatches (p : PeerInfo) : Role → Bool
  | .voter => !p.learner
  | .leader => p.isLeader
  | .follower => !p.learner && !p.isLeader
  | .learner => p.learner
  | .invalid => false

/-- the peer can still be converted to the role: everything except voter → learner -/
def canBecome (p : PeerInfo) (r : Role) : Bool := r != .learner || p.learner

/-- may peer `p` be put into rule `r`? -/
def eligible (p : PeerInfo) (r : Rule) : Bool :=
  (match p.store with | some s => storeOK s r.constraints | none => false) && canBecome p r.role

/-- index of the first location label on which two stores carry different (non-empty) values -/
def firstDiff (a b : Store) : List String → Option Nat
  | [] => none
  | k :: ks =>
    if labelValue a k != "" && labelValue b k != "" && fold (labelValue a k) != fold (labelValue b k)
    then some 0 else (firstDiff a b ks).map (· + 1)

def pairScore (labels : List String) (a b : Store) : Nat :=
  match firstDiff a b labels with
  | none => 0
  | some d => 100 ^ (labels.length - d - 1)

/-- isolation score of a set of stores: sum of `100^(L-1-d)` over all unordered pairs, `d` being the
    first location level on which the pair differs -/
def isoScore (labels : List String) : List Store → Nat
  | [] => 0
  | s :: rest => (rest.map (pairScore labels s)).sum + isoScore labels rest

/-! ## Results -/

structure RuleFit where
  peers    : List Nat      -- positions of the peers put into the rule
  mismatch : List Nat      -- those listed with a role that differs from the rule's
  score    : Nat
  deriving Repr, DecidableEq, Inhabited

structure Fit where
  fits      : List RuleFit
  orphans   : List Nat
  satisfied : Bool
  deriving Repr, DecidableEq, Inhabited

/-! ## The documented order -/

/-- per rule: number of peers, number of role mismatches, isolation score -/
structure Key where
  n     : Nat
  mis   : Nat
  score : Nat
  deriving Repr, DecidableEq, Inhabited

/-- 1 = `a` is better: more peers, then fewer mismatches, then higher score -/
def Key.cmp (a b : Key) : Int :=
  if a.n < b.n then -1 else if a.n > b.n then 1
  else if a.mis > b.mis then -1 else if a.mis < b.mis then 1
  else if a.score < b.score then -1 else if a.score > b.score then 1
  else 0

/-- rule by rule, the first difference decides -/
def lexCmp : List Key → List Key → Int
  | a :: as, b :: bs => if Key.cmp a b ≠ 0 then Key.cmp a b else lexCmp as bs
  | _, _ => 0

/-- whole fits: rule by rule, finally fewer orphans -/
def fitCmp (a b : List Key × Nat) : Int :=
  if lexCmp a.1 b.1 ≠ 0 then lexCmp a.1 b.1
  else if a.2 < b.2 then 1 else if a.2 > b.2 then -1 else 0

/-! ## Assignments -/

variable (peers : List PeerInfo)

def peerAt (i : Nat) : Option PeerInfo := peers[i]?

/-- is position `i` a peer that may be put into rule `r`? -/
def elig (r : Rule) (i : Nat) : Bool :=
  match peers[i]? with
  | some p => eligible p r
  | none => false

/-- `ValidFrom rules used A`: `A` gives every rule a set of peers (strictly increasing positions) that
    are eligible for it, not used by an earlier rule (nor in `used`), at most `count` many. -/
def ValidFrom : List Rule → List Nat → List (List Nat) → Prop
  | [], _, [] => True
  | r :: rs, used, a :: as =>
    a.Pairwise (· < ·) ∧ (∀ i ∈ a, elig peers r i = true ∧ i ∉ used) ∧ a.length ≤ r.count ∧
    ValidFrom rs (used ++ a) as
  | _, _, _ => False

def Valid (rules : List Rule) (A : List (List Nat)) : Prop := ValidFrom peers rules [] A

def storesOf (a : List Nat) : List Store :=
  a.filterMap (fun i => (peers[i]?).bind (·.store))

def strictAt (r : Rule) (i : Nat) : Bool :=
  match peers[i]? with
  | some p => roleMatches p r.role
  | none => false

/-- the comparison key of putting the peers `a` into rule `r` -/
def keyOf (r : Rule) (a : List Nat) : Key :=
  { n := a.length, mis := (a.filter (fun i => !strictAt peers r i)).length,
    score := isoScore r.locationLabels (storesOf peers a) }

def keysOf : List Rule → List (List Nat) → List Key
  | r :: rs, a :: as => keyOf peers r a :: keysOf rs as
  | _, _ => []

def orphansOf (A : List (List Nat)) : List Nat :=
  (List.range peers.length).filter (fun i => !A.flatten.contains i)

def RuleFit.key (f : RuleFit) : Key := { n := f.peers.length, mis := f.mismatch.length, score := f.score }

def countsOK : List Rule → List RuleFit → Bool
  | r :: rs, f :: fs => f.peers.length == r.count && f.mismatch.isEmpty && countsOK rs fs
  | [], [] => true
  | _, _ => false

/-- what each reported rule fit must be, given the peers it holds -/
def fitsExact : List Rule → List RuleFit → Prop
  | r :: rs, f :: fs =>
    f.mismatch = f.peers.filter (fun i => !strictAt peers r i) ∧
    f.score = isoScore r.locationLabels (storesOf peers f.peers) ∧ fitsExact rs fs
  | [], [] => True
  | _, _ => False

/-- **the property** for one fitting -/
structure Holds (rules : List Rule) (out : Fit) : Prop where
  /-- every rule holds eligible, distinct, unshared peers, never more than its count -/
  valid     : Valid peers rules (out.fits.map (·.peers))
  /-- everything else is an orphan (so every peer is in exactly one rule or in the orphan list) -/
  orphans   : out.orphans = orphansOf peers (out.fits.map (·.peers))
  /-- role mismatches and isolation scores are listed exactly -/
  exact     : fitsExact peers rules out.fits
  /-- no valid assignment is better under the documented order -/
  optimal   : ∀ A, Valid peers rules A →
                fitCmp (keysOf peers rules A, (orphansOf peers A).length)
                       (out.fits.map (·.key), out.orphans.length) ≠ 1
  /-- satisfied exactly when every rule is filled with matching roles and no orphan remains -/
  satisfied : out.satisfied = (!rules.isEmpty && countsOK rules out.fits && out.orphans.isEmpty)

/-! ## Executable checker (brute force over all valid assignments) -/

/-- all sublists with at most `k` elements -/
def subsUpTo : Nat → List Nat → List (List Nat)
  | _, [] => [[]]
  | 0, _ :: _ => [[]]
  | k + 1, x :: xs => (subsUpTo k xs).map (x :: ·) ++ subsUpTo (k + 1) xs

def cands (r : Rule) (used : List Nat) : List Nat :=
  (List.range peers.length).filter (fun i => elig peers r i && !used.contains i)

def allValid : List Rule → List Nat → List (List (List Nat))
  | [], _ => [[]]
  | r :: rs, used =>
    (subsUpTo r.count (cands peers r used)).flatMap (fun a => (allValid rs (used ++ a)).map (a :: ·))

def validFromB : List Rule → List Nat → List (List Nat) → Bool
  | [], _, [] => true
  | r :: rs, used, a :: as =>
    decide (a.Pairwise (· < ·)) && a.all (fun i => elig peers r i && !used.contains i) &&
    decide (a.length ≤ r.count) && validFromB rs (used ++ a) as
  | _, _, _ => false

def fitsExactB : List Rule → List RuleFit → Bool
  | r :: rs, f :: fs =>
    f.mismatch == f.peers.filter (fun i => !strictAt peers r i) &&
    f.score == isoScore r.locationLabels (storesOf peers f.peers) && fitsExactB rs fs
  | [], [] => true
  | _, _ => false

/-- everything but optimality (linear) -/
def checkShape (rules : List Rule) (out : Fit) : Bool :=
  validFromB peers rules [] (out.fits.map (·.peers)) &&
  out.orphans == orphansOf peers (out.fits.map (·.peers)) &&
  fitsExactB peers rules out.fits &&
  out.satisfied == (!rules.isEmpty && countsOK rules out.fits && out.orphans.isEmpty)

def checkOptimal (rules : List Rule) (out : Fit) : Bool :=
  (allValid peers rules []).all (fun A =>
    fitCmp (keysOf peers rules A, (orphansOf peers A).length)
           (out.fits.map (·.key), out.orphans.length) != 1)

def check (rules : List Rule) (out : Fit) : Bool :=
  checkShape peers rules out && checkOptimal peers rules out

/-- number of assignments `check` enumerates at most: (rules+1)^peers -/
def bruteCost (rules : List Rule) : Nat := (rules.length + 1) ^ peers.length

theorem sublist_of_sorted {l a : List Nat} (hl : l.Pairwise (· < ·)) (ha : a.Pairwise (· < ·))
    (hm : ∀ x ∈ a, x ∈ l) : a.Sublist l := by
  induction l generalizing a with
  | nil => exact List.eq_nil_iff_forall_not_mem.2 (fun x hx => nomatch hm x hx) ▸ List.Sublist.refl _
  | cons y l ih =>
    rw [List.pairwise_cons] at hl
    have above : ∀ z ∈ a, y < z → z ∈ l := fun z hz hyz =>
      (List.mem_cons.1 (hm z hz)).resolve_left (Nat.ne_of_gt hyz)
    cases a with
    | nil => exact List.nil_sublist _
    | cons x a' =>
      rw [List.pairwise_cons] at ha
      rcases List.mem_cons.1 (hm x List.mem_cons_self) with rfl | hx
      · exact (ih hl.2 ha.2 fun z hz => above z (List.mem_cons_of_mem _ hz) (ha.1 z hz)).cons_cons x
      · -- `y` is below `x`, hence below every member of `x :: a'`: all of them lie in `l`
        refine (ih hl.2 (List.pairwise_cons.2 ha) fun z hz => above z hz ?_).cons y
        rcases List.mem_cons.1 hz with rfl | hz'
        · exact hl.1 z hx
        · exact Nat.lt_trans (hl.1 x hx) (ha.1 z hz')

theorem mem_subsUpTo {l : List Nat} {k : Nat} {a : List Nat} :
    a ∈ subsUpTo k l ↔ a.Sublist l ∧ a.length ≤ k := by
  fun_induction subsUpTo k l generalizing a with
  | case1 k =>
    rw [List.mem_singleton, List.sublist_nil]
    exact ⟨fun h => ⟨h, h ▸ Nat.zero_le k⟩, And.left⟩
  | case2 x xs =>
    rw [List.mem_singleton, Nat.le_zero, List.length_eq_zero_iff]
    exact ⟨fun h => ⟨h ▸ List.nil_sublist _, h⟩, And.right⟩
  | case3 k x xs ih1 ih2 =>
    simp only [List.mem_append, List.mem_map, ih1, ih2, List.sublist_cons_iff]
    constructor
    · rintro (⟨a', ⟨h1, h2⟩, rfl⟩ | ⟨h1, h2⟩)
      · exact ⟨Or.inr ⟨a', rfl, h1⟩, Nat.succ_le_succ h2⟩
      · exact ⟨Or.inl h1, h2⟩
    · rintro ⟨h1 | ⟨a', rfl, h1⟩, h2⟩
      · exact Or.inr ⟨h1, h2⟩
      · exact Or.inl ⟨a', ⟨h1, Nat.le_of_succ_le_succ h2⟩, rfl⟩

theorem elig_lt {peers : List PeerInfo} {r : Rule} {i : Nat} (h : elig peers r i = true) : i < peers.length := by
  unfold elig at h
  rcases Nat.lt_or_ge i peers.length with h' | h'
  · exact h'
  · simp [List.getElem?_eq_none h'] at h

theorem sublist_cands {peers : List PeerInfo} {r : Rule} {used a : List Nat} :
    a.Sublist (cands peers r used) ↔ a.Pairwise (· < ·) ∧ ∀ i ∈ a, elig peers r i = true ∧ i ∉ used := by
  have hs : (cands peers r used).Pairwise (· < ·) := List.Pairwise.filter _ List.pairwise_lt_range
  have hm : ∀ i, i ∈ cands peers r used ↔ (elig peers r i = true ∧ i ∉ used) := by
    intro i
    simp only [cands, List.mem_filter, List.mem_range, Bool.and_eq_true, Bool.not_eq_true',
      List.contains_eq_mem, decide_eq_false_iff_not]
    exact ⟨fun h => h.2, fun h => ⟨elig_lt h.1, h⟩⟩
  constructor
  · intro h
    exact ⟨List.Pairwise.sublist h hs, fun i hi => (hm i).1 (h.subset hi)⟩
  · rintro ⟨h1, h2⟩
    exact sublist_of_sorted hs h1 (fun x hx => (hm x).2 (h2 x hx))

theorem mem_allValid (peers : List PeerInfo) : ∀ (rules : List Rule) (used : List Nat) (A : List (List Nat)),
    A ∈ allValid peers rules used ↔ ValidFrom peers rules used A := by
  intro rules
  induction rules with
  | nil => intro used A; cases A <;> simp [allValid, ValidFrom]
  | cons r rs ih =>
    intro used A
    cases A with
    | nil => simp [allValid, ValidFrom]
    | cons a as =>
      simp only [allValid, List.mem_flatMap, List.mem_map, List.cons.injEq, mem_subsUpTo, ValidFrom,
        sublist_cands]
      constructor
      · rintro ⟨a', ⟨⟨h1, h2⟩, h3⟩, A', h4, rfl, rfl⟩
        exact ⟨h1, h2, h3, (ih _ _).1 h4⟩
      · rintro ⟨h1, h2, h3, h4⟩
        exact ⟨a, ⟨⟨h1, h2⟩, h3⟩, as, (ih _ _).2 h4, rfl, rfl⟩

theorem validFromB_iff (peers : List PeerInfo) (rules : List Rule) (used : List Nat) (A : List (List Nat)) :
    validFromB peers rules used A = true ↔ ValidFrom peers rules used A := by
  fun_induction validFromB peers rules used A with
  | case1 => exact iff_of_true rfl trivial
  | case2 r rs used a as ih =>
    simp only [ValidFrom, Bool.and_eq_true, decide_eq_true_eq, List.all_eq_true,
      Bool.not_eq_true', List.contains_eq_mem, decide_eq_false_iff_not, ih, and_assoc]
  | case3 rules used A h1 h2 => rw [ValidFrom.eq_3 _ _ _ _ h1 h2, Bool.false_eq_true]

theorem fitsExactB_iff (peers : List PeerInfo) (rules : List Rule) (fits : List RuleFit) :
    fitsExactB peers rules fits = true ↔ fitsExact peers rules fits := by
  fun_induction fitsExactB peers rules fits with
  | case1 r rs f fs ih => simp only [fitsExact, Bool.and_eq_true, beq_iff_eq, ih, and_assoc]
  | case2 => exact iff_of_true rfl trivial
  | case3 rules fits h1 h2 => rw [fitsExact.eq_3 _ _ _ h1 h2, Bool.false_eq_true]

/-- the executable checker decides the property -/
theorem check_iff (peers : List PeerInfo) (rules : List Rule) (out : Fit) :
    check peers rules out = true ↔ Holds peers rules out := by
  unfold check checkShape checkOptimal
  simp only [Bool.and_eq_true, validFromB_iff, beq_iff_eq, fitsExactB_iff, List.all_eq_true, mem_allValid,
    bne_iff_ne, ne_eq]
  constructor
  · rintro ⟨⟨⟨⟨h1, h2⟩, h3⟩, h4⟩, h5⟩
    exact ⟨h1, h2, h3, h5, h4⟩
  · intro h
    exact ⟨⟨⟨⟨h.valid, h.orphans⟩, h.exact⟩, h.satisfied⟩, h.optimal⟩

end PdModel.Spec.C12
