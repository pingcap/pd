import PdModel.Prelude.ListFacts
/-
C18 – "Dynamic configuration changes are validated, atomic and durable", stated over what can be
observed from outside: before and after every update call the served configuration (`Get*Config`) and
what a fresh options object reloads from the same storage, whether the call reported success, and which
section it addressed.  The records below are plain data (fixed-point numbers, strings, lists); no
implementation identifiers.
-/
namespace PdModel.Spec.C18

/-- a float64 as the checks see it: a finite value in units of 10^-6, or one of the non-finite values -/
inductive Fix where
  | fin (v : Int) | nan | pinf | ninf
  deriving DecidableEq, Repr, Inhabited

/-- IEEE `<` -/
def Fix.lt : Fix → Fix → Bool
  | .nan, _ => false
  | _, .nan => false
  | .fin a, .fin b => a < b
  | .fin _, .pinf => true
  | .fin _, .ninf => false
  | .pinf, _ => false
  | .ninf, .ninf => false
  | .ninf, _ => true

/-- IEEE `<=` -/
def Fix.le : Fix → Fix → Bool
  | .nan, _ => false
  | _, .nan => false
  | .fin a, .fin b => a ≤ b
  | .fin _, .pinf => true
  | .fin _, .ninf => false
  | .pinf, .pinf => true
  | .pinf, _ => false
  | .ninf, _ => true

def Fix.isFinite : Fix → Bool
  | .fin _ => true
  | _ => false

theorem Fix.eq_fin {a : Fix} (h : a.isFinite = true) : ∃ v, a = .fin v := by
  cases a <;> first | exact ⟨_, rfl⟩ | cases h

theorem Fix.le_of_not_lt {a b : Fix} (ha : a.isFinite = true) (hb : b.isFinite = true) (h : a.lt b = false) :
    b.le a = true := by
  obtain ⟨x, rfl⟩ := Fix.eq_fin ha
  obtain ⟨y, rfl⟩ := Fix.eq_fin hb
  exact decide_eq_true (Int.not_lt.mp (of_decide_eq_false h))

theorem Fix.lt_of_not_le {a b : Fix} (ha : a.isFinite = true) (hb : b.isFinite = true) (h : a.le b = false) :
    b.lt a = true := by
  obtain ⟨x, rfl⟩ := Fix.eq_fin ha
  obtain ⟨y, rfl⟩ := Fix.eq_fin hb
  exact decide_eq_true (Int.not_le.mp (of_decide_eq_false h))

def zero : Fix := .fin 0
def one : Fix := .fin 1000000

structure Scheduler where
  type    : String
  args    : String       -- canonical text of the argument list
  disable : Bool
  deriving DecidableEq, Repr, Inhabited

structure StoreLimit where
  store  : Nat
  add    : Fix
  remove : Fix
  deriving DecidableEq, Repr, Inhabited

/-- the scheduling section -/
structure Sched where
  tolerant   : Fix
  low        : Fix
  high       : Fix
  rate       : Fix                 -- deprecated store-balance-rate
  disable    : List Bool           -- deprecated disable-* flags: learner, then the five paired ones
  enable     : List Bool           -- the five enable-* flags paired with disable[1..5]
  other      : String              -- the remaining scalar items (canonical text), never interpreted
  limits     : List StoreLimit
  schedulers : List Scheduler
  deriving DecidableEq, Repr, Inhabited

/-- the replication section -/
structure Repl where
  maxReplicas : Nat
  location    : List String
  strict      : Bool
  rules       : Bool               -- enable-placement-rules
  isolation   : String
  deriving DecidableEq, Repr, Inhabited

/-- the PD-server section -/
structure PdSrv where
  dashboard : String
  trace     : Bool                 -- deprecated trace-region-flow
  digit     : Int                  -- flow-round-by-digit
  other     : String
  deriving DecidableEq, Repr, Inhabited

/-- the replication-mode section -/
structure RMode where
  mode     : String
  labelKey : String
  other    : String
  deriving DecidableEq, Repr, Inhabited

structure LabelProp where
  type   : String
  labels : List (String × String)
  deriving DecidableEq, Repr, Inhabited

/-- the whole dynamic configuration -/
structure Cfg where
  sched   : Sched
  repl    : Repl
  pd      : PdSrv
  labels  : List LabelProp         -- sorted by type, one entry per type
  version : Nat × Nat × Nat
  rmode   : RMode
  deriving DecidableEq, Repr, Inhabited

/-! ### the documented reload normalisation -/

/-- missing default schedulers are re-added (at the end, in the order of the defaults) -/
def addDefaults (defaults : List String) (l : List Scheduler) : List Scheduler :=
  defaults.foldl (fun acc d => if acc.any (fun s => s.type == d) then acc else acc ++ [⟨d, "-", false⟩]) l

/-- a set deprecated disable-flag switches itself and its enable-flag off -/
def migratePairs : List Bool → List Bool → List Bool × List Bool
  | d :: ds, e :: es =>
    let r := migratePairs ds es
    if d then (false :: r.1, false :: r.2) else (false :: r.1, e :: r.2)
  | ds, es => (ds.map (fun _ => false), es)

def normSched (defaults : List String) (s : Sched) : Sched :=
  let r := migratePairs (s.disable.drop 1) s.enable
  { s with rate := zero, disable := (s.disable.take 1).map (fun _ => false) ++ r.1, enable := r.2,
           schedulers := addDefaults defaults s.schedulers }

theorem map_false_of_off {l : List Bool} (h : ∀ b ∈ l, b = false) : l.map (fun _ => false) = l :=
  (List.map_congr_left fun b hb => (h b hb).symm).trans (List.map_id l)

theorem migratePairs_off {ds : List Bool} (es : List Bool) (h : ∀ b ∈ ds, b = false) : migratePairs ds es = (ds, es) := by
  fun_induction migratePairs ds es with
  | case1 ds es e r hd => cases h true List.mem_cons_self
  | case2 d ds e es r hd ih =>
    rw [List.forall_mem_cons] at h
    simp only [r, ih h.2, h.1]
  | case3 ds es _ => rw [map_false_of_off h]

theorem normSched_of_off (defaults : List String) {c : Sched} (hd : ∀ b ∈ c.disable, b = false)
    (hr : c.rate = zero) : normSched defaults c = { c with schedulers := addDefaults defaults c.schedulers } := by
  rw [normSched, migratePairs_off _ fun b hb => hd b (List.mem_of_mem_drop hb),
    map_false_of_off fun b hb => hd b (List.mem_of_mem_take hb)]
  dsimp only
  rw [List.take_append_drop, hr]

/-- the deprecated trace flag is cleared (its meaning is carried by the digit) -/
def normPd (p : PdSrv) : PdSrv := { p with trace := false }

def normalise (defaults : List String) (c : Cfg) : Cfg :=
  { c with sched := normSched defaults c.sched, pd := normPd c.pd }

/-! ### the domains -/

def schedDomain (registered : List String) (s : Sched) : Bool :=
  s.tolerant.isFinite && zero.le s.tolerant &&
  s.low.isFinite && zero.le s.low && s.low.le one &&
  s.high.isFinite && zero.le s.high && s.high.le one &&
  s.high.lt s.low &&
  s.schedulers.all (fun x => registered.contains x.type)

def replDomain (r : Repl) : Bool := r.isolation == "" || r.location.contains r.isolation

def pdDomain (p : PdSrv) : Bool := decide (0 ≤ p.digit)

inductive Kind where
  | sched | repl | pd | labels | version | rmode
  | reload      -- the same options object reloads from storage (a member re-elected as leader)
  | foreign     -- another member wrote a configuration to the same storage
  deriving DecidableEq, Repr, Inhabited

structure Obs where
  served   : Cfg
  reloaded : Option Cfg       -- none: nothing stored yet / reload failed
  deriving DecidableEq, Repr, Inhabited

structure Step where
  kind    : Kind
  pre     : Obs
  post    : Obs
  ok      : Bool
  crashed : Bool := false
  deriving Repr, Inhabited

/-- the property for one update call -/
structure StepOk (defaults registered : List String) (s : Step) : Prop where
  completes : s.crashed = false
  /-- a rejected change leaves the served configuration exactly as it was -/
  rejected : s.ok = false → s.post.served = s.pre.served
  /-- an accepted change is what a new leader reloads, up to the reload normalisation -/
  durable : s.kind ≠ .reload → s.kind ≠ .foreign → s.ok = true →
    s.post.reloaded = some (normalise defaults s.post.served)
  /-- after a reload the member serves, in every section, what the storage holds (what a fresh options
      object reloads) -/
  reloaded : s.kind = .reload → s.ok = true →
    (s.post.reloaded = none ∨ s.post.reloaded = some s.post.served)
  /-- somebody else's write does not change what this member serves -/
  foreignKept : s.kind = .foreign → s.post.served = s.pre.served
  /-- values outside their domains are never accepted -/
  domain : s.ok = true →
    (s.kind = .sched → schedDomain registered s.post.served.sched = true) ∧
    (s.kind = .repl → replDomain s.post.served.repl = true) ∧
    (s.kind = .pd → pdDomain s.post.served.pd = true)

def Holds (defaults registered : List String) (steps : List Step) : Prop :=
  ∀ s ∈ steps, StepOk defaults registered s

/-! ### executable checker -/

def checkRejected (s : Step) : Bool := s.ok || decide (s.post.served = s.pre.served)

def checkDurable (defaults : List String) (s : Step) : Bool :=
  s.kind == .reload || s.kind == .foreign || !s.ok ||
  decide (s.post.reloaded = some (normalise defaults s.post.served))

def checkReloaded (s : Step) : Bool :=
  s.kind != .reload || !s.ok || decide (s.post.reloaded = none ∨ s.post.reloaded = some s.post.served)

def checkForeign (s : Step) : Bool :=
  s.kind != .foreign || decide (s.post.served = s.pre.served)

def checkDomain (registered : List String) (s : Step) : Bool :=
  !s.ok ||
  ((s.kind != .sched || schedDomain registered s.post.served.sched) &&
   (s.kind != .repl || replDomain s.post.served.repl) &&
   (s.kind != .pd || pdDomain s.post.served.pd))

def checkStep (defaults registered : List String) (s : Step) : Bool :=
  !s.crashed && checkRejected s && checkDurable defaults s && checkDomain registered s &&
  checkReloaded s && checkForeign s

def violated (defaults registered : List String) (s : Step) : List String :=
  (if s.crashed then ["operation-panicked"] else []) ++
  (if checkRejected s then [] else ["rejected-change-altered-served"]) ++
  (if checkDurable defaults s then [] else ["accepted-change-not-reloaded"]) ++
  (if checkDomain registered s then [] else ["out-of-domain-value-accepted"]) ++
  (if checkReloaded s then [] else ["reload-differs-from-storage"]) ++
  (if checkForeign s then [] else ["foreign-write-altered-served"])

theorem checkDurable_iff (defaults : List String) (s : Step) :
    checkDurable defaults s = true ↔
      (s.kind ≠ .reload → s.kind ≠ .foreign → s.ok = true → s.post.reloaded = some (normalise defaults s.post.served)) := by
  simp only [checkDurable, or_eq_true_imp, Bool.or_eq_false_iff, and_imp, beq_eq_false_iff_ne, ne_eq,
    Bool.not_eq_false', decide_eq_true_eq]

theorem checkReloaded_iff (s : Step) :
    checkReloaded s = true ↔ (s.kind = .reload → s.ok = true →
      (s.post.reloaded = none ∨ s.post.reloaded = some s.post.served)) := by
  simp only [checkReloaded, or_eq_true_imp, Bool.or_eq_false_iff, and_imp, bne_eq_false_iff_eq,
    Bool.not_eq_false', decide_eq_true_eq]

theorem checkForeign_iff (s : Step) :
    checkForeign s = true ↔ (s.kind = .foreign → s.post.served = s.pre.served) := by
  simp only [checkForeign, or_eq_true_imp, bne_eq_false_iff_eq, decide_eq_true_eq]

theorem checkRejected_iff (s : Step) : checkRejected s = true ↔ (s.ok = false → s.post.served = s.pre.served) := by
  simp only [checkRejected, or_eq_true_imp, decide_eq_true_eq]

theorem checkDomain_iff (registered : List String) (s : Step) :
    checkDomain registered s = true ↔
      (s.ok = true →
        (s.kind = .sched → schedDomain registered s.post.served.sched = true) ∧
        (s.kind = .repl → replDomain s.post.served.repl = true) ∧
        (s.kind = .pd → pdDomain s.post.served.pd = true)) := by
  simp only [checkDomain, or_eq_true_imp, Bool.and_eq_true, and_assoc, bne_eq_false_iff_eq, Bool.not_eq_false']

theorem checkStep_iff (defaults registered : List String) (s : Step) :
    checkStep defaults registered s = true ↔ StepOk defaults registered s := by
  simp only [checkStep, Bool.and_eq_true, Bool.not_eq_true', checkRejected_iff, checkDurable_iff, checkDomain_iff,
    checkReloaded_iff, checkForeign_iff]
  constructor
  · rintro ⟨⟨⟨⟨⟨h0, h1⟩, h2⟩, h3⟩, h4⟩, h5⟩
    exact ⟨h0, h1, h2, h4, h5, h3⟩
  · rintro ⟨h0, h1, h2, h4, h5, h3⟩
    exact ⟨⟨⟨⟨⟨h0, h1⟩, h2⟩, h3⟩, h4⟩, h5⟩

def check (defaults registered : List String) (steps : List Step) : Bool :=
  steps.all (checkStep defaults registered)

theorem check_iff (defaults registered : List String) (steps : List Step) :
    check defaults registered steps = true ↔ Holds defaults registered steps := by
  unfold check Holds
  simp only [List.all_eq_true, checkStep_iff]

end PdModel.Spec.C18
