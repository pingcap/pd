import PdModel.Model.OpCtl
import PdModel.Spec.C09
/-! Lemmas for C09, operator level and lookups: a status move goes along `validTrans` and never touches an
    operator's identity (`Rel`); what `getOp` / `runningOn` return after the elementary state changes; `Le`. -/
namespace PdModel.OpCtl
open PdModel.Steps PdModel.Spec

theorem canMove_eq_allowed (a b : Status) : canMove a b = C09.allowed a b := by
  cases a <;> cases b <;> decide

theorem no_move_from_end (a m : Status) (ha : a.isEnd = true) : C09.allowed a m = false := by
  cases a <;> first | rfl | exact absurd ha (by decide)

theorem ne_started_of_end {s : Status} (h : s.isEnd = true) : s ≠ .started := by
  rintro rfl; exact absurd h (by decide)

inductive Reach : Status → Status → Prop where
  | refl (a : Status) : Reach a a
  | step {a b c : Status} (h : C09.allowed a b = true) (r : Reach b c) : Reach a c

theorem Reach.trans {a b c : Status} (h1 : Reach a b) (h2 : Reach b c) : Reach a c := by
  induction h1 with
  | refl => exact h2
  | step h _ ih => exact Reach.step h (ih h2)

theorem Reach.single {a b : Status} (h : C09.allowed a b = true) : Reach a b := Reach.step h (Reach.refl b)

theorem reach_from_end {a b : Status} (h : Reach a b) (ha : a.isEnd = true) : b = a := by
  cases h with
  | refl => rfl
  | step hs _ => rw [no_move_from_end _ _ ha] at hs; cases hs

theorem reach_from_started {b : Status} (h : Reach .started b) : b = .started ∨ b.isEnd = true := by
  cases h with
  | refl => left; rfl
  | @step _ m _ hs r =>
    have hm : m.isEnd = true := by cases m <;> first | rfl | cases hs
    right; rw [reach_from_end r hm]; exact hm

theorem reach_of_not_created {a b : Status} (h : Reach a b) (ha : a ≠ .created) :
    b = .started ∨ b.isEnd = true := by
  cases a with
  | created => exact absurd rfl ha
  | started => exact reach_from_started h
  | _ => exact .inr (reach_from_end h rfl ▸ rfl)

/-- what never changes of an operator, and how its status may have moved -/
structure Rel (o o' : Op) : Prop where
  id : o'.id = o.id
  desc : o'.desc = o.desc
  region : o'.region = o.region
  confVer : o'.confVer = o.confVer
  version : o'.version = o.version
  level : o'.level = o.level
  kindMerge : o'.kindMerge = o.kindMerge
  range0 : o'.range0 = o.range0
  steps : o'.steps = o.steps
  status : Reach o.status o'.status

theorem Rel.refl (o : Op) : Rel o o := ⟨rfl, rfl, rfl, rfl, rfl, rfl, rfl, rfl, rfl, Reach.refl _⟩

theorem Rel.trans {a b c : Op} (h1 : Rel a b) (h2 : Rel b c) : Rel a c :=
  ⟨h2.id.trans h1.id, h2.desc.trans h1.desc, h2.region.trans h1.region, h2.confVer.trans h1.confVer,
   h2.version.trans h1.version, h2.level.trans h1.level, h2.kindMerge.trans h1.kindMerge,
   h2.range0.trans h1.range0, h2.steps.trans h1.steps, h1.status.trans h2.status⟩

/-- `Rel`, and the operator was not started on the way: every status move except `Start()` -/
structure Calm (o o' : Op) : Prop where
  rel : Rel o o'
  noStart : o'.status = .started → o.status = .started

theorem Calm.refl (o : Op) : Calm o o := ⟨Rel.refl o, id⟩

theorem Calm.trans {a b c : Op} (h1 : Calm a b) (h2 : Calm b c) : Calm a c :=
  ⟨h1.rel.trans h2.rel, fun h => h1.noStart (h2.noStart h)⟩

theorem calm_flags (o : Op) (cur : Nat) (a b : Bool) :
    Calm o { o with cur := cur, createdOld := a, startedOld := b } :=
  ⟨⟨rfl, rfl, rfl, rfl, rfl, rfl, rfl, rfl, rfl, Reach.refl _⟩, id⟩

theorem to_eq_of_canMove {o : Op} {dst : Status} (h : canMove o.status dst = true) :
    o.to dst = ({ o with status := dst, startedOld := if dst == .started then false else o.startedOld }, true) := by
  unfold Op.to; rw [if_pos h]

theorem to_of_canMove {o : Op} {dst : Status} (h : canMove o.status dst = true) :
    (o.to dst).1.status = dst ∧ (o.to dst).2 = true := by
  rw [to_eq_of_canMove h]; exact ⟨rfl, rfl⟩

theorem to_of_not_canMove {o : Op} {dst : Status} (h : canMove o.status dst = false) : o.to dst = (o, false) := by
  unfold Op.to; rw [if_neg (by rw [h]; decide)]

theorem to_of_end {o : Op} (h : o.status.isEnd = true) (dst : Status) : o.to dst = (o, false) :=
  to_of_not_canMove (by rw [canMove_eq_allowed]; exact no_move_from_end _ _ h)

theorem rel_to (o : Op) (dst : Status) : Rel o (o.to dst).1 := by
  cases h : canMove o.status dst
  · rw [to_of_not_canMove h]; exact Rel.refl o
  · rw [to_eq_of_canMove h]
    exact ⟨rfl, rfl, rfl, rfl, rfl, rfl, rfl, rfl, rfl, .single (canMove_eq_allowed .. ▸ h)⟩

theorem calm_to (o : Op) {dst : Status} (hd : dst ≠ .started) : Calm o (o.to dst).1 := by
  refine ⟨rel_to o dst, ?_⟩
  cases h : canMove o.status dst
  · rw [to_of_not_canMove h]; exact id
  · rw [to_eq_of_canMove h]; exact fun e => absurd e hd

theorem calm_checkSuccess (o : Op) : Calm o o.checkSuccess.1 := by
  unfold Op.checkSuccess
  split
  · exact calm_to o (by decide)
  · exact Calm.refl o

theorem calm_checkExpired (o : Op) : Calm o o.checkExpired.1 := by
  unfold Op.checkExpired
  split
  · split
    · exact calm_to o (by decide)
    · exact Calm.refl o
  · exact Calm.refl o

theorem calm_checkTimeout (o : Op) : Calm o o.checkTimeout.1 := by
  have h1 : ∀ {o1 ok}, o.checkSuccess = (o1, ok) → Calm o o1 := fun h => by
    have := calm_checkSuccess o; rwa [h] at this
  fun_cases Op.checkTimeout o with
  | case1 o1 h => exact h1 h
  | case2 o1 ok h => exact (h1 h).trans (calm_to o1 (by decide))
  | case3 o1 ok h => exact h1 h
  | case4 o1 ok h => exact h1 h

theorem calm_check (o : Op) (v : View) : Calm o (o.check v).1 := by
  unfold Op.check
  split
  · exact Calm.refl o
  · exact (calm_flags o _ o.createdOld o.startedOld).trans (calm_checkTimeout _)

/-- the operator `bury` stores: cancelled first when it is still live -/
def buried (o : Op) : Op := if !o.status.isEnd then (o.to .canceled).1 else o

theorem calm_buried (o : Op) : Calm o (buried o) := by
  unfold buried
  split
  · exact calm_to o (by decide)
  · exact Calm.refl o

theorem buried_of_end {o : Op} (h : o.status.isEnd = true) : buried o = o := by
  unfold buried; rw [h]; rfl

theorem live_can_be_canceled {s : Status} (h : s.isEnd = false) : canMove s .canceled = true := by
  revert h; cases s <;> decide

theorem buried_isEnd (o : Op) : (buried o).status.isEnd = true := by
  cases h : o.status.isEnd
  · unfold buried; rw [h]
    show (o.to .canceled).1.status.isEnd = true
    rw [to_eq_of_canMove (live_can_be_canceled h)]; rfl
  · rw [buried_of_end h]; exact h

theorem getOp_some {c : Ctl} {k : Nat} {o : Op} (h : c.getOp k = some o) : o.id = k := by
  unfold Ctl.getOp at h
  simpa using List.find?_some h

theorem getOp_setOp (c : Ctl) (o' : Op) (k : Nat) :
    (c.setOp o').getOp k = (c.getOp k).map (fun x => if x.id == o'.id then o' else x) := by
  unfold Ctl.setOp Ctl.getOp
  show List.find? _ (List.map _ _) = _
  rw [List.find?_map]
  congr 2
  funext x
  -- the new version has the id of the one it replaces
  show ((if x.id == o'.id then o' else x).id == k) = (x.id == k)
  split
  · next h => rw [beq_iff_eq.1 h]
  · rfl

theorem getOp_setOp_of {c : Ctl} {k : Nat} {o o' : Op} (h : c.getOp k = some o) (hid : o'.id = o.id) (j : Nat) :
    (c.setOp o').getOp j = if j = k then some o' else c.getOp j := by
  rw [getOp_setOp, hid, getOp_some h]
  split
  · next e => rw [e, h, Option.map_some, if_pos (beq_iff_eq.2 (getOp_some h))]
  · next e =>
    cases hg : c.getOp j with
    | none => rfl
    | some y => rw [Option.map_some, if_neg (fun hy => e ((getOp_some hg).symm.trans (beq_iff_eq.1 hy)))]

theorem getOp_append (c : Ctl) (n : Op) (k : Nat) :
    Ctl.getOp { c with ops := c.ops ++ [n] } k = (c.getOp k).or (if n.id = k then some n else none) := by
  unfold Ctl.getOp
  simp only [List.find?_append, List.find?_singleton, beq_iff_eq]

@[simp] theorem runningOn_setOp (c : Ctl) (o : Op) (r : Nat) : (c.setOp o).runningOn r = c.runningOn r := rfl

theorem find?_filter_ne (l : List (Nat × Nat)) (r r' : Nat) :
    (l.filter (fun x => x.1 != r)).find? (fun x => x.1 == r') =
      if r' = r then none else l.find? (fun x => x.1 == r') := by
  rw [List.find?_filter]
  split
  · next e => subst e; simp
  · next e =>
    congr 1; funext x
    by_cases ex : x.1 = r' <;> simp [ex, e]

/-- the running map after `oc.operators[regionID] = op` -/
theorem runningOn_register (c : Ctl) (r id r' : Nat) :
    Ctl.runningOn { c with running := c.running.filter (fun x => x.1 != r) ++ [(r, id)] } r' =
      if r' = r then some id else c.runningOn r' := by
  show Option.map _ (List.find? _ (_ ++ _)) = _
  rw [List.find?_append, find?_filter_ne, List.find?_singleton]
  by_cases e : r' = r
  · rw [if_pos e, if_pos e, Option.none_or, if_pos (beq_iff_eq.2 e.symm)]; rfl
  · rw [if_neg e, if_neg e, if_neg (fun h => e (beq_iff_eq.1 h).symm), Option.or_none]; rfl

/-- the test of `removeOperatorLocked` as a proposition; the state it returns stays folded, `removeLocked_fst`
    and `runningOn_removeLocked` say what it is -/
theorem removeLocked_eq (c : Ctl) (o : Op) :
    removeLocked c o = if c.runningOn o.region = some o.id then ((removeLocked c o).1, true) else (c, false) := by
  unfold removeLocked
  by_cases e : c.runningOn o.region = some o.id
  · rw [if_pos (beq_iff_eq.2 e), if_pos e]
  · rw [if_neg (mt beq_iff_eq.1 e), if_neg e]

theorem removeLocked_snd {c : Ctl} {o : Op} (h : (removeLocked c o).2 = true) :
    c.runningOn o.region = some o.id := by
  rw [removeLocked_eq] at h
  split at h
  · assumption
  · cases h

theorem removeLocked_fst (c : Ctl) (o : Op) :
    (removeLocked c o).1 = { c with running := (removeLocked c o).1.running } := by
  unfold removeLocked; split <;> rfl

theorem getOp_removeLocked (c : Ctl) (o : Op) (k : Nat) : (removeLocked c o).1.getOp k = c.getOp k := by
  rw [removeLocked_fst]; rfl

theorem runningOn_removeLocked (c : Ctl) (o : Op) (r : Nat) :
    (removeLocked c o).1.runningOn r =
      if c.runningOn o.region = some o.id ∧ r = o.region then none else c.runningOn r := by
  unfold removeLocked
  by_cases e : c.runningOn o.region = some o.id
  · rw [if_pos (beq_iff_eq.2 e)]
    show Option.map _ ((c.running.filter _).find? _) = _
    rw [find?_filter_ne]
    by_cases er : r = o.region
    · rw [if_pos er, if_pos ⟨e, er⟩]; rfl
    · rw [if_neg er, if_neg (fun h => er h.2)]; rfl
  · rw [if_neg (mt beq_iff_eq.1 e), if_neg (fun h => e h.1)]

/-- one controller state evolved into another: the same operators, statuses moved along the allowed
    transitions, same cached regions, same configuration -/
structure Le (c c' : Ctl) : Prop where
  some : ∀ k o, c.getOp k = some o → ∃ o', c'.getOp k = some o' ∧ Rel o o'
  none : ∀ k, c.getOp k = none → c'.getOp k = none
  views : c'.views = c.views
  maxWaiting : c'.maxWaiting = c.maxWaiting

theorem Le.refl (c : Ctl) : Le c c := ⟨fun _ o h => ⟨o, h, Rel.refl o⟩, fun _ h => h, rfl, rfl⟩

theorem Le.trans {a b c : Ctl} (h1 : Le a b) (h2 : Le b c) : Le a c := by
  refine ⟨?_, fun k h => h2.none k (h1.none k h), h2.views.trans h1.views, h2.maxWaiting.trans h1.maxWaiting⟩
  intro k o h
  obtain ⟨o1, g1, r1⟩ := h1.some k o h
  obtain ⟨o2, g2, r2⟩ := h2.some k o1 g1
  exact ⟨o2, g2, Rel.trans r1 r2⟩

theorem Le.of_eq {c c' : Ctl} (h1 : c'.ops = c.ops) (h2 : c'.views = c.views)
    (h3 : c'.maxWaiting = c.maxWaiting) : Le c c' := by
  have hg : ∀ k, c'.getOp k = c.getOp k := fun k => by unfold Ctl.getOp; rw [h1]
  exact ⟨fun k o h => ⟨o, (hg k).trans h, Rel.refl o⟩, fun k h => (hg k).trans h, h2, h3⟩

theorem le_setOp {c : Ctl} {k : Nat} {o o' : Op} (h : c.getOp k = some o) (hr : Rel o o') :
    Le c (c.setOp o') := by
  refine ⟨fun j x hx => ?_, fun j hj => ?_, rfl, rfl⟩
  · rw [getOp_setOp_of h hr.id]
    split
    · next e => rw [e, h] at hx; cases hx; exact ⟨o', rfl, hr⟩
    · exact ⟨x, hx, Rel.refl x⟩
  · rw [getOp_setOp_of h hr.id, if_neg (fun e => by rw [e, h] at hj; cases hj)]; exact hj

end PdModel.OpCtl
