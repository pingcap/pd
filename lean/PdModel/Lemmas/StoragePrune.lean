import PdModel.Lemmas.StorageLoad
import PdModel.Lemmas.SyncRegion
/-! The prune callback (`CheckAndPutRegion`) satisfies the paging requirements, and handing all stored
    regions to it in id order leaves storage and cache describing the same consistent set. -/
namespace PdModel.StorageLoad
open PdModel.SyncRegion

def WellKeyed (kv : KV Meta) : Prop := ∀ e ∈ kv, e.2.id = e.1

def CacheBelow (c : Cache) (b : Nat) : Prop := ∀ r ∈ c, r.md.id < b

theorem putOverlaps_sub (c : Cache) (r : Region) : ∀ x ∈ putOverlaps c r, x ∈ c := by
  intro x hx
  unfold putOverlaps at hx
  split at hx
  · exact (List.mem_filter.1 hx).1
  · cases hx

theorem pruneCb_dels {c : Cache} {e : Nat × Meta} (h : CacheBelow c e.2.id) : ∀ d ∈ (pruneCb c e).2, d ≤ e.2.id := by
  intro d hd
  obtain ⟨x, hx, rfl⟩ := List.mem_map.1 hd
  unfold checkAndPut at hx
  split at hx
  · rw [List.mem_singleton.1 hx]; exact Nat.le_refl _
  · exact Nat.le_of_lt (h x (putOverlaps_sub _ _ x hx))

/-- invariant of handing the stored regions to the callback while `post` remain to be handed over (`kv0`: the
    storage at the start) -/
structure PruneInv (kv0 : KV Meta) (post : KV Meta) (s : LoadSt Meta Cache) : Prop where
  postIn  : ∀ e ∈ post, e ∈ s.kv
  stored  : ∀ e ∈ s.kv, e ∈ post ∨ ({ md := e.2 } : Region) ∈ s.cb
  cached  : ∀ r ∈ s.cb, (r.md.id, r.md) ∈ s.kv ∧ r = { md := r.md }
  below   : ∀ r ∈ s.cb, ∀ e ∈ post, r.md.id < e.1
  sub     : ∀ e ∈ s.kv, e ∈ kv0
  cons    : s.cb.Pairwise Compat

theorem PruneInv.head {kv0 post : KV Meta} {e : Nat × Meta} {s : LoadSt Meta Cache} (h : PruneInv kv0 (e :: post) s)
    (hw : WellKeyed kv0) : e.2.id = e.1 ∧ CacheBelow s.cb e.2.id :=
  have hes := List.mem_cons_self (a := e) (l := post)
  have heid := hw e (h.sub e (h.postIn e hes))
  ⟨heid, fun r hr => heid ▸ h.below r hr e hes⟩

theorem find_none_of_below (c : Cache) (id : Nat) (h : CacheBelow c id) : Cache.find c id = none :=
  List.find?_eq_none.2 fun x hx => by simpa using Nat.ne_of_lt (h x hx)

/-! a region whose id is above every cached id is put: what is overlapped goes, the rest stays -/

theorem mem_putOverlaps_of_below {c : Cache} {r x : Region} (h : CacheBelow c r.md.id) :
    x ∈ putOverlaps c r ↔ x ∈ c ∧ overlap r.md x.md = true := by
  simp only [putOverlaps, rangeChanged, find_none_of_below c _ h, if_true, List.mem_filter, Bool.and_eq_true,
    bne_iff_ne]
  exact ⟨fun ⟨a, _, b⟩ => ⟨a, b⟩, fun ⟨a, b⟩ => ⟨a, Nat.ne_of_lt (h x a), b⟩⟩

theorem mem_putRegion_of_below {c : Cache} {r x : Region} (h : CacheBelow c r.md.id) :
    x ∈ putRegion c r ↔ x ∈ c ∧ overlap r.md x.md = false ∨ x = r := by
  simp only [putRegion, keepOnPut, rangeChanged, find_none_of_below c _ h, List.mem_append, List.mem_filter,
    List.mem_singleton, Bool.true_and, Bool.and_eq_true, bne_iff_ne, Bool.not_eq_true']
  exact or_congr_left ⟨fun ⟨a, _, b⟩ => ⟨a, b⟩, fun ⟨a, b⟩ => ⟨a, Nat.ne_of_lt (h x a), b⟩⟩

theorem prune_step (kv0 : KV Meta) (hw : WellKeyed kv0) (e : Nat × Meta) (post : KV Meta)
    (hsp : Sorted (e :: post)) (s : LoadSt Meta Cache) (h : PruneInv kv0 (e :: post) s) :
    PruneInv kv0 post (pageStep pruneCb s e) := by
  have hgt : ∀ x ∈ post, e.1 < x.1 := (List.pairwise_cons.1 hsp).1
  have hes : e ∈ s.kv := h.postIn e (List.mem_cons_self ..)
  obtain ⟨heid, hbelow⟩ := h.head hw
  have hpost : ∀ x ∈ post, x ∈ e :: post := fun x => List.mem_cons_of_mem e
  show PruneInv kv0 post
    { kv := (pruneCb s.cb e).2.foldl kvRemove s.kv, cb := (pruneCb s.cb e).1, loaded := s.loaded ++ [e] }
  unfold pruneCb checkAndPut
  split
  · -- stale: the region itself is deleted, the cache is unchanged
    have hmem : ∀ x, x ∈ [e.2.id].foldl kvRemove s.kv ↔ x ∈ s.kv ∧ x.1 ≠ e.1 := fun x => by
      rw [mem_kvRemove_foldl, List.mem_singleton, heid]
    refine ⟨fun x hx => (hmem x).2 ⟨h.postIn x (hpost x hx), Nat.ne_of_gt (hgt x hx)⟩, fun x hx => ?_,
      fun r hr => ⟨(hmem _).2 ⟨(h.cached r hr).1, heid ▸ Nat.ne_of_lt (hbelow r hr)⟩, (h.cached r hr).2⟩,
      fun r hr x hx => h.below r hr x (hpost x hx), fun x hx => h.sub x ((hmem x).1 hx).1, h.cons⟩
    obtain ⟨hxs, hne⟩ := (hmem x).1 hx
    exact (h.stored x hxs).imp_left fun hp => (List.mem_cons.1 hp).resolve_left fun hxe => hne (hxe ▸ rfl)
  · -- accepted: the overlapped cached regions go, from cache and storage
    have hmem : ∀ x, x ∈ ((putOverlaps s.cb { md := e.2 }).map (·.md.id)).foldl kvRemove s.kv ↔
        x ∈ s.kv ∧ ∀ y ∈ s.cb, overlap e.2 y.md = true → y.md.id ≠ x.1 := fun x => by
      simp only [mem_kvRemove_foldl, List.mem_map, mem_putOverlaps_of_below (r := { md := e.2 }) hbelow, not_exists,
        not_and, and_imp]
    refine ⟨fun x hx => ?_, fun x hx => ?_, fun r hr => ?_, fun r hr x hx => ?_, fun x hx => h.sub x ((hmem x).1 hx).1,
      consistent_putRegion _ h.cons _⟩
    · exact (hmem x).2 ⟨h.postIn x (hpost x hx), fun y hy _ =>
        Nat.ne_of_lt (Nat.lt_trans (heid ▸ hbelow y hy) (hgt x hx))⟩
    · obtain ⟨hxs, hno⟩ := (hmem x).1 hx
      rw [mem_putRegion_of_below (r := { md := e.2 }) hbelow]
      rcases h.stored x hxs with hp | hc
      · rcases List.mem_cons.1 hp with rfl | hp
        · exact Or.inr (Or.inr rfl)
        · exact Or.inl hp
      · -- a cached region that overlaps would have been deleted
        refine Or.inr (Or.inl ⟨hc, Bool.eq_false_iff.2 fun hov => hno _ hc hov (hw x (h.sub x hxs))⟩)
    · rw [mem_putRegion_of_below (r := { md := e.2 }) hbelow] at hr
      rcases hr with ⟨hc, hov⟩ | rfl
      · -- ids in the cache are pairwise different: only `r` itself could have had its id deleted
        refine ⟨(hmem _).2 ⟨(h.cached r hc).1, fun y hy hoy hid => ?_⟩, (h.cached r hc).2⟩
        have : y = r := Decidable.byContradiction fun hne =>
          (pairwise_mem (fun h => compat_symm h) h.cons hy hc hne).1 hid
        rw [this, hov] at hoy
        exact Bool.false_ne_true hoy
      · exact ⟨(hmem _).2 ⟨heid ▸ hes, fun y hy _ => Nat.ne_of_lt (hbelow y hy)⟩, rfl⟩
    · rcases (putRegion_spec _ _).2 r hr with rfl | ⟨hc, _⟩
      · exact heid ▸ hgt x hx
      · exact h.below r hc x (hpost x hx)

theorem prune_fold (kv0 : KV Meta) (hw : WellKeyed kv0) :
    ∀ (post : KV Meta) (s : LoadSt Meta Cache), Sorted post → PruneInv kv0 post s →
      Behind pruneCb s.cb post ∧ PruneInv kv0 [] (post.foldl (pageStep pruneCb) s) := by
  intro post
  induction post with
  | nil => intro s _ h; exact ⟨trivial, h⟩
  | cons e post ih =>
    intro s hsp h
    obtain ⟨h1, h2⟩ := ih _ (List.pairwise_cons.1 hsp).2 (prune_step kv0 hw e post hsp s h)
    exact ⟨⟨(h.head hw).1 ▸ pruneCb_dels (h.head hw).2, h1⟩, h2⟩

theorem prune_init (kv0 : KV Meta) : PruneInv kv0 kv0 { kv := kv0, cb := [], loaded := [] } :=
  ⟨fun _ he => he, fun _ he => Or.inl he, List.forall_mem_nil _, List.forall_mem_nil _, fun _ he => he, List.Pairwise.nil⟩

end PdModel.StorageLoad
