import PdModel.Lemmas.TsoGlobal
import PdModel.Spec.C05
import PdModel.Generated.TsoGlobal
/-!
C05.  Quantifiers: any number of dcs and any placement of their allocator leaders on servers; any
interleaving of local requests (any counts), forward moves of every memory (window updates, syncs after
an allocator-leader change, SetTSO) and the steps of global requests (any counts, any estimate offset),
including aborted attempts; no bound on the history.
-/
namespace PdModel.TsoGlobal
open PdModel.Spec

theorem differentiate_lt (a b : TS) (k sa sb : Nat) (h : tsLt a b) (hsa : sa < 2 ^ k) :
    a.1 < b.1 ∨ (a.1 = b.1 ∧ differentiate a.2 k sa < differentiate b.2 k sb) := by
  refine h.imp_right (And.imp_right fun h2 => ?_)
  -- the suffix does not reach the next multiple of `2^k`
  calc a.2 * 2 ^ k + sa < a.2 * 2 ^ k + 2 ^ k := Nat.add_lt_add_left hsa _
    _ = (a.2 + 1) * 2 ^ k := (Nat.succ_mul _ _).symm
    _ ≤ b.2 * 2 ^ k := Nat.mul_le_mul_right _ h2
    _ ≤ b.2 * 2 ^ k + sb := Nat.le_add_right _ _

theorem differentiate_div (r k s : Nat) (hs : s < 2 ^ k) : differentiate r k s / 2 ^ k = r := by
  unfold differentiate
  rw [Nat.mul_comm, Nat.mul_add_div (Nat.two_pow_pos k), Nat.div_eq_of_lt hs, Nat.add_zero]

theorem differentiate_mod (r k s : Nat) (hs : s < 2 ^ k) : differentiate r k s % 2 ^ k = s := by
  unfold differentiate
  rw [Nat.mul_comm, Nat.mul_add_mod, Nat.mod_eq_of_lt hs]

theorem differentiate_injective (r r' k s s' : Nat) (hs : s < 2 ^ k) (hs' : s' < 2 ^ k)
    (h : differentiate r k s = differentiate r' k s') : r = r' ∧ s = s' :=
  ⟨(differentiate_div r k s hs).symm.trans ((congrArg (· / 2 ^ k) h).trans (differentiate_div r' k s' hs')),
   (differentiate_mod r k s hs).symm.trans ((congrArg (· % 2 ^ k) h).trans (differentiate_mod r' k s' hs'))⟩

theorem clog2_spec (n : Nat) : n ≤ 2 ^ clog2 n :=
  ite_ind (P := fun b => n ≤ 2 ^ b) id fun _ => Nat.le_of_pred_lt Nat.lt_log2_self

theorem clog2_le {n b : Nat} (h : n ≤ 2 ^ b) : clog2 n ≤ b :=
  ite_ind (P := (· ≤ b)) (fun _ => Nat.zero_le _) fun h1 =>
    have hn : 1 < n := Nat.lt_of_not_le h1
    (Nat.log2_lt (Nat.sub_ne_zero_of_lt hn)).2 (Nat.lt_of_lt_of_le (Nat.sub_one_lt_of_lt hn) h)

/-- (d), width: `CalSuffixBits(maxSuffix)` bits hold every suffix up to `maxSuffix` -/
theorem width_fits (maxSuffix s : Nat) (h : s ≤ maxSuffix) : s < 2 ^ calSuffixBits maxSuffix :=
  Nat.lt_of_lt_of_le (Nat.lt_succ_of_le h) (clog2_spec (maxSuffix + 1))

/-- the width stays within `MaxSuffixBits` as long as the largest suffix is at most `2^MaxSuffixBits - 1`, the
    number `checkDCLocationUpperLimit` allows for the dc-locations -/
theorem width_le_max (maxSuffix : Nat) (h : maxSuffix ≤ 2 ^ PdModel.Generated.TsoGlobal.maxSuffixBits - 1) :
    calSuffixBits maxSuffix ≤ PdModel.Generated.TsoGlobal.maxSuffixBits :=
  clog2_le (Nat.succ_le_of_lt (Nat.lt_of_le_pred (Nat.two_pow_pos _) h))

/-- a suffix table as the cluster uses it: 0 for the global allocator, pairwise distinct positive
    suffixes below `2^bits` for the dcs -/
structure SuffixTable (st : St) (sfx : Nat → Nat) : Prop where
  glob0 : sfx 0 = 0
  pos   : ∀ d ∈ st.dcs, 1 ≤ sfx d ∧ sfx d < 2 ^ st.bits
  inj   : ∀ d ∈ st.dcs, ∀ d' ∈ st.dcs, sfx d = sfx d' → d = d'

theorem SuffixTable.alloc_eq {st : St} {sfx : Nat → Nat} (hs : SuffixTable st sfx) {a b : Nat}
    (ha : a = 0 ∨ a ∈ st.dcs) (hb : b = 0 ∨ b ∈ st.dcs) (h : sfx a = sfx b) : a = b := by
  rcases ha with rfl | ha <;> rcases hb with rfl | hb
  · rfl
  · exact absurd (h.symm.trans hs.glob0) (Nat.ne_of_gt (hs.pos b hb).1)
  · exact absurd (h.trans hs.glob0) (Nat.ne_of_gt (hs.pos a ha).1)
  · exact hs.inj a ha b hb h

/-- what a client sees of a model event: the logical part carries the allocator's suffix -/
def toObs (bits : Nat) (sfx : Nat → Nat) (e : Ev) : C05.Ev :=
  ⟨e.alloc, e.ts.1, differentiate e.ts.2 bits (sfx e.alloc), e.start, e.finish⟩

theorem C05_holds_from {st : St} (h : Inv st) {sfx : Nat → Nat} (hs : SuffixTable st sfx) :
    C05.Holds (st.events.map (toObs st.bits sfx)) := by
  have hlt : ∀ e ∈ st.events, sfx e.alloc < 2 ^ st.bits := fun e he =>
    (h.ev e he).known.elim (fun h0 => by rw [h0, hs.glob0]; exact Nat.two_pow_pos _) fun hd => (hs.pos _ hd).2
  refine ⟨List.forall_mem_map.2 fun x hx => List.forall_mem_map.2 fun y hy hne hxy => ?_,
    List.forall_mem_map.2 fun g hg hg0 => List.forall_mem_map.2 fun l hl hl0 hfin => ?_,
    List.forall_mem_map.2 fun g hg hg0 => List.forall_mem_map.2 fun l hl hl0 hfin => ?_,
    List.forall_mem_map.2 fun g hg hg0 => List.forall_mem_map.2 fun g' hg' hg0' hfin => ?_⟩
  · exact hne (hs.alloc_eq (h.ev x hx).known (h.ev y hy).known
      (differentiate_injective _ _ _ _ _ (hlt x hx) (hlt y hy) hxy.2).2)
  · exact differentiate_lt _ _ _ _ _ ((h.before hl hg hfin).glob hg0 (Or.inr hfin)) (hlt l hl)
  · exact differentiate_lt _ _ _ _ _ ((h.before hg hl hfin).loc hl0 hg0) (hlt g hg)
  · exact differentiate_lt _ _ _ _ _ ((h.before hg hg' hfin).glob hg0' (Or.inl hg0)) (hlt g hg)

/-- C05 (a)–(c).  For every history of the model from a start without log or request, read through any suffix table
    of the final set of dcs: timestamps of different allocators differ; a global timestamp is larger than every
    local one whose request completed before the global request began; every local timestamp requested after a
    global one was returned is larger than it; a global timestamp is larger than every global one returned before
    its request began. -/
theorem C05_holds (st0 : St) (hwf : WF st0) (he : st0.events = []) (hr : st0.req = none)
    (sfx : Nat → Nat) (ops : List Op) (hs : SuffixTable (run st0 ops) sfx) :
    C05.Holds ((run st0 ops).events.map (toObs st0.bits sfx)) :=
  run_static st0 ops ▸ C05_holds_from (inv_run st0 (inv_of_init st0 hwf he hr) ops) hs

theorem le_maxSfx_foldl (t : List (Nat × Nat)) (a : Nat) :
    a ≤ t.foldl (fun a p => max a p.2) a ∧ ∀ p ∈ t, p.2 ≤ t.foldl (fun a p => max a p.2) a := by
  induction t generalizing a with
  | nil => exact ⟨Nat.le_refl _, nofun⟩
  | cons x xs ih =>
    obtain ⟨h1, h2⟩ := ih (max a x.2)
    exact ⟨Nat.le_trans (Nat.le_max_left _ _) h1,
      List.forall_mem_cons.2 ⟨Nat.le_trans (Nat.le_max_right _ _) h1, h2⟩⟩

theorem le_maxSfx (t : List (Nat × Nat)) : ∀ p ∈ t, p.2 ≤ maxSfx t :=
  (le_maxSfx_foldl t 0).2

structure SfxInv (s : SfxSt) : Prop where
  grd  : s.guarded = true
  keys : (s.table.map (·.1)).Nodup
  vals : (s.table.map (·.2)).Nodup
  pos  : ∀ p ∈ s.table, 1 ≤ p.2
  lp   : ∀ dc v, s.pend s.leader = some (dc, v) → 1 ≤ v ∧ ∀ p ∈ s.table, p.2 < v

theorem find_none_not_mem (t : List (Nat × Nat)) (dc : Nat)
    (h : (t.find? (·.1 = dc)).isNone = true) : dc ∉ t.map (·.1) := by
  intro hm
  obtain ⟨p, hp, hpe⟩ := List.mem_map.1 hm
  rw [Option.isNone_iff_eq_none, List.find?_eq_none] at h
  exact h p hp (decide_eq_true hpe)

theorem sfxInv_step (s : SfxSt) (h : SfxInv s) (op : SfxOp) : SfxInv (sfxStep s op) := by
  cases op with
  | lead m => exact { h with lp := fun dc v hp => nomatch (if_pos rfl).symm.trans hp }
  | read m dc =>
    refine ite_ind (P := SfxInv) (fun _ => h) fun _ => { h with lp := fun dc' v hp => ?_ }
    by_cases hm : s.leader = m
    · obtain ⟨_, rfl⟩ := Prod.mk.inj (Option.some.inj ((if_pos hm).symm.trans hp))
      exact ⟨Nat.succ_pos _, fun p hpm => Nat.lt_succ_of_le (le_maxSfx s.table p hpm)⟩
    · exact h.lp dc' v ((if_neg hm).symm.trans hp)
  | commit m =>
    rw [sfxStep]
    split
    · exact h
    · next dc v hpend =>
      refine ite_ind (P := SfxInv) (fun hc => ?_) fun _ => { h with lp := fun dc' v' hp => ?_ }
      · -- a guarded commit is the leader's own: its value was chosen above the whole table
        have hlm := hc.1 h.grd
        obtain ⟨hv1, hvlt⟩ := h.lp dc v (hlm ▸ hpend)
        exact { h with
          keys := List.nodup_cons.2 ⟨find_none_not_mem s.table dc hc.2, h.keys⟩
          vals := List.nodup_cons.2 ⟨fun hm =>
            have ⟨p, hp, hpe⟩ := List.mem_map.1 hm
            Nat.lt_irrefl v ((show p.2 = v from hpe) ▸ hvlt p hp), h.vals⟩
          pos := List.forall_mem_cons.2 ⟨hv1, h.pos⟩
          lp := fun dc' v' hp => nomatch (if_pos hlm).symm.trans hp }
      · by_cases hm : s.leader = m
        · exact nomatch (if_pos hm).symm.trans hp
        · exact h.lp dc' v' ((if_neg hm).symm.trans hp)

theorem sfxInv_run (s : SfxSt) (h : SfxInv s) (ops : List SfxOp) : SfxInv (sfxRun s ops) :=
  foldl_inv SfxInv _ ops s h fun t op _ ht => sfxInv_step t ht op

/-- (d), assignment: a dc has at most one suffix, no two dcs share one and every suffix is at least 1 – for every
    history of leader changes, reads and (leader-guarded) create transactions of any number of members -/
theorem suffix_stable_unique (ops : List SfxOp) :
    let s := sfxRun { guarded := true } ops
    (s.table.map (·.1)).Nodup ∧ (s.table.map (·.2)).Nodup ∧ ∀ p ∈ s.table, 1 ≤ p.2 :=
  have h := sfxInv_run { guarded := true } ⟨rfl, .nil, .nil, nofun, nofun⟩ ops
  ⟨h.keys, h.vals, h.pos⟩

/-- the table only grows at the front: an assigned suffix is never changed -/
theorem suffix_never_changes (s : SfxSt) (op : SfxOp) : ∃ l, (sfxStep s op).table = l ++ s.table := by
  cases op with
  | lead m => exact ⟨[], rfl⟩
  | read m dc => exact ite_ind (P := fun s' : SfxSt => ∃ l, s'.table = l ++ s.table) (fun _ => ⟨[], rfl⟩) fun _ => ⟨[], rfl⟩
  | commit m =>
    rw [sfxStep]
    split
    · exact ⟨[], rfl⟩
    · exact ite_ind (P := fun s' : SfxSt => ∃ l, s'.table = l ++ s.table) (fun _ => ⟨[_], rfl⟩) fun _ => ⟨[], rfl⟩

/-- without the leader comparison (pinned tree, F17): a deposed leader whose create transaction was
    prepared before the hand-over and the new leader both take `max + 1` for different dcs -/
theorem suffix_counterexample_unguarded :
    (sfxRun { guarded := false } [.lead 1, .read 1 7, .lead 2, .read 2 8, .commit 1, .commit 2]).table
      = [(8, 1), (7, 1)] := by decide

/-- with the comparison the deposed leader's transaction is refused -/
example : (sfxRun { guarded := true } [.lead 1, .read 1 7, .lead 2, .read 2 8, .commit 1, .commit 2, .read 2 7, .commit 2]).table
      = [(7, 2), (8, 1)] := by decide

/-- F11: two global requests whose synchronisations overlap (pinned tree: no sync mutex) both see the same
    larger local maximum and both return `max + count`.  `step` admits one request at a time, so the witness is
    the arithmetic of the two collections alone. -/
theorem global_duplicate_without_serialisation :
    let est1 : TS := (10, 1)
    let est2 : TS := (10, 2)      -- distinct: the estimates are generated under tsoMux
    let localMax : TS := (50, 7)
    bump 262144 1 (tsMax est1 localMax) 1 = bump 262144 1 (tsMax est2 localMax) 1 := by decide

/-- non-vacuity: a history with two dcs on two servers, local grants, a global request that finds a
    local allocator ahead (answer + write phase) and later local grants -/
def demoSt : St :=
  { dcs := [1, 2], servers := [10, 20], srvOf := fun d => if d = 1 then 10 else 20, maxLog := 262144,
    bits := 2, glob := (100, 0), loc := fun d => if d = 1 then (100, 5) else (300, 9) }

def demoOps : List Op :=
  [.localGrant 1 3, .localGrant 2 1, .gStart 2 1, .localGrant 1 1, .gCheck 10, .gCheck 20, .gCollect,
   .gWrite 20, .localGrant 2 4, .gWrite 10, .gPersist, .gReturn, .localGrant 1 1, .localGrant 2 1]

example : ((run demoSt demoOps).events.map (fun e => (e.alloc, e.ts))).reverse
    = [(1, (100, 8)), (2, (300, 10)), (1, (100, 9)), (2, (300, 16)), (0, (300, 12)), (1, (300, 13)), (2, (300, 17))] := by
  decide

/-- non-vacuity of the join: after the demo history a third datacenter joins on server 10; its first local
    timestamp is above the global one returned before, and the join is refused while a request is in flight -/
example : ((run demoSt (demoOps ++ [.dcJoin 3 10, .localGrant 3 1])).events.head?.map (fun e => (e.alloc, e.ts)))
    = some (3, (300, 18)) := by decide

example : (run demoSt [.gStart 1 0, .dcJoin 3 10]).dcs = [1, 2] := by decide

/-- structure obligations re-checked against the facts regenerated from the Go source: global requests
    that synchronise take the sync mutex before estimating (F11), the suffix creation is a leader-guarded
    transaction (F17), and SyncMaxTS runs its collection loop twice (what `gRepeat` models) -/
theorem tsoglobal_structure_facts :
    PdModel.Generated.TsoGlobal.globalSyncSerialised = true ∧
    PdModel.Generated.TsoGlobal.suffixCreateLeaderGuarded = true ∧
    PdModel.Generated.TsoGlobal.suffixCreateUnguardedTxn = false ∧
    -- the width is derived from the largest suffix seen, the returned logical is `raw << bits + suffix`,
    -- generateTSO returns the differentiated value and getTS checks the overflow on what generateTSO returned
    PdModel.Generated.TsoGlobal.suffixBitsFromMaxSuffix = true ∧
    PdModel.Generated.TsoGlobal.differentiateShape = true ∧
    PdModel.Generated.TsoGlobal.generateDifferentiates = true ∧
    PdModel.Generated.TsoGlobal.overflowCheckedOnDifferentiated = true ∧
    -- the unsynchronised path is taken only when no dc-location exists; `skipCheck` is declared inside the retry loop
    PdModel.Generated.TsoGlobal.plainPathOnlyWithoutDCs = true ∧
    PdModel.Generated.TsoGlobal.skipCheckFreshPerAttempt = true ∧
    PdModel.Generated.TsoGlobal.syncMaxRetryCount = 2 := by decide

end PdModel.TsoGlobal
