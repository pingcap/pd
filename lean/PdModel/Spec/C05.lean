/-
C05 – "Local and global timestamps are mutually consistent", over what clients observe:
granted timestamps (physical ms, logical as returned, i.e. already carrying the suffix), the allocator
that granted them (0 = global, d ≥ 1 = dc d), request start/finish on one real-time axis, and the
suffix table in use.
-/
namespace PdModel.Spec.C05

structure Ev where
  alloc   : Nat
  ms      : Nat
  logical : Nat
  start   : Nat
  finish  : Nat
  deriving Repr, DecidableEq

def valLt (a b : Ev) : Prop := a.ms < b.ms ∨ (a.ms = b.ms ∧ a.logical < b.logical)

instance (a b : Ev) : Decidable (valLt a b) := by unfold valLt; infer_instance

/-- (a) timestamps of different allocators differ, and a global timestamp exceeds every global one returned
        before its request began;
    (b) a global timestamp exceeds every local one whose request completed before it began;
    (c) every local timestamp requested after a global one was returned exceeds it. -/
def Holds (evs : List Ev) : Prop :=
  (∀ a ∈ evs, ∀ b ∈ evs, a.alloc ≠ b.alloc → ¬ (a.ms = b.ms ∧ a.logical = b.logical)) ∧
  (∀ g ∈ evs, g.alloc = 0 → ∀ l ∈ evs, l.alloc ≠ 0 → l.finish < g.start → valLt l g) ∧
  (∀ g ∈ evs, g.alloc = 0 → ∀ l ∈ evs, l.alloc ≠ 0 → g.finish < l.start → valLt g l) ∧
  (∀ g ∈ evs, g.alloc = 0 → ∀ g' ∈ evs, g'.alloc = 0 → g.finish < g'.start → valLt g g')

def check (evs : List Ev) : Bool :=
  evs.all (fun a => evs.all (fun b => decide (a.alloc ≠ b.alloc → ¬ (a.ms = b.ms ∧ a.logical = b.logical)))) &&
  evs.all (fun g => decide (g.alloc = 0 → ∀ l ∈ evs, l.alloc ≠ 0 → l.finish < g.start → valLt l g)) &&
  evs.all (fun g => decide (g.alloc = 0 → ∀ l ∈ evs, l.alloc ≠ 0 → g.finish < l.start → valLt g l)) &&
  evs.all (fun g => decide (g.alloc = 0 → ∀ g' ∈ evs, g'.alloc = 0 → g.finish < g'.start → valLt g g'))

theorem check_iff (evs : List Ev) : check evs = true ↔ Holds evs := by
  unfold check Holds
  simp only [Bool.and_eq_true, List.all_eq_true, decide_eq_true_eq, and_assoc]

/-- (d) the suffix table: every dc keeps one suffix ≥ 1, no two dcs share one, and the width fits -/
def SuffixOk (bits : Nat) (table : List (Nat × Nat)) : Prop :=
  (table.map (·.1)).Nodup ∧ (table.map (·.2)).Nodup ∧ ∀ p ∈ table, 1 ≤ p.2 ∧ p.2 < 2 ^ bits

instance (bits : Nat) (table : List (Nat × Nat)) : Decidable (SuffixOk bits table) := by
  unfold SuffixOk; infer_instance

/-- a returned logical value carries its allocator's suffix in its low `bits` bits -/
def carriesSuffix (bits : Nat) (table : List (Nat × Nat)) (e : Ev) : Prop :=
  e.logical % 2 ^ bits = (if e.alloc = 0 then 0 else ((table.find? (·.1 = e.alloc)).map (·.2)).getD 0)

instance (bits : Nat) (table : List (Nat × Nat)) (e : Ev) : Decidable (carriesSuffix bits table e) := by
  unfold carriesSuffix; infer_instance

end PdModel.Spec.C05
