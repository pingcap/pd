/-
C20 – "A cluster is bootstrapped exactly once and keeps one identity", stated over what clients and an
observer of the stored records can see.  No implementation identifiers.

Events, in real-time order:
  `req r p`        bootstrap request `r` is issued with payload `p`
  `resp r k`       request `r` is answered: accepted, refused, or failed with an error that leaves the
                   outcome unknown (storage error)
  `recs x`         the stored bootstrap records are observed to be `x`
-/
namespace PdModel.Spec.C20

/-- what a bootstrap request carries -/
structure Info where
  store     : Option Nat          -- id of the first store, none = no store given
  region    : Option Nat          -- id of the first region
  keysEmpty : Bool                -- the region covers the whole key space
  peers     : List (Nat × Nat)    -- (peer id, store id)
  foreign   : Bool                -- the request names another cluster id
  deriving Repr, DecidableEq

/-- a well-formed payload: a store and a region with non-zero ids, the whole key range, exactly one
    peer, with a non-zero id, on that store -/
def Info.wellFormed (p : Info) : Bool :=
  match p.store, p.region, p.peers with
  | some s, some g, [(pid, ps)] => s != 0 && g != 0 && p.keysEmpty && pid != 0 && ps == s
  | _, _, _ => false

theorem Info.wellFormed_iff {i : Info} : i.wellFormed = true ↔
    ∃ s g pid, i.store = some s ∧ i.region = some g ∧ i.peers = [(pid, s)] ∧
      s ≠ 0 ∧ g ≠ 0 ∧ i.keysEmpty = true ∧ pid ≠ 0 := by
  unfold Info.wellFormed
  split
  · next s g pid ps h1 h2 h3 =>
    simp only [h1, h2, h3, Bool.and_eq_true, bne_iff_ne, beq_iff_eq, Option.some.injEq, List.cons.injEq,
      Prod.mk.injEq, and_true]
    constructor
    · rintro ⟨⟨⟨⟨a, b⟩, c⟩, d⟩, e⟩
      exact ⟨s, g, pid, rfl, rfl, ⟨rfl, e⟩, a, b, c, d⟩
    · rintro ⟨_, _, _, rfl, rfl, ⟨rfl, e⟩, a, b, c, d⟩
      exact ⟨⟨⟨⟨a, b⟩, c⟩, d⟩, e⟩
  · next h =>
    refine ⟨nofun, ?_⟩
    rintro ⟨s, g, pid, h1, h2, h3, _⟩
    exact (h s g pid s h1 h2 h3).elim

inductive Kind where
  | accepted | refused | unknown
  deriving Repr, DecidableEq

structure Recs where
  cluster : Option Nat := none    -- cluster id in the stored cluster meta
  stores  : List Nat := []
  regions : List Nat := []
  time    : Bool := false         -- bootstrap time recorded
  deriving Repr, DecidableEq

inductive Ev where
  | req (r : Nat) (p : Info)
  | resp (r : Nat) (k : Kind)
  | recs (x : Recs)
  deriving Repr, DecidableEq

def getEv (evs : List Ev) (i : Nat) : Ev := evs.getD i (.recs {})

def isAccepted : Ev → Bool | .resp _ .accepted => true | _ => false

/-- `e` issues the request that `a` answers, with a well-formed payload for this cluster -/
def issuesGood (e a : Ev) : Bool :=
  match e, a with
  | .req r p, .resp r' _ => r == r' && p.wellFormed && !p.foreign
  | _, _ => false

def isGoodReq : Ev → Bool | .req _ p => p.wellFormed && !p.foreign | _ => false

/-- `o` is not an observation, or shows exactly the records of request `e` for cluster `cid` -/
def recordsOf (cid : Nat) (o e : Ev) : Bool :=
  match o, e with
  | .recs x, .req _ p => x == { cluster := some cid, stores := p.store.toList, regions := p.region.toList, time := true }
  | .recs _, _ => false
  | _, _ => true

def isComplete : Ev → Bool | .recs x => x != {} | _ => false

/-- `o` is not an observation, or is one equal to the observation `c` -/
def sameRecs (c o : Ev) : Bool :=
  match o with
  | .recs _ => o == c
  | _ => true

/-- `a` refuses the request issued by `e` -/
def refuses (a e : Ev) : Bool :=
  match a, e with
  | .resp r .refused, .req r' _ => r == r'
  | _, _ => false

/-- at most one request is accepted -/
def AtMostOneAccepted (evs : List Ev) : Prop :=
  ∀ i, i < evs.length → ∀ j, j < evs.length →
    isAccepted (getEv evs i) = true → isAccepted (getEv evs j) = true → i = j

/-- an accepted request was well-formed and for this cluster, and from its acceptance on the stored meta,
    store and region are exactly its own -/
def AcceptedIsSource (cid : Nat) (evs : List Ev) : Prop :=
  ∀ k, k < evs.length → isAccepted (getEv evs k) = true →
    ∃ j, j < k ∧ issuesGood (getEv evs j) (getEv evs k) = true ∧
      ∀ l, l < evs.length → k < l → recordsOf cid (getEv evs l) (getEv evs j) = true

/-- once there are records they never change -/
def RecordsStable (evs : List Ev) : Prop :=
  ∀ i, i < evs.length → ∀ j, j < evs.length → i < j →
    isComplete (getEv evs i) = true → sameRecs (getEv evs i) (getEv evs j) = true

/-- records are all-or-nothing and come from ONE well-formed request that is never refused (so a refused
    request has changed nothing) -/
def RecordsFromOneRequest (cid : Nat) (evs : List Ev) : Prop :=
  ∀ j, j < evs.length → isComplete (getEv evs j) = true →
    ∃ i, i < j ∧ isGoodReq (getEv evs i) = true ∧ recordsOf cid (getEv evs j) (getEv evs i) = true ∧
      ∀ l, l < evs.length → refuses (getEv evs l) (getEv evs i) = false

instance (evs : List Ev) : Decidable (AtMostOneAccepted evs) := by unfold AtMostOneAccepted; infer_instance
instance (cid : Nat) (evs : List Ev) : Decidable (AcceptedIsSource cid evs) := by
  unfold AcceptedIsSource; infer_instance
instance (evs : List Ev) : Decidable (RecordsStable evs) := by unfold RecordsStable; infer_instance
instance (cid : Nat) (evs : List Ev) : Decidable (RecordsFromOneRequest cid evs) := by
  unfold RecordsFromOneRequest; infer_instance

/-- the property for cluster id `cid` -/
def Holds (cid : Nat) (evs : List Ev) : Prop :=
  AtMostOneAccepted evs ∧ AcceptedIsSource cid evs ∧ RecordsStable evs ∧ RecordsFromOneRequest cid evs

instance (cid : Nat) (evs : List Ev) : Decidable (Holds cid evs) := by unfold Holds; infer_instance

/-- executable checker -/
def check (cid : Nat) (evs : List Ev) : Bool := decide (Holds cid evs)

theorem check_iff (cid : Nat) (evs : List Ev) : check cid evs = true ↔ Holds cid evs := by
  simp [check]

/-! ### cluster id -/

/-- all members that initialise the cluster id are given one and the same value -/
def IdAgree (given : List Nat) : Prop := ∀ a ∈ given, ∀ b ∈ given, a = b

def idCheck (given : List Nat) : Bool := given.all fun a => given.all fun b => a == b

theorem idCheck_iff (given : List Nat) : idCheck given = true ↔ IdAgree given := by
  simp [idCheck, IdAgree, List.all_eq_true]

end PdModel.Spec.C20
