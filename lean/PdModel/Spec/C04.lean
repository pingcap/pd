import PdModel.Prelude.ListFacts
/-
C04 – "Allocated ids are unique forever", stated over what a client can observe:
the list of successful allocations (oldest first), each with the allocator instance that
returned it, the id, and the durably stored window bound at the moment of the return.
No implementation identifiers.
-/
namespace PdModel.Spec.C04

structure Ev where
  inst  : Nat
  id    : Nat
  bound : Nat
  deriving Repr, DecidableEq

def Holds (evs : List Ev) : Prop :=
  (evs.map (·.id)).Nodup ∧
  (∀ i : Nat, ((evs.filter (·.inst = i)).map (·.id)).Pairwise (· < ·)) ∧
  (∀ e ∈ evs, e.id ≤ e.bound)

def instsOf (evs : List Ev) : List Nat := (evs.map (·.inst)).eraseDups

instance (l : List Nat) : Decidable (l.Pairwise (· < ·)) := inferInstance

/-- executable checker; the monitor on implementation traces runs its incremental form `checkNext` -/
def check (evs : List Ev) : Bool :=
  decide ((evs.map (·.id)).Nodup) &&
  (evs.map (·.inst)).all (fun i => decide (((evs.filter (·.inst = i)).map (·.id)).Pairwise (· < ·))) &&
  evs.all (fun e => decide (e.id ≤ e.bound))

theorem check_iff (evs : List Ev) : check evs = true ↔ Holds evs := by
  unfold check Holds
  simp only [Bool.and_eq_true, decide_eq_true_eq, List.all_eq_true, List.forall_mem_map, and_assoc]
  -- an instance that returned nothing has no ids to order
  refine and_congr_right fun _ => and_congr_left fun _ => Iff.symm (forall_iff_forall_mem fun i hi => ?_)
  rw [List.filter_eq_nil_iff.2 fun e he h => hi e he (of_decide_eq_true h)]
  exact List.Pairwise.nil

/-- incremental form used by the monitor: the new event against the ones already accepted -/
def checkNext (evs : List Ev) (e : Ev) : Bool :=
  evs.all (fun x => x.id != e.id && (x.inst != e.inst || decide (x.id < e.id))) && decide (e.id ≤ e.bound)

theorem holds_snoc (evs : List Ev) (e : Ev) :
    Holds (evs ++ [e]) ↔ Holds evs ∧ checkNext evs e = true := by
  unfold Holds checkNext
  -- `Nodup` and the per-instance order become `Pairwise` over `evs` itself, the part for `evs ++ [e]` splits
  -- into the one for `evs` and "every `x ∈ evs` against `e`"; what is left is reassociation
  simp only [List.Nodup, List.pairwise_map, List.pairwise_filter, List.pairwise_append, List.mem_append,
    List.mem_singleton, Bool.and_eq_true, List.all_eq_true, bne_iff_ne, ne_eq, or_eq_true_imp, bne_eq_false_iff_eq,
    decide_eq_true_eq, List.pairwise_cons, List.Pairwise.nil, List.not_mem_nil, forall_eq, implies_true,
    true_and, and_true, false_imp_iff, forall_and, or_imp]
  constructor
  · rintro ⟨⟨a, b⟩, ⟨c, d⟩, f, g⟩
    exact ⟨⟨a, c, f⟩, ⟨b, fun x hx hi => d _ x hx hi rfl⟩, g⟩
  · rintro ⟨⟨a, c, f⟩, ⟨b, d⟩, g⟩
    exact ⟨⟨a, b⟩, ⟨c, fun _ x hx hi he => d x hx (hi.trans he.symm)⟩, f, g⟩

end PdModel.Spec.C04
