import PdModel.Model.RegionCache
import PdModel.Model.TikvSim
import PdModel.Spec.C06
import PdModel.Lemmas.RegionCache
import PdModel.Lemmas.TikvSim
import PdModel.Generated.RegionCache
set_option linter.unusedVariables false
/-!
C06 – property theorems about the heartbeat path (`Model/RegionCache.lean`) over the RegionsInfo model.
`abs c.ri` is the list of regions PD serves.  Heartbeats are well-formed regions (`Spec.C07.WF`: a real key
range, one peer per store, pending peers on peer stores) – see docs/C06.md for what a heartbeat with an
inverted range does to the real code.
-/
namespace PdModel.RegionCache
open PdModel.RegionTree PdModel.Spec
open PdModel.Spec.C07 (WF Overlap)

def run (c : Cluster) (hbs : List Region) : Cluster := hbs.foldl (fun c r => (heartbeat c r).1) c

theorem notBehind_refl (o : Region) : C06.NotBehind o o := ⟨Nat.le_refl _, Nat.le_refl _, fun _ => Nat.le_refl _⟩

/-- **per id, what is served does not go back** while the id stays cached: version, conf-version, and the
    term when the newer heartbeat reports one -/
theorem per_id_monotone (c : Cluster) (r : Region) (h : Inv c.ri) (hr : WF r) (id : Nat) (o n : Region)
    (ho : getRegionC c id = some o) (hn : getRegionC (heartbeat c r).1 id = some n) : C06.NotBehind o n := by
  obtain ⟨ho1, ho2⟩ := (getRegionC_some h).1 ho
  obtain ⟨hn1, hn2⟩ := (getRegionC_some (heartbeat_inv h hr)).1 hn
  have e := ho2.trans hn2.symm
  rcases served_from h hr hn1 with hm | ⟨rfl, hnm⟩
  · rw [abs_id_unique h ho1 hm e]; exact notBehind_refl _
  · exact Decidable.of_not_not fun hb => hnm (Or.inl ⟨o, ho1, e, hb⟩)

/-- **per key, the served version never decreases while the key stays covered** – for arbitrary heartbeat
    streams (this is what the overlap check of PreCheckPutRegion buys; a regression needs a hole, see F18) -/
theorem per_key_version_monotone (c : Cluster) (r : Region) (h : Inv c.ri) (hr : WF r) (k : Key) (y y' : Region)
    (hy : getRegionByKey c k = some y) (hy' : getRegionByKey (heartbeat c r).1 k = some y') :
    y.version ≤ y'.version := by
  obtain ⟨hy1, hy2⟩ := getRegionByKey_some h hy
  obtain ⟨hy1', hy2'⟩ := getRegionByKey_some (heartbeat_inv h hr) hy'
  rcases served_from h hr hy1' with hm | ⟨rfl, hnm⟩
  · -- among the regions served before, only `y` covers `k`
    rw [Decidable.of_not_not fun e => abs_no_overlap h hm hy1 e (contains_overlap hy2' hy2)]
    exact Nat.le_refl _
  · exact Nat.le_of_not_lt fun hlt => hnm (Or.inr ⟨y, hy1, contains_overlap hy2 hy2', hlt⟩)

theorem rejected_unchanged {c : Cluster} {r : Region} (h : Inv c.ri)
    (hm : C06.MustReject (abs c.ri) r) : (heartbeat c r).2 = .stale ∧ (heartbeat c r).1 = c :=
  have ⟨hiff, hsame⟩ := heartbeat_verdict h r
  ⟨hiff.2 hm, hsame (hiff.2 hm)⟩

/-- **a stale heartbeat is answered with an error and changes nothing** (cache and storage) -/
theorem stale_rejected_unchanged (c : Cluster) (r : Region) (h : Inv c.ri) (hr : WF r) (o : Region)
    (ho : getRegionC c r.id = some o) (hstale : ¬ C06.NotBehind o r) :
    (heartbeat c r).2 = .stale ∧ (heartbeat c r).1 = c := by
  obtain ⟨ho1, ho2⟩ := (getRegionC_some h).1 ho
  exact rejected_unchanged h (Or.inl ⟨o, ho1, ho2, hstale⟩)

/-- **a heartbeat older in version than a cached region it overlaps is answered with an error and changes
    nothing** -/
theorem older_than_overlap_rejected_unchanged (c : Cluster) (r : Region) (h : Inv c.ri) (hr : WF r) (y : Region)
    (hy : y ∈ abs c.ri) (hov : Overlap y r) (hver : r.version < y.version) :
    (heartbeat c r).2 = .stale ∧ (heartbeat c r).1 = c :=
  rejected_unchanged h (Or.inr ⟨y, hy, hov, hver⟩)

/-- an error is only ever given for one of these two reasons, and it never changes anything -/
theorem error_iff_must_reject (c : Cluster) (r : Region) (h : Inv c.ri) (hr : WF r) :
    ((heartbeat c r).2 = .stale ↔ C06.MustReject (abs c.ri) r) ∧
    ((heartbeat c r).2 = .stale → (heartbeat c r).1 = c) :=
  heartbeat_verdict h r

/-- the served set after a heartbeat is the old one, or the old one with the region put -/
theorem served_after (c : Cluster) (r : Region) (h : Inv c.ri) (hr : WF r) :
    abs (heartbeat c r).1.ri = abs c.ri ∨ abs (heartbeat c r).1.ri = C07.put (abs c.ri) r := by
  rcases heartbeat_effect h hr with e | ⟨_, _, e, _⟩
  · rw [e]; exact Or.inl rfl
  · exact Or.inr e

/-- **displaced regions disappear from the cache at once**: when a heartbeat is put, nothing that intersects
    it (other than an older version of itself, which is replaced) is served any more -/
theorem displaced_removed_cache (c : Cluster) (r : Region) (h : Inv c.ri) (hr : WF r)
    (hput : abs (heartbeat c r).1.ri = C07.put (abs c.ri) r) :
    r ∈ abs (heartbeat c r).1.ri ∧
    (∀ y ∈ abs (heartbeat c r).1.ri, y ≠ r → ¬ Overlap y r) ∧
    (∀ y ∈ C07.displaced (abs c.ri) r, y ∉ abs (heartbeat c r).1.ri) := by
  rw [hput]; exact put_displaces _ r

/-- **… and from storage as well, when heartbeats are handled one at a time** -/
theorem displaced_removed_storage (c : Cluster) (r : Region) (h : Inv c.ri) (hr : WF r)
    (hne : (heartbeat c r).1 ≠ c) (y : Region) (hy : y ∈ C07.displaced (abs c.ri) r) :
    loadRegion (heartbeat c r).1 y.id = none := by
  rcases heartbeat_effect h hr with e | ⟨_, _, _, hst⟩
  · exact absurd e hne
  · rw [loadRegion, ← lookup_eq_mapGet]
    exact hst.1 y hy

def specVerdict : Verdict → C06.Verdict
  | .ok => .ok
  | .stale => .stale

/-- **the step predicate of the specification (`Spec.C06.StepOk`, what the monitor evaluates on the
    implementation's reports) holds for every heartbeat the model handles – partial**: all conjuncts are
    proved, except that for an id that is *not served at the moment* and comes back, "not behind its last
    served version" is assumed (`hex`).  That case is finding F18. -/
theorem step_ok_partial (c : Cluster) (r : Region) (h : Inv c.ri) (hr : WF r) (H : C06.History)
    (hH : ∀ y ∈ abs c.ri, C06.lastServed H y.id = some y)
    (hex : ∀ y ∈ abs (heartbeat c r).1.ri, (∀ z ∈ abs c.ri, z.id ≠ y.id) →
      C06.NotBehindOpt (C06.lastServed H y.id) y) :
    C06.StepOk H (abs c.ri) c.storage r (specVerdict (heartbeat c r).2)
      (abs (heartbeat c r).1.ri) (heartbeat c r).1.storage := by
  obtain ⟨hiff, hsame⟩ := error_iff_must_reject c r h hr
  have hstale : specVerdict (heartbeat c r).2 = .stale ↔ (heartbeat c r).2 = .stale := by
    cases (heartbeat c r).2 <;> simp [specVerdict]
  refine ⟨no_overlap_of_inv (heartbeat_inv h hr), fun y hy => ?_, fun hm => hstale.2 (hiff.2 hm),
    fun hv => by rw [hsame (hstale.1 hv)]; exact ⟨rfl, rfl⟩, fun _ => ?_⟩
  · by_cases hz : ∃ z ∈ abs c.ri, z.id = y.id
    · obtain ⟨z, hz1, hz2⟩ := hz
      rw [← hz2, hH z hz1]
      exact per_id_monotone c r h hr z.id z y ((getRegionC_some h).2 ⟨hz1, rfl⟩)
        ((getRegionC_some (heartbeat_inv h hr)).2 ⟨hy, hz2.symm⟩)
    · exact hex y hy (fun z hz1 hz2 => hz ⟨z, hz1, hz2⟩)
  · rcases heartbeat_effect h hr with e | ⟨_, _, e, hst⟩
    · rw [e]; exact Or.inl ⟨rfl, storedOk_same _ _⟩
    · exact Or.inr ⟨e, hst⟩

theorem run_spec (hbs : List Region) (hwf : ∀ r ∈ hbs, WF r) (c : Cluster) (h : Inv c.ri) :
    Inv (run c hbs).ri ∧ ∀ y ∈ abs (run c hbs).ri, y ∈ abs c.ri ∨ y ∈ hbs := by
  induction hbs generalizing c with
  | nil => exact ⟨h, fun y hy => Or.inl hy⟩
  | cons r hbs ih =>
    have hr := hwf r List.mem_cons_self
    obtain ⟨hinv, hsub⟩ := ih (fun r' hr' => hwf r' (List.mem_cons_of_mem _ hr')) _ (heartbeat_inv h hr)
    refine ⟨hinv, fun y hy => (hsub y hy).elim (fun h1 => ?_) (fun h1 => Or.inr (List.mem_cons_of_mem _ h1))⟩
    exact (served_from h hr h1).imp_right fun h2 => List.mem_cons.2 (Or.inl h2.1)

/-- **no two served regions overlap**, after any sequence of heartbeats (it is an invariant of SetRegion:
    it does not depend on the pre-check) -/
theorem no_overlap_inv (hbs : List Region) (hwf : ∀ r ∈ hbs, WF r) :
    C06.NoOverlap (abs (run {} hbs).ri) :=
  no_overlap_of_inv (run_spec hbs hwf {} inv_init).1

theorem run_append (c : Cluster) (l1 l2 : List Region) : run c (l1 ++ l2) = run (run c l1) l2 :=
  List.foldl_append

/-- what is served after the heartbeats `l` was served before or is one of `l` (`run_spec`), so from any state it is
    enough that none of `l` is behind what is served for its id now -/
theorem never_regresses_from (l : List Region) (hwf : ∀ r ∈ l, WF r) (c : Cluster) (h : Inv c.ri)
    (hord : ∀ a ∈ abs c.ri, ∀ b ∈ l, a.id = b.id → C06.NotBehind a b) {id : Nat} {o n : Region}
    (ho : getRegionC c id = some o) (hn : getRegionC (run c l) id = some n) : C06.NotBehind o n := by
  obtain ⟨hinv, hsub⟩ := run_spec l hwf c h
  obtain ⟨ho1, ho2⟩ := (getRegionC_some h).1 ho
  obtain ⟨hn1, hn2⟩ := (getRegionC_some hinv).1 hn
  have e := ho2.trans hn2.symm
  rcases hsub n hn1 with h' | h'
  · rw [abs_id_unique h ho1 h' e]; exact notBehind_refl _
  · exact hord o ho1 n h' e

/-- in a legitimate history the epoch of one region id only grows (split/merge: version+1, conf change:
    conf-version+1, leader change: term+1), so if the heartbeats of each region id are delivered in the order in which they were produced – arbitrary interleaving between
    different ids, duplicates, arbitrary delays that do not reorder one id (this is the hypothesis `hord`) –
    the epoch PD serves for an id never goes back, even across a displacement of that id.
    Without `hord` the statement is false on the pinned code: `legit_history_regress_counterexample`. -/
theorem legit_history_never_regresses_partial (l1 l2 : List Region) (hwf : ∀ r ∈ l1 ++ l2, WF r)
    (hord : ∀ a ∈ l1, ∀ b ∈ l2, a.id = b.id → C06.NotBehind a b)
    (id : Nat) (o n : Region)
    (ho : getRegionC (run {} l1) id = some o) (hn : getRegionC (run {} (l1 ++ l2)) id = some n) :
    C06.NotBehind o n := by
  -- what is served after `l1` is one of `l1`
  obtain ⟨hinv1, hsub1⟩ := run_spec l1 (fun r hr => hwf r (List.mem_append_left _ hr)) {} inv_init
  rw [run_append] at hn
  exact never_regresses_from l2 (fun r hr => hwf r (List.mem_append_right _ hr)) _ hinv1
    (fun a ha => hord a ((hsub1 a ha).elim (nomatch ·) (·))) ho hn

/-- the same, with the hypothesis discharged for the TiKV simulator: take any legitimate history (`TikvSim`,
    ids unique and below the allocator's counter at the start) and deliver, for every region id, that id's
    heartbeats in the order in which they were produced (`TikvSim.Delivered` of the id's sub-stream; the streams
    of different ids may be interleaved arbitrarily, heartbeats may be repeated and delayed).  Then what PD
    serves for an id never goes back. -/
theorem legit_inorder_never_regresses (sim : TikvSim.Sim) (es : List TikvSim.Ev) (hg : TikvSim.Good sim)
    (l1 l2 : List Region) (hwf : ∀ r ∈ l1 ++ l2, WF r)
    (hdel : ∀ id, TikvSim.Delivered sim es ((l1 ++ l2).filter (fun r => r.id = id)))
    (id : Nat) (o n : Region)
    (ho : getRegionC (run {} l1) id = some o) (hn : getRegionC (run {} (l1 ++ l2)) id = some n) :
    C06.NotBehind o n := by
  apply legit_history_never_regresses_partial l1 l2 hwf _ id o n ho hn
  intro a ha b hb e
  have hp := TikvSim.delivered_ordered (hdel a.id) hg
  rw [List.filter_append, List.pairwise_append] at hp
  exact (hp.2.2 a (List.mem_filter.2 ⟨ha, decide_eq_true rfl⟩) b (List.mem_filter.2 ⟨hb, decide_eq_true e.symm⟩)
    e).notBehind

/-! The pinned code does regress for legitimate histories whose heartbeats are reordered (finding F18).
    The witness: region 1 = [_,_) splits at 05 (2 = [05,_)); conf change on 1; 1 splits at 03 (3 = [03,05));
    3 is merged into 2 (2 = [03,_)); 2 splits at 05 (4 = [05,_)).  Delivered: 1 after the first split (h1),
    1 after the conf change (h2), 3, 2 after the merge, 4, and then h1 once more (a delayed duplicate). -/
namespace F18
open PdModel.TikvSim

def boot : Region :=
  { id := 1, startKey := [], endKey := [], version := 1, confVer := 1, term := 5, leader := 1, size := 20,
    peers := [⟨1, 1, false⟩, ⟨2, 2, false⟩, ⟨3, 3, false⟩] }

def events : List Ev :=
  [ .split 1 [5] [⟨4, 1, false⟩, ⟨5, 2, false⟩, ⟨6, 3, false⟩] 4 false,
    .confChange 1 [⟨1, 1, false⟩, ⟨2, 2, false⟩, ⟨3, 3, false⟩, ⟨7, 4, true⟩],
    .split 1 [3] [⟨8, 1, false⟩, ⟨9, 2, false⟩, ⟨10, 3, false⟩, ⟨11, 4, true⟩] 8 false,
    .merge 3 2,
    .split 2 [5] [⟨12, 1, false⟩, ⟨13, 2, false⟩, ⟨14, 3, false⟩] 12 false ]

def h1 : Region := { boot with endKey := [5], version := 2 }
def h2 : Region := { h1 with confVer := 2, peers := [⟨1, 1, false⟩, ⟨2, 2, false⟩, ⟨3, 3, false⟩, ⟨7, 4, true⟩] }
def h3 : Region :=
  { h2 with id := 3, startKey := [3], version := 3, term := 5, leader := 8,
            peers := [⟨8, 1, false⟩, ⟨9, 2, false⟩, ⟨10, 3, false⟩, ⟨11, 4, true⟩] }
def h4 : Region :=
  { boot with id := 2, startKey := [3], endKey := [], version := 4, leader := 4, size := 40,
              peers := [⟨4, 1, false⟩, ⟨5, 2, false⟩, ⟨6, 3, false⟩] }
def h5 : Region :=
  { h4 with id := 4, startKey := [5], version := 5, leader := 12,
            peers := [⟨12, 1, false⟩, ⟨13, 2, false⟩, ⟨14, 3, false⟩] }

def delivered : List Region := [h1, h2, h3, h4, h5, h1]

end F18

/-- **counterexample (F18)**: every delivered heartbeat is well-formed and is a state of some region in a
    legitimate history; region 1 is served with conf-version 2, then – displaced – not at all, and then with
    conf-version 1. -/
theorem legit_history_regress_counterexample :
    (∀ hb ∈ F18.delivered, WF hb ∧ TikvSim.Reportable ⟨[F18.boot], 2⟩ F18.events hb) ∧
    getRegionC (run {} (F18.delivered.take 2)) 1 = some F18.h2 ∧
    getRegionC (run {} (F18.delivered.take 5)) 1 = none ∧
    getRegionC (run {} F18.delivered) 1 = some F18.h1 ∧
    ¬ C06.NotBehind F18.h2 F18.h1 := by
  -- by the kernel alone: plain `decide` has the elaborator run the six heartbeats first as well
  decide +kernel

def runConc (s : Conc) (steps : List Step) : Conc := steps.foldl (fun s st => (stepConc s st).1) s

/-- the heartbeats in the order in which they take effect: a heartbeat that is answered without entering
    the locked section counts where its check ran, one that enters the locked section counts there -/
def linearize : Conc → List Step → List (Region × C06.Verdict)
  | _, [] => []
  | s, st :: rest =>
    let here : List (Region × C06.Verdict) :=
      match st with
      | .check i r =>
        (match (stepConc s st).2 with
          | .stale => [(r, .stale)]
          | .ok => [(r, .ok)]
          | _ => [])
      | .commit i =>
        (match s.streams[i]? with
          | some (.checked r f) =>
            (match (stepConc s st).2 with
              | .stale => [(r, .stale)]
              | .pending => [(r, .ok)]
              | _ => [])
          | _ => [])
      | .store _ => []
    here ++ linearize (stepConc s st).1 rest

/-- served sets along a list of heartbeats handled one at a time (`Spec.C06.SeqStep`) -/
inductive SeqChain : List Region → List (Region × C06.Verdict) → List Region → Prop
  | nil (S : List Region) : SeqChain S [] S
  | cons {S S1 S2 : List Region} {r : Region} {v : C06.Verdict} {rest : List (Region × C06.Verdict)} :
      C06.SeqStep S r v S1 → SeqChain S1 rest S2 → SeqChain S ((r, v) :: rest) S2

theorem SeqChain.append {S S1 S2 : List Region} {l1 l2 : List (Region × C06.Verdict)}
    (h1 : SeqChain S l1 S1) (h2 : SeqChain S1 l2 S2) : SeqChain S (l1 ++ l2) S2 := by
  induction h1 with
  | nil => exact h2
  | cons hs _ ih => exact SeqChain.cons hs (ih h2)

theorem linearize_cons (s : Conc) (st : Step) (rest : List Step) :
    linearize s (st :: rest) = linearize s [st] ++ linearize (stepConc s st).1 rest := by
  dsimp only [linearize]; rw [List.append_nil]

/-- what a stream holds: a well-formed heartbeat, and while it waits for the lock one with saveCache set
    (`saveKV` and `isNew` are never set without `saveCache`) -/
def PhaseOk : Phase → Prop
  | .idle => True
  | .checked r f => WF r ∧ f.saveCache = true
  | .committed r _ _ => WF r

def PhasesOk (s : Conc) : Prop := ∀ p ∈ s.streams, PhaseOk p

theorem phasesOk_set {s : Conc} {i : Nat} {p : Phase} (h : PhasesOk s) (hp : PhaseOk p) (c' : Cluster) :
    PhasesOk (setPhase { s with c := c' } i p) := by
  intro q hq
  rcases List.mem_or_eq_of_mem_set hq with hq | rfl
  · exact h q hq
  · exact hp

/-- for the served set one step of any interleaving is nothing or one `SeqStep`; a step that finds its stream
    in another phase than the one it continues answers `bad` and changes nothing -/
theorem stepConc_ok (s : Conc) (st : Step) (h : Inv s.c.ri) (hp : PhasesOk s)
    (hwf : ∀ i r, st = .check i r → WF r) :
    Inv (stepConc s st).1.c.ri ∧ PhasesOk (stepConc s st).1 ∧
    SeqChain (abs s.c.ri) (linearize s [st]) (abs (stepConc s st).1.c.ri) := by
  cases st with
  | check i r =>
    dsimp only [linearize, stepConc]
    split
    · rcases preCheck_cases s.c.ri r with hv | hv
      · rw [preCheck_eq hv]
        dsimp only
        split
        · exact ⟨h, hp, .cons (Or.inr ⟨rfl, preCheck_ok h hv, Or.inl rfl⟩) (.nil _)⟩
        · next hfl =>
          exact ⟨h, phasesOk_set (p := .checked r _) hp
            ⟨hwf i r rfl, flags_saveCache _ r (Bool.eq_false_iff.2 hfl)⟩ s.c, .nil _⟩
      · rw [preCheck_eq hv]
        exact ⟨h, hp, .cons (Or.inl ⟨rfl, rfl⟩) (.nil _)⟩
    · exact ⟨h, hp, .nil _⟩
  | commit i =>
    dsimp only [linearize, stepConc]
    split
    · next r f hi =>
      obtain ⟨hr, hsc⟩ := hp _ (List.mem_of_getElem? hi)
      rcases commit_spec h hr with ⟨e, _⟩ | ⟨c', e, hnm, hinv, habs, _⟩ <;> rw [if_pos hsc, hi, e]
      · exact ⟨h, phasesOk_set (p := .idle) hp trivial s.c, .cons (Or.inl ⟨rfl, rfl⟩) (.nil _)⟩
      · exact ⟨hinv, phasesOk_set (p := .committed r f _) hp hr _, .cons (Or.inr ⟨rfl, hnm, Or.inr habs⟩) (.nil _)⟩
    · refine ⟨h, hp, ?_⟩
      split <;> exact .nil _
  | store i =>
    dsimp only [linearize, stepConc]
    split
    · exact ⟨h, phasesOk_set (p := .idle) hp trivial _, .nil _⟩
    · exact ⟨h, hp, .nil _⟩

theorem runConc_sequential (steps : List Step) (s : Conc) (h : Inv s.c.ri) (hp : PhasesOk s)
    (hwf : ∀ i r, Step.check i r ∈ steps → WF r) :
    SeqChain (abs s.c.ri) (linearize s steps) (abs (runConc s steps).c.ri) ∧ Inv (runConc s steps).c.ri := by
  induction steps generalizing s with
  | nil => exact ⟨.nil _, h⟩
  | cons st rest ih =>
    obtain ⟨h1, h2, h3⟩ := stepConc_ok s st h hp (fun i r e => hwf i r (e ▸ List.mem_cons_self))
    obtain ⟨i1, i2⟩ := ih _ h1 h2 (fun i r hm => hwf i r (List.mem_cons_of_mem _ hm))
    rw [linearize_cons]
    exact ⟨h3.append i1, i2⟩

/-- **concurrent heartbeats are handled as if one at a time**: for every number of streams and every
    interleaving of their check / locked-section / storage steps, the served set is one that handling the
    heartbeats one at a time in the order `linearize` gives can end in with the same answers
    (`Spec.C06.SeqStep`: an `ok` answer is one the served set allows where the heartbeat takes effect; an error
    answer changes nothing and is not asked to have been necessary), and it never holds overlapping regions.
    The locked re-check is what makes this true; that the real code has it inside the lock is the extracted fact
    `recheckAndPutIsOneSection`. -/
theorem concurrent_is_sequential (n : Nat) (steps : List Step)
    (hwf : ∀ i r, Step.check i r ∈ steps → WF r) :
    let s0 : Conc := { c := {}, streams := List.replicate n .idle }
    SeqChain [] (linearize s0 steps) (abs (runConc s0 steps).c.ri) ∧
    C06.NoOverlap (abs (runConc s0 steps).c.ri) := by
  intro s0
  have hp0 : PhasesOk s0 := fun p hp => List.eq_of_mem_replicate hp ▸ trivial
  obtain ⟨k1, k2⟩ := runConc_sequential steps s0 inv_init hp0 hwf
  exact ⟨k1, no_overlap_of_inv k2⟩

/-- structure obligations extracted from the Go source on every run: the re-check and PutRegion are inside
    one `c.Lock()` … `c.Unlock()` section of processRegionHeartbeat, the cache is updated before the storage
    deletes, the deletes come before the save, BasicCluster.PutRegion / getRelevantRegions hold the
    BasicCluster lock for their whole body -/
theorem heartbeat_sections :
    PdModel.Generated.RegionCache.recheckAndPutIsOneSection = true ∧
    PdModel.Generated.RegionCache.cacheBeforeStorageDelete = true ∧
    PdModel.Generated.RegionCache.deleteBeforeSave = true ∧
    PdModel.Generated.RegionCache.putRegionIsOneSection = true ∧
    PdModel.Generated.RegionCache.relevantRegionsIsOneSection = true := by decide

/-- structure obligation for "answered with an error": in `Server.RegionHeartbeat` the stream a request came on is
    bound to its store (`hbStreams.BindStream`) before the request is handled and before any `SendErr`, so the error
    answer of a refused heartbeat – also the first message of a new stream – goes back on that stream -/
theorem error_answer_goes_to_the_sender :
    PdModel.Generated.RegionCache.bindStreamBeforeSendErr = true ∧
    PdModel.Generated.RegionCache.bindStreamBeforeHandle = true := by decide

end PdModel.RegionCache
