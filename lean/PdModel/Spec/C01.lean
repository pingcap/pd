import PdModel.Prelude.ListFacts
/-
C01 – "Timestamps are unique and strictly increasing in real-time order", over what clients observe.
A granted request with count n that returned (ms, logical = hi) owns the values (ms, lo+1) … (ms, hi)
with lo = hi - n.  `start`/`finish` are points of one global real-time axis (ticks of a counter).
-/
namespace PdModel.Spec.C01

structure Ev where
  start  : Nat
  finish : Nat
  ms     : Nat
  lo     : Nat
  hi     : Nat
  /-- the logical part as returned to the client (the raw value `hi` shifted by the suffix bits, plus the suffix) -/
  ret    : Nat := hi
  deriving Repr, DecidableEq

/-- every value of `a` is smaller than every value of `b` (lexicographic on (ms, logical)) -/
def valuesLt (a b : Ev) : Prop := a.ms < b.ms ∨ (a.ms = b.ms ∧ a.hi ≤ b.lo)

instance (a b : Ev) : Decidable (valuesLt a b) := by unfold valuesLt; infer_instance

def wellFormed (logicalBits : Nat) (e : Ev) : Prop :=
  e.lo < e.hi ∧ e.ret < 2 ^ logicalBits ∧ e.start ≤ e.finish

instance (k : Nat) (e : Ev) : Decidable (wellFormed k e) := by unfold wellFormed; infer_instance

/-- the property: ranges pairwise disjoint; real-time order respected; logical part fits its field -/
def Holds (logicalBits : Nat) (evs : List Ev) : Prop :=
  evs.Pairwise (fun a b => valuesLt a b ∨ valuesLt b a) ∧
  (∀ a ∈ evs, ∀ b ∈ evs, a.finish < b.start → valuesLt a b) ∧
  (∀ e ∈ evs, wellFormed logicalBits e)

def check (logicalBits : Nat) (evs : List Ev) : Bool :=
  decide (evs.Pairwise (fun a b => valuesLt a b ∨ valuesLt b a)) &&
  evs.all (fun a => evs.all (fun b => decide (a.finish < b.start → valuesLt a b))) &&
  evs.all (fun e => decide (wellFormed logicalBits e))

theorem check_iff (k : Nat) (evs : List Ev) : check k evs = true ↔ Holds k evs := by
  unfold check Holds
  simp only [Bool.and_eq_true, decide_eq_true_eq, List.all_eq_true, and_assoc]

/-- the shape the model theorem delivers: the list order is the lock order of `generateTSO`, which extends
    real time -/
theorem holds_of_linearisation (k : Nat) (evs : List Ev)
    (hinc : evs.Pairwise valuesLt)
    (hrt : evs.Pairwise (fun a b => ¬ b.finish < a.start))
    (hwf : ∀ e ∈ evs, wellFormed k e) : Holds k evs := by
  refine ⟨hinc.imp Or.inl, fun a ha b hb hab => ?_, hwf⟩
  rcases pairwise_mem_cases (hinc.and hrt) ha hb with rfl | h | h
  · have := (hwf _ ha).2.2; omega
  · exact h.1
  · exact absurd hab h.2

/-- the composed timestamp `physical << 18 | logical` as arithmetic (`composeBV_eq`) -/
def compose (ms logical : Nat) : Nat := ms * 2 ^ 18 + logical

theorem compose_strict_mono (p l p' l' : Nat) (hl : l < 2 ^ 18) (hl' : l' < 2 ^ 18)
    (h : p < p' ∨ (p = p' ∧ l < l')) : compose p l < compose p' l' := by
  unfold compose
  rcases h with h | ⟨rfl, h⟩
  · have : (p + 1) * 2 ^ 18 ≤ p' * 2 ^ 18 := Nat.mul_le_mul_right _ h
    omega
  · omega

/-- `tsoutil.ComposeTS` computes on 64-bit words: `uint64(physical)<<18 | uint64(logical)&0x3FFFF`.  For
    a physical part below 2^46 ms (year 4199) and a logical part that fits its 18 bits this is exactly the
    arithmetic `compose`, so `compose_strict_mono` is a statement about the real 64-bit composition. -/
theorem composeBV_eq (p l : BitVec 64) (hp : p.toNat < 2 ^ 46) (hl : l.toNat < 2 ^ 18) :
    ((p <<< 18) ||| (l &&& 0x3FFFF#64)).toNat = compose p.toNat l.toNat := by
  unfold compose
  have hmask : l &&& 0x3FFFF#64 = l := by
    apply BitVec.eq_of_toNat_eq
    simp only [BitVec.toNat_and, BitVec.toNat_ofNat]
    have : (0x3FFFF : Nat) % 2 ^ 64 = 2 ^ 18 - 1 := by decide
    rw [this, Nat.and_two_pow_sub_one_eq_mod, Nat.mod_eq_of_lt hl]
  rw [hmask]
  have hsh : (p <<< 18).toNat = p.toNat <<< 18 := by
    rw [BitVec.toNat_shiftLeft, Nat.mod_eq_of_lt]
    rw [Nat.shiftLeft_eq]; omega
  rw [BitVec.toNat_or, hsh, ← Nat.shiftLeft_add_eq_or_of_lt hl, Nat.shiftLeft_eq]

end PdModel.Spec.C01
