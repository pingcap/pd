import PdModel.Lemmas.DrAutoSyncSwitch
import PdModel.Lemmas.DrAutoSyncScan
import PdModel.Prelude.ListFacts
/-!
The operations of the DR auto-sync model.  What the manager does on its own is built from parts – a
switch, the phases of tickDR, a start, a configuration update – and `Part` says of each the three things
the property needs: the invariants carry over (`Keeps`), the events are well-formed switches (`Sw`), the
ids come from the inputs in order.  `Whole` says of every operation, those on the region cache included, what
the properties read off it, and `step_part` is the one walk over the operations.  Last, the step from the
model's switch conditions `OpOk` to the specification's `Allowed`.
-/
namespace PdModel.DrAutoSync
open PdModel.Spec

/-- `t` comes from `s` by something the manager does on its own (a switch, a scan, a tick, a start, a
    configuration update): the report log is untouched, the cursor invariant and the well-formedness of
    cache and fuel carry over. -/
structure Keeps (s t : St) : Prop where
  log  : t.log = s.log
  inv  : Inv s → Inv t
  good : Good s → Good t

/-- the part of the state that `Inv` and `Good` read -/
def St.view (s : St) := (s.regions, s.log, s.passed, s.recKey, s.recCount, s.served, s.exhausted)

theorem Keeps.of_view {s t : St} (h : t.view = s.view) : Keeps s t := by
  simp only [St.view, St.served, Prod.mk.injEq] at h
  obtain ⟨h1, h2, h3, h4, h5, ⟨h6, h7⟩, h8⟩ := h
  exact ⟨h2,
    fun i => ⟨by rw [h5, h3]; exact i.count, by rw [h3, h4]; exact i.chain, by rw [h3, h6, h7]; exact i.ok,
      by rw [h3, h2]; exact i.plog, by rw [h1, h2]; exact i.rlog⟩,
    fun g => ⟨by rw [h1]; exact g.cache, by rw [h8]; exact g.fuel⟩⟩

theorem Keeps.refl (s : St) : Keeps s s := ⟨rfl, id, id⟩

theorem Keeps.trans {s t u : St} (h1 : Keeps s t) (h2 : Keeps t u) : Keeps s u :=
  ⟨h2.log.trans h1.log, h2.inv ∘ h1.inv, h2.good ∘ h1.good⟩

theorem scanned_keeps (s : St) : Keeps s (scanned s) := by
  obtain ⟨_, a⟩ := scanned_advance s
  exact ⟨a.log, (·.advance a), good_scanned s⟩

theorem scanned_dr (s : St) : (scanned s).dr = s.dr :=
  (scanned_advance s).elim fun _ a => a.dr

theorem switchTo_cases (s : St) (tgt : DrState) (x : SwitchIn) :
    (x.id = none ∧ switchTo s tgt x = (s, [.allocFail])) ∨
    (∃ id, x.id = some id ∧ x.save ≠ 0 ∧
      switchTo s tgt x = ({ s with stored := if x.save = 1 then s.stored else some (tgt, id) },
        [.alloc id, .file tgt id x.fileOk s.served, .save tgt id false s.served])) ∨
    (∃ id, x.id = some id ∧ x.save = 0 ∧
      switchTo s tgt x =
        ({ (if tgt = .syncRecover then { s with recKey := 0, recCount := 0, passed := [] } else s) with
            stored := some (tgt, id), dr := { state := tgt, id := id } },
         [.alloc id, .file tgt id x.fileOk s.served, .save tgt id true s.served, .publish tgt id])) := by
  unfold switchTo
  cases hid : x.id with
  | none => exact .inl ⟨rfl, rfl⟩
  | some id =>
    dsimp only
    by_cases h0 : x.save = 0
    · refine .inr (.inr ⟨id, rfl, h0, ?_⟩)
      rw [if_pos h0]
      cases tgt <;> rfl
    · refine .inr (.inl ⟨id, rfl, h0, ?_⟩)
      rw [if_neg h0]
      by_cases h1 : x.save = 1
      · rw [if_pos h1, if_pos h1]
      · rw [if_neg h1, if_neg h1]

/-- One part of an operation of the manager – a switch, a phase of tickDR, a whole tick, a start, a
    configuration update – seen from `s` with the switch inputs `xs`: it ends in `t`, has emitted `evs`
    and leaves the inputs `rest`. -/
structure Part (P : Served → Served → Prop) (s : St) (xs : List SwitchIn) (t : St) (evs : List Ev)
    (rest : List SwitchIn) : Prop where
  keeps : Keeps s t
  sw    : Sw P s.served evs t.served
  ids   : allocIds evs ++ inIds rest = inIds xs

theorem Part.skip {P} (s : St) (xs : List SwitchIn) : Part P s xs s [] xs := ⟨.refl s, .done _, rfl⟩

theorem Part.trans {P} {s t u : St} {xs r1 r2 : List SwitchIn} {e1 e2 : List Ev}
    (h1 : Part P s xs t e1 r1) (h2 : Part P t r1 u e2 r2) : Part P s xs u (e1 ++ e2) r2 :=
  ⟨h1.keeps.trans h2.keeps, h1.sw.append h2.sw, by rw [allocIds_append, List.append_assoc, h2.ids, h1.ids]⟩

theorem Part.then_view {P} {s t u : St} {xs rest : List SwitchIn} {evs : List Ev} (h : Part P s xs t evs rest)
    (hv : u.view = t.view) : Part P s xs u evs rest :=
  ⟨h.keeps.trans (.of_view hv), (congrArg (·.2.2.2.2.2.1) hv : u.served = t.served) ▸ h.sw, h.ids⟩

theorem Part.ite {P} {c : Prop} [Decidable c] {s : St} {xs rest : List SwitchIn} {a b : St × List Ev × Bool}
    (ha : Part P s xs a.1 a.2.1 rest) (hb : Part P s xs b.1 b.2.1 rest) :
    Part P s xs (if c then a else b).1 (if c then a else b).2.1 rest := by
  split
  · exact ha
  · exact hb

/-- an operation that needs a manager does nothing without one -/
theorem Part.guard {P} {s t : St} {xs : List SwitchIn} {ret : Ret} {evs : List Ev}
    (h : s.mgr = true → ∃ rest, Part P s xs t evs rest) :
    ∃ rest, Part P s xs (if !s.mgr then (s, Out.mk .nomgr []) else (t, Out.mk ret evs)).1
      (if !s.mgr then (s, Out.mk .nomgr []) else (t, Out.mk ret evs)).2.evs rest := by
  cases hm : s.mgr
  · exact ⟨xs, .skip s xs⟩
  · exact h hm

theorem inIds_single (x : SwitchIn) : inIds [x] = x.id.toList := by
  cases h : x.id <;> simp [inIds, h]

theorem switchTo_part {P} (s : St) (tgt : DrState) (x : SwitchIn)
    (hP : ∀ id, P s.served (tgt, id)) :
    Part P s [x] (switchTo s tgt x).1 (switchTo s tgt x).2 [] := by
  have hid : ∀ i, x.id = i → i.toList ++ inIds [] = inIds [x] := fun i h => by rw [inIds_single, h]; exact List.append_nil _
  rcases switchTo_cases s tgt x with ⟨h, e⟩ | ⟨id, h, _, e⟩ | ⟨id, h, _, e⟩ <;> rw [e]
  · exact ⟨.refl s, .allocFail _ _ _ (.done _), hid _ h⟩
  · exact ⟨.of_view rfl, .failed _ _ _ _ _ _ (.done _), hid _ h⟩
  · refine ⟨?_, .switched _ _ _ _ _ _ (hP id) (.done _), hid _ h⟩
    by_cases ht : tgt = .syncRecover <;> simp only [ht, ↓reduceIte]
    · exact ⟨rfl, fun h => .fresh rfl rfl rfl h.rlog, fun g => ⟨g.cache, g.fuel⟩⟩
    · -- the passed regions were recovered under an id that is no longer current, but `ok` only speaks of `sync_recover`
      exact ⟨rfl, fun h => ⟨h.count, h.chain, fun _ _ hsr => absurd hsr ht, h.plog, h.rlog⟩,
        fun g => ⟨g.cache, g.fuel⟩⟩

/-- the form shared by the phases of tickDR that may switch: one attempt if `c` holds -/
def attemptIf (c : Bool) (s : St) (tgt : DrState) (xs : List SwitchIn) : St × List Ev × List SwitchIn :=
  if c then attempt s tgt xs else (s, [], xs)

theorem attemptIf_part {P} (c : Bool) (s : St) (tgt : DrState) (xs : List SwitchIn)
    (hP : c = true → ∀ id, P s.served (tgt, id)) :
    Part P s xs (attemptIf c s tgt xs).1 (attemptIf c s tgt xs).2.1 (attemptIf c s tgt xs).2.2 := by
  cases c
  · exact .skip s xs
  · have p := switchTo_part s tgt (xs.headD {}) (hP rfl)
    refine ⟨p.keeps, p.sw, ?_⟩
    show allocIds (switchTo s tgt (xs.headD {})).2 ++ inIds xs.tail = inIds xs
    rw [(List.append_nil _).symm.trans p.ids]
    cases xs with
    | nil => rfl
    | cons x xs => exact (List.filterMap_append (l := [x])).symm

/-- the state of a tick just before the recovery part -/
def beforeScan (s : St) (xs : List SwitchIn) : St :=
  (recoverSwitchPhase (canSyncNow s) (asyncPhase s xs).1 (asyncPhase s xs).2.2).1

/-- the state on which the tick decides whether to declare `sync` -/
def decision (s : St) (xs : List SwitchIn) : St := scanned (beforeScan s xs)

theorem decision_keeps (s : St) (xs : List SwitchIn) : Keeps s (decision s xs) :=
  ((attemptIf_part (P := fun _ _ => True) (asyncCond s) s .async xs fun _ _ => trivial).keeps.trans
    (attemptIf_part (P := fun _ _ => True) _ (asyncPhase s xs).1 .syncRecover _ fun _ _ => trivial).keeps).trans
    (scanned_keeps _)

theorem recoverPhase_eq (s : St) (xs : List SwitchIn) :
    recoverPhase s xs =
      if s.dr.state == .syncRecover then
        if finished (scanned s) then
          ((attempt (scanned s) .sync xs).1, (updateProgress s).2 ++ (attempt (scanned s) .sync xs).2.1)
        else (updateRecoverProgress (scanned s) (estimate (updateProgress s).1).2, (updateProgress s).2)
      else (s, []) := rfl

theorem updateRecoverProgress_served (s : St) (p : F32) : (updateRecoverProgress s p).served = s.served := rfl

theorem updateRecoverProgress_view (s : St) (p : F32) : (updateRecoverProgress s p).view = s.view := rfl

theorem sample_scans (s : St) (rest : List Region) : (sample s rest).2.all Ev.isScan = true := by
  unfold sample
  dsimp only
  split <;> rfl

theorem updateLoop_scans (fuel : Nat) (s : St) : (updateLoop fuel s).2.all Ev.isScan = true := by
  fun_induction updateLoop fuel s with
  | case1 s => rfl
  | case2 fuel s hc rs e he => rfl
  | case3 fuel s hc rs e he w hw r ih => exact ih
  | case4 fuel s hc rs e he w rest hw r =>
    -- spelt out: left to the unifier, the comparison of the two lists unfolds `sample`
    exact List.all_cons.trans ((Bool.true_and _).trans (sample_scans _ _))
  | case5 fuel s hc => rfl

theorem scanned_served (s : St) : (scanned s).served = s.served := by
  simp only [St.served, scanned_dr]

theorem scanned_part {P} (s : St) (xs : List SwitchIn) : Part P s xs (scanned s) (updateProgress s).2 xs := by
  have hscans := sw_of_scans (P := P) s.served (updateProgress s).2 (updateLoop_scans _ s)
  exact ⟨scanned_keeps s, by rw [scanned_served]; exact hscans.1, by rw [hscans.2]; rfl⟩

theorem recoverPhase_part {P} (s : St) (xs : List SwitchIn)
    (hP : (scanned s).served.1 = .syncRecover → finished (scanned s) = true → ∀ id, P (scanned s).served (.sync, id)) :
    ∃ rest, Part P s xs (recoverPhase s xs).1 (recoverPhase s xs).2 rest := by
  have p := scanned_part (P := P) s xs
  rw [recoverPhase_eq]
  split
  · next hsr =>
    split
    · next hfin =>
      exact ⟨_, p.trans (attemptIf_part true (scanned s) .sync xs fun _ =>
        hP (by rw [scanned_served]; exact beq_iff_eq.1 hsr) hfin)⟩
    · exact ⟨xs, p.then_view (updateRecoverProgress_view _ _)⟩
  · exact ⟨xs, .skip s xs⟩

/-- the condition under which a tick from `s` performs the switch `a → b` -/
def TickOk (s : St) (xs : List SwitchIn) (a b : Served) : Prop :=
  match b.1 with
  | .async => asyncCond s = true ∧ a = s.served
  | .syncRecover => canSyncNow s = true ∧ a.1 = .async ∧ a = s.served
  | .sync => a.1 = .syncRecover ∧ finished (decision s xs) = true ∧ a = (decision s xs).served
  | .none => False

/-- the condition under which operation `op` from `s` performs the switch `a → b` -/
def OpOk (s : St) (op : Op) (a b : Served) : Prop :=
  match op with
  | .tick xs => s.mgr = true ∧ s.cfg.dr = true ∧ TickOk s xs a b
  | .new c _ => b.1 = .sync ∧ c.dr = true ∧ s.stored = none ∧ a = (.none, 0)
  | .cfg c _ =>
    s.mgr = true ∧ a = s.served ∧
    ((b.1 = .syncRecover ∧ s.cfg.dr = false ∧ c.dr = true) ∨
     (b.1 = .async ∧ s.cfg.dr = true ∧ c.dr = true ∧ s.cfg.labelKey ≠ c.labelKey))
  | _ => False

/-- the state that is served when `op` starts (a restart serves what was persisted) -/
def startOf (s : St) (op : Op) : Served :=
  match op with
  | .new c _ => if c.dr then (match s.stored with | some v => v | none => (.none, 0)) else (.none, 0)
  | _ => s.served

/-- tickDR computes `canSync` once: when it holds, the first phase does not switch to async -/
theorem asyncPhase_of_canSync (s : St) (xs : List SwitchIn) (h : canSyncNow s = true) :
    asyncPhase s xs = (s, [], xs) := by
  have : asyncCond s = false := by
    simp only [canSyncNow] at h
    simp [asyncCond, h]
  simp [asyncPhase, this]

theorem tick_part (s : St) (xs : List SwitchIn) (hm : s.mgr = true) :
    ∃ rest, Part (OpOk s (.tick xs)) s xs (tick s xs).1 (tick s xs).2 rest := by
  unfold tick
  split
  · exact ⟨xs, .skip s xs⟩
  · next hdr =>
    have hdr : s.cfg.dr = true := by simpa using hdr
    have p1 := attemptIf_part (P := OpOk s (.tick xs)) (asyncCond s) s .async xs fun hc id => ⟨hm, hdr, hc, rfl⟩
    have p2 := attemptIf_part (P := OpOk s (.tick xs)) (canSyncNow s && (asyncPhase s xs).1.dr.state == .async)
      (asyncPhase s xs).1 .syncRecover (asyncPhase s xs).2.2 fun hc id => by
        simp only [Bool.and_eq_true, beq_iff_eq] at hc
        exact ⟨hm, hdr, hc.1, hc.2, by rw [asyncPhase_of_canSync s xs hc.1]⟩
    obtain ⟨rest, p3⟩ := recoverPhase_part (P := OpOk s (.tick xs)) (beforeScan s xs)
      (recoverSwitchPhase (canSyncNow s) (asyncPhase s xs).1 (asyncPhase s xs).2.2).2.2
      fun hsr hfin id => ⟨hm, hdr, hsr, hfin, rfl⟩
    exact ⟨rest, (p1.trans p2).trans p3⟩

theorem resetMgr_keeps (s : St) (c : Config) (b : Bool) (d : Status) :
    Keeps s { resetMgr s c with mgr := b, dr := d } :=
  ⟨rfl, fun h => .fresh rfl rfl rfl h.rlog, fun g => ⟨g.cache, rfl⟩⟩

theorem newMgr_part (s : St) (c : Config) (x : SwitchIn) :
    ∃ s0 rest, Keeps s s0 ∧ s0.served = startOf s (.new c x) ∧
      Part (OpOk s (.new c x)) s0 [x] (newMgr s c x).1 (newMgr s c x).2.1 rest := by
  unfold newMgr startOf
  dsimp only
  cases hdr : c.dr with
  | false => exact ⟨_, [x], resetMgr_keeps s c true {}, rfl, .skip _ _⟩
  | true =>
    cases hst : s.stored with
    | some v => exact ⟨_, [x], resetMgr_keeps s c true { state := v.1, id := v.2 }, rfl, .skip _ _⟩
    | none =>
      have p := switchTo_part (P := OpOk s (.new c x)) (resetMgr s c) .sync x fun id => ⟨rfl, hdr, hst, rfl⟩
      -- the start has a manager only if its switch took place; `mgr` is outside the view
      exact ⟨_, [], resetMgr_keeps s c false {}, rfl,
        .ite (c := switched (switchTo (resetMgr s c) .sync x).2 = true) (p.then_view rfl) p⟩

theorem updateConfig_part (s : St) (c : Config) (x : SwitchIn) (hm : s.mgr = true) :
    ∃ rest, Part (OpOk s (.cfg c x)) s [x] (updateConfig s c x).1 (updateConfig s c x).2.1 rest := by
  have p0 : Part (OpOk s (.cfg c x)) s [x] { s with cfg := c } [] [x] := (Part.skip s [x]).then_view rfl
  unfold updateConfig
  by_cases h1 : (!s.cfg.dr && c.dr) = true
  · rw [if_pos h1]
    simp only [Bool.and_eq_true, Bool.not_eq_true'] at h1
    have p := p0.trans (switchTo_part _ .syncRecover x fun id => ⟨hm, rfl, .inl ⟨rfl, h1⟩⟩)
    -- the old configuration is put back unless the switch took place; `cfg` is outside the view
    exact ⟨[], .ite p (p.then_view rfl)⟩
  · rw [if_neg h1]
    by_cases h2 : (s.cfg.dr && c.dr && s.cfg.labelKey != c.labelKey) = true
    · rw [if_pos h2]
      simp only [Bool.and_eq_true, bne_iff_ne, ne_eq] at h2
      have p := p0.trans (switchTo_part _ .async x fun id => ⟨hm, rfl, .inr ⟨rfl, h2.1.1, h2.1.2, h2.2⟩⟩)
      exact ⟨[], .ite p (p.then_view rfl)⟩
    · rw [if_neg h2]; exact ⟨[x], p0⟩

theorem inv_init (b m : Nat) : Inv (init b m) := .fresh rfl rfl rfl nofun

theorem inv_setRegions {s : St} (h : Inv s) {rs l : List Region} (hl : ∀ r ∈ s.log, r ∈ l) (hr : ∀ r ∈ rs, r ∈ l) :
    Inv { s with regions := rs, log := l } :=
  ⟨h.count, h.chain, h.ok, fun r hp => hl r (h.plog r hp), hr⟩

def Op.wf : Op → Prop
  | .region r => r.wf
  | _ => True

/-- One whole operation.  The invariants carry over (the ordered cache only for well-formed reports), the report log
    only grows, and the events are what `Part` says of the parts of an operation of the manager: well-formed switches
    from the served state the operation starts with, on ids that are the operation's own inputs in order. -/
structure Whole (s : St) (op : Op) : Prop where
  inv  : Inv s → Inv (step s op).1
  good : op.wf → Good s → Good (step s op).1
  log  : ∃ more, (step s op).1.log = s.log ++ more
  sw   : Sw (OpOk s op) (startOf s op) (step s op).2.evs (step s op).1.served
  ids  : allocIds (step s op).2.evs <+: opIds op

/-- A part that makes up the whole operation, from a state `s0` that serves what the operation starts with and keeps
    what `s` has: `s` itself or, for a start, the reset state. -/
theorem Part.whole {s s0 : St} {op : Op} {xs rest : List SwitchIn}
    (p : Part (OpOk s op) s0 xs (step s op).1 (step s op).2.evs rest) (k : Keeps s s0) (hs : s0.served = startOf s op)
    (hx : inIds xs = opIds op) : Whole s op :=
  have k := k.trans p.keeps
  ⟨k.inv, fun _ => k.good, ⟨[], k.log.trans (List.append_nil _).symm⟩, hs ▸ p.sw, inIds rest, hx ▸ p.ids⟩

theorem step_part (s : St) (op : Op) : Whole s op := by
  cases op with
  | new c x =>
    obtain ⟨s0, rest, k, e, p⟩ := newMgr_part s c x
    exact p.whole k e rfl
  | cfg c x => exact (Part.guard (updateConfig_part s c x)).elim fun _ p => p.whole (.refl s) rfl rfl
  | tick xs => exact (Part.guard (tick_part s xs)).elim fun _ p => p.whole (.refl s) rfl rfl
  | initOld b | member id b =>
    refine (Part.guard (xs := []) fun _ => ⟨[], ?_⟩).elim fun _ p => p.whole (.refl s) rfl rfl
    exact (Part.skip s []).then_view rfl
  | store st | sizes b m => exact Part.whole (xs := []) ((Part.skip s []).then_view rfl) (.refl s) rfl rfl
  | region r =>
    exact ⟨fun h => inv_setRegions h (fun _ => List.mem_append_left _) fun x hx => (putRegion_mem hx).elim
        (fun e => List.mem_append_right _ (List.mem_singleton.2 e)) fun hx => List.mem_append_left _ (h.rlog x hx),
      fun hop h => ⟨cacheOk_putRegion _ r hop h.cache, h.fuel⟩, ⟨[r], rfl⟩, .done _, [], rfl⟩
  | fill n st sid =>
    exact ⟨fun h => inv_setRegions h (fun _ => List.mem_append_left _) fun _ => List.mem_append_right _,
      fun _ h => ⟨cacheOk_fill n st sid, h.fuel⟩, ⟨_, rfl⟩, .done _, [], rfl⟩
  | rmregion id =>
    exact ⟨fun h => inv_setRegions h (fun _ hx => hx) fun x hx => h.rlog x (List.mem_filter.1 hx).1,
      fun _ h => ⟨cacheOk_sublist List.filter_sublist h.cache, h.fuel⟩, ⟨[], (List.append_nil _).symm⟩, .done _, [], rfl⟩

theorem inv_step (s : St) (op : Op) (h : Inv s) : Inv (step s op).1 := (step_part s op).inv h

theorem inv_run (s : St) (ops : List Op) (h : Inv s) : Inv (run s ops) :=
  foldl_inv Inv _ ops s h fun t op _ => inv_step t op

theorem step_log (s : St) (op : Op) : ∃ more, (step s op).1.log = s.log ++ more := (step_part s op).log

theorem good_step (s : St) (op : Op) (hop : op.wf) (h : Good s) : Good (step s op).1 := (step_part s op).good hop h

theorem good_run (s : St) (ops : List Op) (hops : ∀ op ∈ ops, op.wf) (h : Good s) : Good (run s ops) :=
  foldl_inv Good _ ops s h fun t op ho => good_step t op (hops op ho)

def factsOf (s : St) : C19.Facts :=
  { downP := (downCounts s).1, downD := (downCounts s).2, repP := s.cfg.pRep, repD := s.cfg.dRep,
    timeout := timeoutPassed s }

theorem canSyncNow_iff (s : St) : canSyncNow s = true ↔ (factsOf s).canSync := by
  simp [canSyncNow, canSync, factsOf, C19.Facts.canSync]

/-- the guarded difference of the Go code is truncated subtraction -/
theorem upPeers_eq (cfg : Config) (dp dd : Nat) : upPeers cfg dp dd = (cfg.pRep - dp) + (cfg.dRep - dd) := by
  have h : ∀ a b : Nat, (if a < b then b - a else 0) = b - a := fun a b => by split <;> omega
  unfold upPeers; rw [h, h]

theorem hasMajority_iff (s : St) :
    hasMajority s.cfg (downCounts s).1 (downCounts s).2 = true ↔ (factsOf s).hasMajority := by
  simp only [hasMajority, upPeers_eq, decide_eq_true_eq]; rfl

theorem asyncCond_iff (s : St) :
    asyncCond s = true ↔
      ¬ (factsOf s).canSync ∧ (factsOf s).hasMajority ∧ (factsOf s).timeout = true ∧ s.dr.state ≠ .async := by
  have h1 := canSyncNow_iff s
  have h2 := hasMajority_iff s
  simp only [canSyncNow] at h1
  simp only [asyncCond, Bool.and_eq_true, Bool.not_eq_true', bne_iff_ne, ne_eq]
  rw [h2, ← Bool.not_eq_true, h1]
  simp only [factsOf]
  constructor
  · rintro ⟨⟨⟨a, b⟩, c⟩, d⟩; exact ⟨a, b, d, c⟩
  · rintro ⟨a, b, d, c⟩; exact ⟨⟨⟨a, b⟩, c⟩, d⟩

/-- why operation `op` from `s` may change the served state, in the vocabulary of the specification -/
def causeOf (s : St) (op : Op) : C19.Cause :=
  match op with
  | .new c _ => if c.dr && s.stored.isNone then .init else .other
  | .cfg c _ =>
    if !s.mgr then .other
    else if !s.cfg.dr && c.dr then .enable
    else if s.cfg.dr && c.dr && s.cfg.labelKey != c.labelKey then .relabel
    else .other
  | .tick _ => if s.mgr && s.cfg.dr then .tick (factsOf s) else .other
  | _ => .other

theorem covered_mono (rs more : List C19.Report) (id : Nat) (h : C19.Covered rs id) : C19.Covered (rs ++ more) id :=
  fun k => (h k).imp fun _ hr => ⟨List.mem_append_left _ hr.1, hr.2⟩

theorem decision_covered (s : St) (xs : List SwitchIn) (hinv : Inv s)
    (hst : (decision s xs).served.1 = .syncRecover) (hfin : finished (decision s xs) = true) :
    (decision s xs).passed ≠ [] ∧ Chain 0 (decision s xs).passed 0 ∧
    (∀ r ∈ (decision s xs).passed, r.st = .integrity ∧ r.sid = (decision s xs).dr.id ∧ r ∈ s.log) ∧
    C19.Covered (s.log.map toReport) (decision s xs).dr.id := by
  have hi := (decision_keeps s xs).inv hinv
  have hl := (decision_keeps s xs).log
  -- as a variable, so that no later step looks into the scan
  generalize decision s xs = d at *
  rw [← hl]
  exact inv_finished_covered d hi hfin hst

theorem opOk_allowed (s : St) (op : Op) (hinv : Inv s) (a b : Served) (h : OpOk s op a b) :
    C19.Allowed (causeOf s op) ((step s op).1.log.map toReport) (toSpec a) (toSpec b) := by
  obtain ⟨bs, bi⟩ := b
  cases op with
  | tick xs =>
    obtain ⟨hm, hdr, ht⟩ := h
    have hc : causeOf s (.tick xs) = .tick (factsOf s) := by simp only [causeOf, hm, hdr, Bool.and_self, if_true]
    rw [hc]
    cases bs with
    | none => exact ht.elim
    | async =>
      obtain ⟨hc, rfl⟩ := ht
      have := (asyncCond_iff s).1 hc
      exact ⟨this.1, this.2.1, this.2.2.1, fun heq => this.2.2.2 ((toSpecState_inj _ _).1 heq)⟩
    | syncRecover => exact ⟨(canSyncNow_iff s).1 ht.1, congrArg toSpecState ht.2.1⟩
    | sync =>
      obtain ⟨hsr, hfin, rfl⟩ := ht
      obtain ⟨more, hl⟩ := (step_part s (.tick xs)).log
      rw [hl, List.map_append]
      have hcov := (decision_covered s xs hinv hsr hfin).2.2.2
      generalize decision s xs = d at hsr hcov
      exact ⟨congrArg toSpecState hsr, covered_mono _ _ _ hcov⟩
  | new c x =>
    obtain ⟨rfl, hdr, hst, rfl⟩ := h
    simp [causeOf, hdr, hst, C19.Allowed, toSpec, toSpecState]
  | cfg c x =>
    obtain ⟨hm, rfl, ⟨rfl, h1, h2⟩ | ⟨rfl, h1, h2, h3⟩⟩ := h
    · simp [causeOf, hm, h1, h2, C19.Allowed, toSpec, toSpecState]
    · simp [causeOf, hm, h1, h2, h3, C19.Allowed, toSpec, toSpecState]
  | _ => exact h.elim

end PdModel.DrAutoSync
