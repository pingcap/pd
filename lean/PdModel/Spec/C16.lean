/-
C16 – "Followers converge to the leader's region view through region sync", stated over what can be
observed from outside: the records handed to the change log and what it returns for an index, the
next index before and after a restart, and the region views of leader and follower.
No implementation identifiers.
-/
namespace PdModel.Spec.C16

/-- what a client knows about the change log: the records it was given since the last reset or
    restart (oldest first) and the index the next record will get -/
structure Log (α : Type) where
  log  : List α
  next : Nat
  deriving Repr

variable {α : Type}

/-- number of records the log still has to hold: the `cap` newest ones (a buffer of capacity 0 is
    built with one slot) -/
def window (cap : Nat) (l : Log α) : Nat := min (max cap 1) l.log.length

/-- index of the oldest record inside the window -/
def first (cap : Nat) (l : Log α) : Nat := l.next - window cap l

/-- the answer the property demands for a requested index: inside the window exactly the records from
    that index to the newest, in order; outside nothing -/
def expected (cap : Nat) (l : Log α) (i : Nat) : List α :=
  if first cap l ≤ i ∧ i < l.next then l.log.drop (l.log.length - (l.next - i)) else []

/-- the property for one query -/
def RecordsFromOk (cap : Nat) (l : Log α) (i : Nat) (answer : List α) : Prop :=
  (first cap l ≤ i ∧ i < l.next → answer = l.log.drop (l.log.length - (l.next - i))) ∧
  (¬ (first cap l ≤ i ∧ i < l.next) → answer = [])

def checkRecordsFrom [DecidableEq α] (cap : Nat) (l : Log α) (i : Nat) (answer : List α) : Bool :=
  decide (answer = expected cap l i)

theorem recordsFromOk_iff (cap : Nat) (l : Log α) (i : Nat) (answer : List α) :
    RecordsFromOk cap l i answer ↔ answer = expected cap l i := by
  unfold RecordsFromOk expected
  by_cases h : first cap l ≤ i ∧ i < l.next <;> simp [h]

theorem checkRecordsFrom_iff [DecidableEq α] (cap : Nat) (l : Log α) (i : Nat) (answer : List α) :
    checkRecordsFrom cap l i answer = true ↔ RecordsFromOk cap l i answer := by
  rw [recordsFromOk_iff]
  exact decide_eq_true_iff

theorem expected_append (cap : Nat) (log acc : List α) (n : Nat) (h : acc.length ≤ max cap 1) :
    expected cap { log := log ++ acc, next := n + acc.length } n = acc := by
  unfold expected first window
  cases acc with
  | nil => simp
  | cons x xs =>
    -- the appended records all lie inside the window
    have hw : (x :: xs).length ≤ min (max cap 1) (log ++ x :: xs).length :=
      Nat.le_min.2 ⟨h, List.length_append ▸ Nat.le_add_left ..⟩
    rw [if_pos ⟨Nat.sub_le_iff_le_add.2 (Nat.add_le_add_left hw n), Nat.lt_add_of_pos_right (Nat.succ_pos _)⟩,
      Nat.add_sub_cancel_left, List.length_append, Nat.add_sub_cancel, List.drop_left]

/-- an answer is a value: whatever is recorded afterwards, the answer a caller holds for index `i` still is
    the records from `i` to what was the newest when it asked -/
def HeldOk (answer laterLook : List α) : Prop := laterLook = answer

def checkHeld [DecidableEq α] (answer laterLook : List α) : Bool := decide (laterLook = answer)

theorem checkHeld_iff [DecidableEq α] (answer laterLook : List α) :
    checkHeld answer laterLook = true ↔ HeldOk answer laterLook :=
  decide_eq_true_iff

/-- the flush interval the property speaks of -/
def flushInterval : Nat := 100

/-- the next index survives a restart without going backwards by more than the flush interval -/
def RestartLagOk (flush before after : Nat) : Prop := after ≤ before ∧ before - after ≤ flush

def checkRestartLag (flush before after : Nat) : Bool :=
  decide (after ≤ before) && decide (before - after ≤ flush)

theorem checkRestartLag_iff (flush before after : Nat) :
    checkRestartLag flush before after = true ↔ RestartLagOk flush before after := by
  simp [checkRestartLag, RestartLagOk]

/-- a region view: per region id the canonical description of range, epoch, peers, leader and flow
    statistics -/
abbrev View (ρ : Type) := List (Nat × ρ)

def lookup {ρ : Type} (v : View ρ) (id : Nat) : Option ρ := (v.find? (fun e => e.1 == id)).map (·.2)

/-- for every region sent, the follower holds exactly what the leader holds -/
def Converged {ρ : Type} (sent : List Nat) (follower leader : View ρ) : Prop :=
  ∀ id ∈ sent, lookup follower id = lookup leader id

def checkConverged {ρ : Type} [DecidableEq ρ] (sent : List Nat) (follower leader : View ρ) : Bool :=
  sent.all (fun id => decide (lookup follower id = lookup leader id))

theorem checkConverged_iff {ρ : Type} [DecidableEq ρ] (sent : List Nat) (follower leader : View ρ) :
    checkConverged sent follower leader = true ↔ Converged sent follower leader := by
  simp [checkConverged, Converged]

/-- the messages a live follower is sent for a sequence of changes: every change once, in order, each region
    paired with its own leader (`(region id, leader peer id)` per position, flattened over the messages) -/
def BroadcastOk (changes sent : List (Nat × Nat)) : Prop := sent = changes

def checkBroadcast (changes sent : List (Nat × Nat)) : Bool := decide (sent = changes)

theorem checkBroadcast_iff (changes sent : List (Nat × Nat)) :
    checkBroadcast changes sent = true ↔ BroadcastOk changes sent :=
  decide_eq_true_iff

/-- the ids on which the two views differ (for the report) -/
def diverged {ρ : Type} [DecidableEq ρ] (sent : List Nat) (follower leader : View ρ) : List Nat :=
  sent.filter (fun id => !decide (lookup follower id = lookup leader id))

end PdModel.Spec.C16
