import PdModel.Model.Steps
import PdModel.Model.OpCtl
/-!
C09 – operator lifecycle, stated over what can be observed of a controller: after every event the
running set (region ↦ operator, current step), the status of every operator, the remembered end
statuses, and the commands that were sent; plus the inputs of the events (operators as created,
regions as put / heart-beaten).

`EventOk` is the per-event obligation; a history satisfies C09 when every event does.
-/
namespace PdModel.Spec.C09
open PdModel.Steps
open PdModel.OpCtl (Status)

/-- an operator as it was created -/
structure OpInfo where
  id      : Nat
  region  : Nat
  confVer : Nat
  version : Nat
  level   : Nat
  steps   : List Step
  deriving Repr, Inhabited

/-- a region as reported by its store / as cached by PD -/
structure RegionSeen where
  id      : Nat
  region  : Region
  confVer : Nat
  version : Nat
  pending : List Nat := []
  range   : Nat := 0
  deriving Repr, Inhabited

structure SeenMsg where
  region  : Nat
  confVer : Nat
  version : Nat
  target  : Nat
  deriving Repr, DecidableEq, Inhabited

/-- what is observed after one event -/
structure Seen where
  result  : String := ""
  msgs    : List SeenMsg := []
  running : List (Nat × Nat × Nat) := []          -- region, operator, current step
  status  : List (Nat × Status) := []
  records : List (Nat × Nat × Status) := []        -- region, operator, status
  deriving Repr, Inhabited

inductive EventKind where
  | heartbeat (region : Nat)
  | remove (op : Nat)
  | push
  | admission        -- AddOperator / AddWaitingOperator / PromoteWaitingOperator
  deriving Repr, DecidableEq, Inhabited

/-- the status moves the property allows -/
def allowed : Status → Status → Bool
  | .created, .started | .created, .canceled | .created, .expired => true
  | .started, .success | .started, .canceled | .started, .replaced | .started, .timeout => true
  | _, _ => false

/-- one event may contain several moves (created → started → success) -/
def reach (a b : Status) : Bool :=
  a == b || allowed a b || Status.all.any (fun m => allowed a m && allowed m b)

structure Mon where
  ops      : List OpInfo := []
  sims     : List RegionSeen := []      -- the regions as their stores last reported them
  views    : List RegionSeen := []      -- the regions as last put into PD's cache
  prev     : Seen := {}
  foreign  : List Nat := []             -- regions changed by something else than the running operator's commands
  msgOwner : List (Nat × Nat) := []     -- region ↦ operator that was running when the last command was sent
  deriving Repr, Inhabited

def Mon.op (m : Mon) (id : Nat) : Option OpInfo := m.ops.find? (fun o => o.id == id)
def Mon.viewOf (m : Mon) (r : Nat) : Option RegionSeen := m.views.find? (fun v => v.id == r)
def Mon.simOf (m : Mon) (r : Nat) : Option RegionSeen := m.sims.find? (fun v => v.id == r)

def setRegion (l : List RegionSeen) (x : RegionSeen) : List RegionSeen :=
  if l.any (fun y => y.id == x.id) then l.map (fun y => if y.id == x.id then x else y) else l ++ [x]

def noteOp (m : Mon) (o : OpInfo) : Mon := { m with ops := m.ops ++ [o] }

/-- `region` event: the store-side region is (re)defined and put into PD's cache -/
def noteRegionPut (m : Mon) (x : RegionSeen) : Mon :=
  { m with sims := setRegion m.sims x, views := setRegion m.views x,
           foreign := if m.foreign.contains x.id then m.foreign else x.id :: m.foreign }

def noteRegionGone (m : Mon) (r : Nat) : Mon :=
  { m with sims := m.sims.filter (fun v => v.id != r), views := m.views.filter (fun v => v.id != r) }

def runningOn (s : Seen) (r : Nat) : Option (Nat × Nat) :=
  (s.running.find? (fun x => x.1 == r)).map (·.2)

def statusOf (s : Seen) (id : Nat) : Option Status := (s.status.find? (fun x => x.1 == id)).map (·.2)

/-- a store event: `isExec` = it executed the last command it had received -/
def noteSim (m : Mon) (x : RegionSeen) (isExec : Bool) (harmless : Bool) : Mon :=
  let changed := match m.simOf x.id with
    | some old => old.region != x.region || old.confVer != x.confVer || old.version != x.version
    | none => true
  let ownerRuns := match (m.msgOwner.find? (fun y => y.1 == x.id)), runningOn m.prev x.id with
    | some (_, owner), some (cur, _) => owner == cur
    | _, _ => false
  let isForeign := !harmless && changed && !(isExec && ownerRuns)
  { m with sims := setRegion m.sims x,
           foreign := if isForeign && !m.foreign.contains x.id then x.id :: m.foreign else m.foreign }

/-! ### the per-event obligations (each returns the offending items) -/

/-- at most one operator per region, and it is an operator of that region -/
def badRunning (m : Mon) (s : Seen) : List Nat :=
  s.running.filterMap (fun x =>
    let (r, id, _) := x
    if (s.running.filter (fun y => y.1 == r)).length != 1 then some r
    else match m.op id with
      | some o => if o.region != r then some r else none
      | none => some r)

/-- statuses only move along the allowed transitions -/
def badMoves (m : Mon) (s : Seen) : List Nat :=
  s.status.filterMap (fun x =>
    let before := (statusOf m.prev x.1).getD .created
    if reach before x.2 then none else some x.1)

/-- operators that entered the running set: epoch equal to the cached region's -/
def badAdmissions (m : Mon) (s : Seen) : List Nat :=
  s.running.filterMap (fun x =>
    let (r, id, _) := x
    if (runningOn m.prev r).map (·.1) == some id then none
    else match m.op id, m.viewOf r with
      | some o, some v => if o.confVer == v.confVer && o.version == v.version then none else some id
      | _, _ => some id)

/-- an operator that was replaced in this event was replaced by one of higher priority: some operator of
    the same region with a higher level left the CREATED status in this event (it may already have
    finished again) -/
def badReplacements (m : Mon) (s : Seen) : List Nat :=
  m.prev.running.filterMap (fun x =>
    let (r, old, _) := x
    if statusOf s old == some .replaced && statusOf m.prev old != some .replaced then
      match m.op old with
      | some a =>
        if m.ops.any (fun b => b.id != old && b.region == r && decide (b.level > a.level) &&
             (statusOf m.prev b.id).getD .created == .created &&
             (statusOf s b.id).getD .created != .created)
        then none else some old
      | none => some old
    else none)

/-- operators that left the running set are in an end status -/
def badLeaves (m : Mon) (s : Seen) : List Nat :=
  m.prev.running.filterMap (fun x =>
    let (r, old, _) := x
    if (runningOn s r).map (·.1) == some old then none
    else match statusOf s old with
      | some st => if st.isEnd then none else some old
      | none => some old)

/-- ... and are remembered: the record of its region (kept whether or not another operator runs there now)
    names an operator that ended (this one, or one that ended in this same event) -/
def badRecords (m : Mon) (s : Seen) : List Nat :=
  m.prev.running.filterMap (fun x =>
    let (r, old, _) := x
    if (runningOn s r).map (·.1) == some old then none
    else match s.records.find? (fun y => y.1 == r) with
      | some (_, id, st) =>
        if st.isEnd && statusOf s id == some st &&
           (id == old || statusOf m.prev id != some st) then none else some old
      | none => some old)

/-- every record names an operator in an end status whose observed status is the recorded one
    (`records_always_name_ended_operators` of the model, asked of the implementation's observation) -/
def liveRecords (s : Seen) : List Nat :=
  s.records.filterMap (fun y =>
    let (_, id, st) := y
    if st.isEnd && (match statusOf s id with | some st' => st' == st | none => true) then none else some id)

/-- every command is addressed to the cached region's leader and carries its epoch -/
def badMsgs (m : Mon) (s : Seen) : List SeenMsg :=
  s.msgs.filter (fun x =>
    match m.viewOf x.region with
    | some v => !(x.target == v.region.leader && x.confVer == v.confVer && x.version == v.version)
    | none => true)

/-- the conf-version accounting of an operator at step `cur` on a region -/
def accounted (o : OpInfo) (cur : Nat) (r : Region) : Nat :=
  let current := if cur == o.steps.length then cur - 1 else cur
  ((o.steps.take (current + 1)).map (confVerChanged r)).sum

/-- after a heartbeat of region `r`: an operator that was running there before and still is, is not
    stale (one that was only admitted during this event is judged at the next heartbeat) -/
def staleButRunning (m : Mon) (s : Seen) (r : Nat) : List Nat :=
  match runningOn s r, m.viewOf r with
  | some (id, cur), some v =>
    if (runningOn m.prev r).map (·.1) != some id then [] else
    (match m.op id, statusOf s id with
     | some o, some .started =>
       (match o.steps[cur]? with
        | some step =>
          if !checkSafety v.region step then [id]
          else if v.confVer < o.confVer || v.confVer - o.confVer > accounted o cur v.region then [id]
          else []
        | none => [])
     | _, _ => [])
  | _, _ => []

/-- after a heartbeat of region `r` that was only changed by the running operator's own commands:
    the operator is not cancelled while its current step's precondition holds -/
def cancelledThoughOwn (m : Mon) (s : Seen) (r : Nat) : List Nat :=
  match runningOn m.prev r, m.viewOf r with
  | some (id, _), some v =>
    if m.foreign.contains r then []
    else if statusOf m.prev id == some .started && statusOf s id == some .canceled then
      match m.op id with
      | some o =>
        -- the step it was at, as far as the region shows (skip finished steps)
        let cur := PdModel.OpCtl.advance ⟨r, v.region, v.confVer, v.version, v.pending, v.range⟩ v.range
          (o.steps.drop ((runningOn m.prev r).map (·.2) |>.getD 0)) ((runningOn m.prev r).map (·.2) |>.getD 0)
        (match o.steps[cur]? with
         | some step => if checkSafety v.region step then [id] else []
         | none => [])
      | none => []
    else []
  | _, _ => []

/-- the stores a step changes the peer of, and whether it brings the peer up (add / promote) or down
    (demote / remove) -/
def stepTouches : Step → List (Nat × Bool)
  | .addPeer s _ | .addLightPeer s _ | .addLearner s _ | .addLightLearner s _ | .promoteLearner s _ => [(s, true)]
  | .demoteFollower s _ | .removePeer s _ => [(s, false)]
  | .enter ps ds => ps.map (fun it => (it.store, true)) ++ ds.map (fun it => (it.store, false))
  | _ => []

def isRemove : Step → Bool
  | .removePeer .. => true
  | _ => false

/-- a later step of the operator takes back what an earlier one did on the same store (add or promote,
    then demote or remove; demote, then promote or remove).  No operator built by pd has this shape. -/
def undoesOwnStep : List Step → Bool
  | [] => false
  | s :: rest =>
    (stepTouches s).any (fun x =>
      rest.any (fun t => (stepTouches t).any (fun y =>
        y.1 == x.1 &&
        (if x.2 then !y.2                       -- brought up, later taken down
         else match s with
           | .demoteFollower .. => y.2 || isRemove t   -- demoted, later promoted again or removed
           | .enter .. => y.2                          -- demoted in a joint change, later promoted again
           | _ => false)))) ||
    -- removed, later added again with the very same peer id (pd allocates a fresh id for every new peer)
    (match s with
     | .removePeer st id => rest.any (fun t => match t with
        | .addPeer st' id' | .addLightPeer st' id' | .addLearner st' id' | .addLightLearner st' id' => st' == st && id' == id
        | _ => false)
     | _ => false) || undoesOwnStep rest

structure EventOk (m : Mon) (ev : EventKind) (s : Seen) : Prop where
  onePerRegion  : badRunning m s = []
  validMoves    : badMoves m s = []
  equalEpoch    : badAdmissions m s = []
  higherReplace : badReplacements m s = []
  endOnLeave    : badLeaves m s = []
  recorded      : badRecords m s = []
  recordsEnded  : liveRecords s = []
  addressed     : badMsgs m s = []
  staleGone     : ∀ r, ev = .heartbeat r → staleButRunning m s r = []
  ownNotStale   : ∀ r, ev = .heartbeat r → cancelledThoughOwn m s r = []

/-- PD's cache after the event (a heartbeat caches the store's region first) -/
def cacheFor (m : Mon) (ev : EventKind) : Mon :=
  match ev with
  | .heartbeat r =>
    (match m.simOf r with
     | some x => { m with views := setRegion m.views x }
     | none => m)
  | _ => m

def hbComplaints (m : Mon) (ev : EventKind) (s : Seen) : List String :=
  match ev with
  | .heartbeat r =>
    (staleButRunning m s r).map (fun id => s!"sig=C09.stale-operator-still-running op={id} region={r}") ++
    (cancelledThoughOwn m s r).map (fun id =>
      let cls := match m.op id with
        | some o => if undoesOwnStep o.steps then "-undone-step" else ""
        | none => ""
      s!"sig=C09.own-steps-judged-stale{cls} op={id} region={r} steps={match m.op id with | some o => stepsText o.steps | none => "?"}")
  | _ => []

def complaints (m : Mon) (ev : EventKind) (s : Seen) : List String :=
  (badRunning m s).map (fun r => s!"sig=C09.two-operators-on-one-region region={r}") ++
  ((badMoves m s).map (fun id => s!"sig=C09.invalid-status-transition op={id} from={((statusOf m.prev id).getD .created).name} to={((statusOf s id).getD .created).name}") ++
  ((badAdmissions m s).map (fun id => s!"sig=C09.admitted-with-other-epoch op={id}") ++
  ((badReplacements m s).map (fun id => s!"sig=C09.replaced-by-not-higher-priority op={id}") ++
  ((badLeaves m s).map (fun id => s!"sig=C09.left-running-set-without-end-status op={id}") ++
  ((badRecords m s).map (fun id => s!"sig=C09.left-running-set-not-recorded op={id}") ++
  ((liveRecords s).map (fun id => s!"sig=C09.record-names-operator-not-ended op={id}") ++
  ((badMsgs m s).map (fun x => s!"sig=C09.command-not-for-current-leader-and-epoch region={x.region} target={x.target} epoch={x.confVer}.{x.version}") ++
  hbComplaints m ev s)))))))

theorem hbComplaints_nil_iff (m : Mon) (ev : EventKind) (s : Seen) :
    hbComplaints m ev s = [] ↔
      (∀ r, ev = .heartbeat r → staleButRunning m s r = []) ∧
      (∀ r, ev = .heartbeat r → cancelledThoughOwn m s r = []) := by
  cases ev with
  | heartbeat r =>
    simp only [hbComplaints, List.append_eq_nil_iff, List.map_eq_nil_iff]
    constructor
    · rintro ⟨h1, h2⟩
      exact ⟨fun r' e => by cases e; exact h1, fun r' e => by cases e; exact h2⟩
    · rintro ⟨h1, h2⟩
      exact ⟨h1 r rfl, h2 r rfl⟩
  | remove id => simp [hbComplaints]
  | push => simp [hbComplaints]
  | admission => simp [hbComplaints]

theorem complaints_nil_iff (m : Mon) (ev : EventKind) (s : Seen) :
    complaints m ev s = [] ↔ EventOk m ev s := by
  unfold complaints
  simp only [List.append_eq_nil_iff, List.map_eq_nil_iff, hbComplaints_nil_iff]
  constructor
  · rintro ⟨h1, h2, h3, h4, h5, h6, h6b, h7, h8, h9⟩
    exact ⟨h1, h2, h3, h4, h5, h6, h6b, h7, h8, h9⟩
  · intro h
    exact ⟨h.onePerRegion, h.validMoves, h.equalEpoch, h.higherReplace, h.endOnLeave, h.recorded,
      h.recordsEnded, h.addressed, h.staleGone, h.ownNotStale⟩

/-! ### competing end transitions (concurrent stream) -/

/-- what is observed of a race of end transitions on one started operator: how many participants
    reported success, the operator's status afterwards, the statuses the winners remembered -/
structure RaceSeen where
  wins   : Nat
  final  : Status
  rememb : List Status
  deriving Repr

/-- exactly one transition wins, the operator has ended, and what was remembered is its final status -/
structure RaceOk (r : RaceSeen) : Prop where
  oneWinner : r.wins = 1
  ended     : r.final.isEnd = true
  remembered : ∀ s ∈ r.rememb, s = r.final

def raceComplaints (r : RaceSeen) : List String :=
  (if r.wins != 1 then [s!"sig=C09.racing-end-transitions-winners-not-one wins={r.wins} final={r.final.name}"] else []) ++
  ((if !r.final.isEnd then [s!"sig=C09.raced-operator-not-ended final={r.final.name}"] else []) ++
   (if !(r.rememb.all (fun s => s == r.final)) then
      [s!"sig=C09.remembered-status-differs-from-final final={r.final.name} remembered={r.rememb.map Status.name}"] else []))

theorem raceComplaints_nil_iff (r : RaceSeen) : raceComplaints r = [] ↔ RaceOk r := by
  unfold raceComplaints
  simp only [List.append_eq_nil_iff]
  constructor
  · rintro ⟨h1, h2, h3⟩
    refine ⟨?_, ?_, ?_⟩
    · by_cases e : r.wins = 1
      · exact e
      · simp [e] at h1
    · cases hf : r.final.isEnd
      · simp [hf] at h2
      · rfl
    · intro s hs
      cases ha : r.rememb.all (fun s => s == r.final)
      · simp [ha] at h3
      · exact (by simpa using List.all_eq_true.1 ha s hs)
  · intro h
    have ha : r.rememb.all (fun s => s == r.final) = true := by
      simp only [List.all_eq_true, beq_iff_eq]; exact h.remembered
    simp [h.oneWinner, h.ended, ha]

/-- the monitor: judge one event and remember what was seen -/
def checkEvent (m : Mon) (ev : EventKind) (s : Seen) : Mon × List String :=
  let m1 := cacheFor m ev
  let fails := complaints m1 ev s
  -- bookkeeping: a region whose running operator changed starts a new "own steps only" period
  let fresh := s.running.filterMap (fun x =>
    if (runningOn m1.prev x.1).map (·.1) == some x.2.1 then none else some x.1)
  let owner := s.msgs.foldl (fun l x =>
    match runningOn s x.region with
    | some (id, _) => (x.region, id) :: l.filter (fun y => y.1 != x.region)
    | none => l.filter (fun y => y.1 != x.region)) m1.msgOwner
  -- ... provided PD's cache is what the store has at that moment (otherwise there are changes the new
  -- operator does not know of: they count as foreign)
  let synced (r : Nat) : Bool := match m1.viewOf r, m1.simOf r with
    | some v, some x => v.region == x.region && v.confVer == x.confVer && v.version == x.version
    | _, _ => false
  let foreign := (m1.foreign.filter (fun r => !fresh.contains r)) ++ fresh.filter (fun r => !synced r)
  ({ m1 with prev := s, foreign := foreign, msgOwner := owner }, fails)

theorem checkEvent_ok_iff (m : Mon) (ev : EventKind) (s : Seen) :
    (checkEvent m ev s).2 = [] ↔ EventOk (cacheFor m ev) ev s := by
  simp only [checkEvent]
  exact complaints_nil_iff _ _ _

end PdModel.Spec.C09
