import PdModel.Model.Config
import PdModel.Prelude.ListFacts
/-!
Every setter that writes goes through `persist`, whose result is one of two shapes (`persist_cases`); what a call that is
about to write one section may do to the state is collected in `Setter`, proved once per setter and turned
into `StepSpec` for all of them at once.
-/
namespace PdModel.Config
open PdModel.Spec.C18

/-- peels one test off a chain of `if`s whose early exits differ from the final value -/
theorem of_ite_eq {α : Type} {c : Prop} [Decidable c] {a b r : α} (h : (if c then a else b) = r) (ha : a ≠ r) :
    ¬c ∧ b = r :=
  ite_ind (P := fun x => x = r → ¬c ∧ b = r) (fun _ e => absurd e ha) (fun hc e => ⟨hc, e⟩) h

theorem validateSched_ok {registered : List String} {c : Sched} (h : validateSched registered c = .ok) :
    c.tolerant.lt zero = false ∧ c.low.lt zero = false ∧ one.lt c.low = false ∧ c.high.lt zero = false ∧
    one.lt c.high = false ∧ c.low.le c.high = false ∧
    (∀ x ∈ c.schedulers, registered.contains x.type = true) ∧ (∀ b ∈ c.disable, b = false) ∧ c.rate = zero := by
  unfold validateSched at h
  obtain ⟨h1, h⟩ := of_ite_eq h Res.noConfusion
  obtain ⟨h2, h⟩ := of_ite_eq h Res.noConfusion
  obtain ⟨h3, h⟩ := of_ite_eq h Res.noConfusion
  obtain ⟨h4, h⟩ := of_ite_eq h Res.noConfusion
  obtain ⟨h5, h⟩ := of_ite_eq h Res.noConfusion
  obtain ⟨h6, h⟩ := of_ite_eq h Res.noConfusion
  obtain ⟨h7, -⟩ := of_ite_eq h Res.noConfusion
  simp only [Bool.or_eq_true, not_or, Bool.not_eq_true, List.any_eq_true, not_exists, not_and,
    Bool.not_eq_true', Bool.not_eq_false, bne_iff_ne, ne_eq, Decidable.not_not] at h1 h2 h3 h4 h5 h6 h7
  exact ⟨h1, h2.1, h2.2, h3.1, h3.2, h4, h5, h6, h7⟩

theorem schedDomain_of_valid {registered : List String} {c : Sched} (h : validateSched registered c = .ok)
    (hj : schedJsonOK c = true) : schedDomain registered c = true := by
  obtain ⟨h1, h2, h3, h4, h5, h6, h7, -, -⟩ := validateSched_ok h
  simp only [schedJsonOK, Bool.and_eq_true, and_assoc] at hj
  obtain ⟨ft, fl, fh, -⟩ := hj
  simp only [schedDomain, Bool.and_eq_true, and_assoc, List.all_eq_true]
  exact ⟨ft, Fix.le_of_not_lt ft rfl h1, fl, Fix.le_of_not_lt fl rfl h2, Fix.le_of_not_lt rfl fl h3, fh,
    Fix.le_of_not_lt fh rfl h4, Fix.le_of_not_lt rfl fh h5, Fix.lt_of_not_le fl fh h6, h7⟩

theorem replDomain_of_valid {c : Repl} (h : validateRepl c = .ok) : replDomain c = true := by
  unfold validateRepl at h
  obtain ⟨-, h⟩ := of_ite_eq h Res.noConfusion
  obtain ⟨h2, -⟩ := of_ite_eq h Res.noConfusion
  simpa [replDomain, Decidable.or_iff_not_imp_left] using h2

/-- the two shapes are given as equations on the whole `Out`, so that a caller rewrites with them and its own
    `if o.res = .ok` and roll-back reduce by computation -/
theorem persist_cases (s : St) (mask n : Nat) :
    (∃ ws, jsonOK s.served = true ∧ persist s mask n = ⟨{ s with stored := some s.served }, .ok, ws⟩) ∨
    (∃ r ws, r ≠ .ok ∧ persist s mask n = ⟨s, r, ws⟩) := by
  unfold persist
  cases hj : jsonOK s.served
  · exact .inr ⟨_, _, Res.noConfusion, if_pos rfl⟩
  · rw [if_neg (by exact Bool.false_ne_true)]
    cases failBit mask n
    · exact .inl ⟨_, rfl, if_neg Bool.false_ne_true⟩
    · exact .inr ⟨_, _, Res.noConfusion, if_pos rfl⟩

theorem persist_frame {s : St} {mask n : Nat} :
    (persist s mask n).st.served = s.served ∧ (persist s mask n).st.registered = s.registered ∧
      (persist s mask n).st.defaults = s.defaults := by
  obtain ⟨ws, -, h⟩ | ⟨r, ws, -, h⟩ := persist_cases s mask n <;> rw [h] <;> exact ⟨rfl, rfl, rfl⟩

theorem swapPersist_cases (s : St) (new : Cfg) (mask : Nat) :
    (∃ ws, jsonOK new = true ∧ swapPersist s new mask = ⟨{ s with served := new, stored := some new }, .ok, ws⟩) ∨
    (∃ r ws, r ≠ .ok ∧ swapPersist s new mask = ⟨s, r, ws⟩) := by
  unfold swapPersist
  obtain ⟨ws, hj, h⟩ | ⟨r, ws, hr, h⟩ := persist_cases { s with served := new } mask 0 <;> rw [h]
  · exact .inl ⟨ws, hj, if_pos rfl⟩
  · exact .inr ⟨r, ws, hr, if_neg hr⟩

structure Outcome (s : St) (o : Out) : Prop where
  rejected : o.res ≠ .ok → o.st.served = s.served
  stored : o.res = .ok → o.st.stored = some o.st.served
  json : o.res = .ok → jsonOK o.st.served = true
  registered : o.st.registered = s.registered

def onlySched (a b : Cfg) : Prop := b.repl = a.repl ∧ b.pd = a.pd

def Section.kind : Section → Kind
  | .sched _ => .sched | .repl _ => .repl | .pd _ => .pd
  | .labels _ => .labels | .version _ => .version | .rmode _ => .rmode

/-- the domain of C18 for the three validated sections; the others have none -/
def Section.InDomain (registered : List String) : Section → Prop
  | .sched c => schedDomain registered c = true
  | .repl c => replDomain c = true
  | .pd c => pdDomain c = true
  | _ => True

theorem Section.apply_domain {registered : List String} {x : Section} {c : Cfg} (hd : x.InDomain registered) :
    (x.kind = .sched → schedDomain registered (x.apply c).sched = true) ∧
    (x.kind = .repl → replDomain (x.apply c).repl = true) ∧
    (x.kind = .pd → pdDomain (x.apply c).pd = true) := by
  cases x
  case sched => exact ⟨fun _ => hd, Kind.noConfusion, Kind.noConfusion⟩
  case repl => exact ⟨Kind.noConfusion, fun _ => hd, Kind.noConfusion⟩
  case pd => exact ⟨Kind.noConfusion, Kind.noConfusion, fun _ => hd⟩
  all_goals exact ⟨Kind.noConfusion, Kind.noConfusion, Kind.noConfusion⟩

theorem Section.apply_keeps {registered : List String} {x : Section} {c : Cfg} (hd : x.InDomain registered)
    (h : schedDomain registered c.sched = true ∧ replDomain c.repl = true ∧ pdDomain c.pd = true) :
    schedDomain registered (x.apply c).sched = true ∧ replDomain (x.apply c).repl = true ∧
      pdDomain (x.apply c).pd = true := by
  cases x
  case sched => exact ⟨hd, h.2⟩
  case repl => exact ⟨h.1, hd, h.2.2⟩
  case pd => exact ⟨h.1, h.2.1, hd⟩
  all_goals exact h

/-- what a setter that is about to write section `x` may return from `s`.  `Section` is the model's own
    notion of a one-section write (there: another member's). -/
structure Setter (x : Section) (s : St) (o : Out) : Prop where
  outcome : Outcome s o
  defaults : o.st.defaults = s.defaults
  wrote : o.res = .ok → x.InDomain s.registered ∧ o.st.served = x.apply s.served

theorem Setter.refuse {x : Section} {s : St} {o : Out} (hr : o.res ≠ .ok) (hs : o.st.served = s.served)
    (hreg : o.st.registered = s.registered) (hdef : o.st.defaults = s.defaults) : Setter x s o :=
  ⟨⟨fun _ => hs, fun h => absurd h hr, fun h => absurd h hr, hreg⟩, hdef, fun h => absurd h hr⟩

theorem Setter.accept {x : Section} {s : St} {o : Out} (hd : x.InDomain s.registered) (hr : o.res = .ok)
    (hs : o.st.served = x.apply s.served) (hst : o.st.stored = some o.st.served) (hj : jsonOK o.st.served = true)
    (hreg : o.st.registered = s.registered) (hdef : o.st.defaults = s.defaults) : Setter x s o :=
  ⟨⟨fun h => absurd hr h, fun _ => hst, fun _ => hj, hreg⟩, hdef, fun _ => ⟨hd, hs⟩⟩

theorem Setter.ite {x : Section} {s : St} {c : Prop} [Decidable c] {a b : Out} (ha : c → Setter x s a)
    (hb : ¬c → Setter x s b) : Setter x s (if c then a else b) :=
  ite_ind ha hb

/-- the domain may lean on `jsonOK`: NaN passes every comparison of `validateSched` and is stopped only by the
    encoder, so the finiteness of an accepted scheduling section comes from the persist, not from the validation -/
theorem swapPersist_setter {s : St} {x : Section} {mask : Nat}
    (hd : jsonOK (x.apply s.served) = true → x.InDomain s.registered) :
    Setter x s (swapPersist s (x.apply s.served) mask) := by
  obtain ⟨ws, hj, h⟩ | ⟨r, ws, hr, h⟩ := swapPersist_cases s (x.apply s.served) mask <;> rw [h]
  · exact .accept (hd hj) rfl rfl rfl hj rfl rfl
  · exact .refuse hr rfl rfl rfl

theorem setSched_setter (s : St) (c : Sched) (mask : Nat) : Setter (.sched c) s (setSched s c mask) :=
  .ite (fun hv => .refuse (bne_iff_ne.mp hv) rfl rfl rfl) fun hv =>
    swapPersist_setter (schedDomain_of_valid (bne_eq_false_iff_eq.mp (eq_false_of_ne_true hv)))

theorem setPd_setter (s : St) (c : PdSrv) (mask : Nat) :
    ∃ d, Setter (.pd { c with dashboard := d }) s (setPd s c mask) :=
  ⟨_, .ite (fun _ => .refuse Res.noConfusion rfl rfl rfl) fun _ => .ite (fun _ => .refuse Res.noConfusion rfl rfl rfl) fun hd =>
    swapPersist_setter fun _ => decide_eq_true (Int.not_lt.mp hd)⟩

theorem setLabels_setter (s : St) (m : List LabelProp) (mask : Nat) : Setter (.labels m) s (setLabels s m mask) :=
  swapPersist_setter fun _ => trivial

theorem setVersion_setter (s : St) (v : Option (Nat × Nat × Nat)) (mask : Nat) :
    ∃ w, Setter (.version w) s (setVersion s v mask) := by
  cases v
  · exact ⟨default, .refuse Res.noConfusion rfl rfl rfl⟩
  · exact ⟨_, swapPersist_setter fun _ => trivial⟩

theorem setRepl_setter (s : St) (c : Repl) (mask : Nat) : Setter (.repl c) s (setRepl s c mask) := by
  refine .ite (fun hv => .refuse (bne_iff_ne.mp hv) rfl rfl rfl) fun hv =>
    .ite (fun _ => .refuse Res.noConfusion rfl rfl rfl) fun _ => .ite (fun _ => .refuse Res.noConfusion rfl rfl rfl) fun _ => ?_
  dsimp only
  generalize hs1 : (if touchesRule s c = true then { s with rule := some ⟨c.maxReplicas, c.location⟩ } else s) = s1
  have hc : s1.registered = s.registered ∧ s1.defaults = s.defaults := by subst hs1; split <;> exact ⟨rfl, rfl⟩
  obtain ⟨ws, hj, h⟩ | ⟨r, ws, hr, h⟩ := persist_cases { s1 with served := { s.served with repl := c } } mask 0 <;> rw [h]
  · rw [if_pos rfl]
    exact .accept (replDomain_of_valid (bne_eq_false_iff_eq.mp (eq_false_of_ne_true hv))) rfl rfl rfl hj hc.1 hc.2
  · rw [if_neg hr]; exact .refuse hr rfl hc.1 hc.2

theorem setRMode_setter (s : St) (c : RMode) (mask : Nat) : Setter (.rmode c) s (setRMode s c mask) := by
  refine .ite (fun _ => .refuse Res.noConfusion rfl rfl rfl) fun _ => ?_
  dsimp only
  obtain ⟨ws, hj, h⟩ | ⟨r, ws, hr, h⟩ := persist_cases { s with served := { s.served with rmode := c } } mask 0 <;> rw [h]
  · exact .ite (fun h => absurd h Bool.false_ne_true) fun _ => .ite
      -- the status write failed: whatever the persist of the old section does, it is the one served
      (fun _ => .refuse Res.noConfusion persist_frame.1 persist_frame.2.1 persist_frame.2.2)
      fun _ => .accept trivial rfl rfl rfl hj rfl rfl
  · exact .ite (fun _ => .refuse hr rfl rfl rfl) fun h => absurd (bne_iff_ne.mpr hr) h

/-- the one case analysis over the operations: a setter call (with what `Setter` says of it), another
    member's write, or a reload -/
theorem step_cases (s : St) (op : Op) :
    (op.isSetter = true ∧ kindOf op ≠ .reload ∧ kindOf op ≠ .foreign ∧
      ∃ x, x.kind = kindOf op ∧ Setter x s (step s op)) ∨
    (∃ x, op = .foreign x) ∨ op = .reload := by
  cases op
  case foreign x => exact .inr (.inl ⟨x, rfl⟩)
  case reload => exact .inr (.inr rfl)
  all_goals refine .inl ⟨rfl, Kind.noConfusion, Kind.noConfusion, ?_⟩
  case sched c mask => exact ⟨_, rfl, setSched_setter s c mask⟩
  case repl c mask => exact ⟨_, rfl, setRepl_setter s c mask⟩
  case pd c mask => exact (setPd_setter s c mask).elim fun _ h => ⟨_, rfl, h⟩
  case lpset t k v mask => exact ⟨_, rfl, setLabels_setter s _ mask⟩
  case lpdel t k v mask => exact ⟨_, rfl, setLabels_setter s _ mask⟩
  case lpcfg m mask => exact ⟨_, rfl, setLabels_setter s m mask⟩
  case cver v mask => exact (setVersion_setter s v mask).elim fun _ h => ⟨_, rfl, h⟩
  case rmode c mask => exact ⟨_, rfl, setRMode_setter s c mask⟩

theorem step_foreign (s : St) (x : Section) : ∃ st', (step s (.foreign x)).st = { s with stored := st' } := by
  show ∃ st', (foreignWrite s x).st = _
  unfold foreignWrite
  split
  · exact ⟨_, rfl⟩
  · dsimp only; split <;> exact ⟨_, rfl⟩

theorem step_reload (s : St) :
    step s .reload = ⟨{ s with served := (reload s.defaults s).getD s.served }, .ok, []⟩ := by
  obtain ⟨_, stored, _, _, _, _, _⟩ := s
  cases stored <;> rfl

theorem step_defaults (s : St) (op : Op) : (step s op).st.defaults = s.defaults := by
  obtain ⟨-, -, -, x, -, h⟩ | ⟨x, rfl⟩ | rfl := step_cases s op
  · exact h.defaults
  · obtain ⟨st', h⟩ := step_foreign s x
    rw [h]
  · rw [step_reload]

/-- the facts about one step behind the clauses of `Spec.C18.StepOk` and behind `domain_invariant` -/
structure StepSpec (s : St) (op : Op) : Prop where
  rejected : (step s op).res ≠ .ok → (step s op).st.served = s.served
  stored : op.isSetter = true → (step s op).res = .ok → (step s op).st.stored = some (step s op).st.served
  registered : (step s op).st.registered = s.registered
  foreignKept : ∀ x, op = .foreign x → (step s op).st.served = s.served
  reloadIs : op = .reload → (step s op).res = .ok ∧ (step s op).st.stored = s.stored ∧
    ∀ c, s.stored = some c → (step s op).st.served = normalise s.defaults c
  domain : (step s op).res = .ok →
    (kindOf op = .sched → schedDomain s.registered (step s op).st.served.sched = true) ∧
    (kindOf op = .repl → replDomain (step s op).st.served.repl = true) ∧
    (kindOf op = .pd → pdDomain (step s op).st.served.pd = true)
  schedIs : (step s op).res = .ok → ∀ c mask, op = .sched c mask → (step s op).st.served.sched = c
  domainKept : op.isSetter = true → (schedDomain s.registered s.served.sched = true ∧ replDomain s.served.repl = true ∧
      pdDomain s.served.pd = true) →
    (schedDomain s.registered (step s op).st.served.sched = true ∧ replDomain (step s op).st.served.repl = true ∧
      pdDomain (step s op).st.served.pd = true)

theorem step_spec (s : St) (op : Op) : StepSpec s op := by
  obtain ⟨hs, -, -, x, hk, h⟩ | ⟨x, rfl⟩ | rfl := step_cases s op
  · exact {
      rejected := h.outcome.rejected
      stored := fun _ => h.outcome.stored
      registered := h.outcome.registered
      foreignKept := fun _ hx => by subst hx; cases hs
      reloadIs := fun hx => by subst hx; cases hs
      domain := fun hok => by rw [(h.wrote hok).2, ← hk]; exact Section.apply_domain (h.wrote hok).1
      schedIs := fun hok c mask hc => by subst hc; exact congrArg Cfg.sched ((setSched_setter s c mask).wrote hok).2
      domainKept := fun _ hd => by
        by_cases hok : (step s op).res = .ok
        · rw [(h.wrote hok).2]; exact Section.apply_keeps (h.wrote hok).1 hd
        · rw [h.outcome.rejected hok]; exact hd }
  · obtain ⟨st', hst⟩ := step_foreign s x
    exact {
      rejected := fun _ => by rw [hst]
      stored := fun h => nomatch h
      registered := by rw [hst]
      foreignKept := fun _ _ => by rw [hst]
      reloadIs := fun h => nomatch h
      domain := fun _ => ⟨Kind.noConfusion, Kind.noConfusion, Kind.noConfusion⟩
      schedIs := fun _ _ _ h => nomatch h
      domainKept := fun h => nomatch h }
  · have he := step_reload s
    exact {
      rejected := fun h => absurd (by rw [he]) h
      stored := fun h => nomatch h
      registered := by rw [he]
      foreignKept := fun _ h => nomatch h
      reloadIs := fun _ => ⟨by rw [he], by rw [he], fun c hc => by
        rw [he]; show (reload s.defaults s).getD s.served = _
        unfold reload; rw [hc]; rfl⟩
      domain := fun _ => ⟨Kind.noConfusion, Kind.noConfusion, Kind.noConfusion⟩
      schedIs := fun _ _ _ h => nomatch h
      domainKept := fun h => nomatch h }

end PdModel.Config
