import PdModel.Lemmas.BuilderJointCore
import PdModel.Lemmas.BuilderPrepare
/-! The joint-consensus builder of the model produces a step list of the shape covered by
    `joint_core_safe`, on data satisfying `JointCtx`. -/
namespace PdModel.Builder
open PdModel.Steps PdModel.Spec PdModel.Spec.C08

theorem execAddPeer_learner_steps (b : B) (p : Peer) (h : isLearner p = true) :
    (execAddPeer b p).steps = b.steps ++ [addStep b.lightWeight p] := by
  show b.steps ++ [_] ++ (if (!isLearner p) = true then _ else []) = _
  rw [h]; exact List.append_nil _

theorem jointAddBody_eq (b : B) (x : Peer) : jointAddBody b x =
    if isLearner x then { execAddPeer b x with kindRegion := true }
    else { execAddPeer b ⟨x.store, x.id, .learner⟩ with toPromote := pmSet b.toPromote x, kindRegion := true } := by
  unfold jointAddBody
  cases isLearner x <;> rfl

theorem jointAddBody_spec (b : B) (x : Peer) :
    Keeps b (jointAddBody b x) ∧
    (jointAddBody b x).targetLeader = b.targetLeader ∧
    (jointAddBody b x).steps = b.steps ++ [addStep b.lightWeight x] ∧
    (jointAddBody b x).toPromote = (if !isLearner x then pmSet b.toPromote x else b.toPromote) ∧
    (jointAddBody b x).cur.leader = b.cur.leader ∧
    (jointAddBody b x).toRemove = b.toRemove ∧
    (jointAddBody b x).toDemote = b.toDemote := by
  rw [jointAddBody_eq]
  split
  · next hx =>
    rw [hx]
    exact ⟨⟨rfl, rfl, rfl, rfl, rfl⟩, rfl, execAddPeer_learner_steps b x hx, rfl, rfl, rfl, rfl⟩
  · next hx =>
    rw [Bool.not_eq_true] at hx
    rw [hx]
    exact ⟨⟨rfl, rfl, rfl, rfl, rfl⟩, rfl, execAddPeer_learner_steps b ⟨x.store, x.id, .learner⟩ rfl,
      rfl, rfl, rfl, rfl⟩

theorem addLoop_spec (xs : List Peer) (b : B) :
    Keeps b (xs.foldl jointAddBody b) ∧
    (xs.foldl jointAddBody b).targetLeader = b.targetLeader ∧
    (xs.foldl jointAddBody b).steps = b.steps ++ xs.map (addStep b.lightWeight) ∧
    (xs.foldl jointAddBody b).toPromote = (xs.filter (fun p => !isLearner p)).foldl pmSet b.toPromote ∧
    (xs.foldl jointAddBody b).cur.leader = b.cur.leader ∧
    (xs.foldl jointAddBody b).toRemove = b.toRemove ∧
    (xs.foldl jointAddBody b).toDemote = b.toDemote := by
  induction xs generalizing b with
  | nil => simp [Keeps.refl]
  | cons x rest ih =>
    simp only [List.foldl_cons]
    obtain ⟨k, h0, h1, h2, h3, h4, h5⟩ := ih (jointAddBody b x)
    obtain ⟨k', g0, g1, g2, g3, g4, g5⟩ := jointAddBody_spec b x
    refine ⟨Keeps.trans k' k, h0.trans g0, ?_, ?_, h3.trans g3, h4.trans g4, h5.trans g5⟩
    · rw [h1, g1, k'.lightWeight]; simp [List.append_assoc]
    · rw [h2, g2]
      cases hx : isLearner x <;> simp [hx]

theorem demoteLoop_eq (xs : List Peer) (b : B) : xs.foldl jointDemoteBody b =
    { b with toDemote := ((xs.filter (fun p => !isLearner p)).map asLearner).foldl pmSet b.toDemote } := by
  induction xs generalizing b with
  | nil => rfl
  | cons x rest ih =>
    rw [List.foldl_cons, ih]
    unfold jointDemoteBody
    cases hx : isLearner x <;> simp only [hx, List.filter_cons] <;> rfl

theorem removeLoop_steps (xs : List Peer) (b : B) :
    (xs.foldl jointRemoveBody b).steps = b.steps ++ xs.map rmStep := by
  induction xs generalizing b with
  | nil => simp
  | cons x rest ih =>
    simp only [List.foldl_cons, ih]
    simp [jointRemoveBody, execRemovePeer, rmStep, List.append_assoc]

theorem execChangePeerV2_spec (b : B) (nt : Bool) :
    (execChangePeerV2 b true nt).steps =
      b.steps ++ [.enter (toItems (pmSorted b.toPromote)) (toItems (pmSorted b.toDemote))] ++
      (if nt && b.originLeader != b.targetLeader then [.transferLeader b.cur.leader b.targetLeader] else []) ++
      [.leave (toItems (pmSorted b.toPromote)) (toItems (pmSorted b.toDemote))] ∧
    (execChangePeerV2 b true nt).toRemove = b.toRemove ∧
    (execChangePeerV2 b true nt).originLeader = b.originLeader ∧
    (execChangePeerV2 b true nt).targetLeader = b.targetLeader ∧
    (execChangePeerV2 b true nt).cur.leader =
      (if nt && b.originLeader != b.targetLeader then b.targetLeader else b.cur.leader) := by
  cases hc : (nt && b.originLeader != b.targetLeader) <;>
    simp [execChangePeerV2, hc, execTransferLeader, List.append_assoc]

/-- the leader transfer of `jointMid` -/
def jointTransfer (b : B) : B :=
  if b.originLeader != b.targetLeader then { execTransferLeader b b.targetLeader with kindLeader := true } else b

theorem jointTransfer_spec (b : B) :
    (jointTransfer b).steps = b.steps ++
      (if b.originLeader != b.targetLeader then [.transferLeader b.cur.leader b.targetLeader] else []) ∧
    (jointTransfer b).toRemove = b.toRemove ∧ (jointTransfer b).toPromote = b.toPromote ∧
    (jointTransfer b).toDemote = b.toDemote ∧ (jointTransfer b).originLeader = b.originLeader ∧
    (jointTransfer b).targetLeader = b.targetLeader := by
  unfold jointTransfer
  split
  · exact ⟨rfl, rfl, rfl, rfl, rfl, rfl⟩
  · exact ⟨(List.append_nil _).symm, rfl, rfl, rfl, rfl, rfl⟩

theorem jointMid_eq (b : B) : jointMid b =
    if targetLeaderWasVoter b then execChangePeerV2 (jointTransfer b) true false
    else if originLeaderStaysVoter b then jointTransfer (execChangePeerV2 b true false)
    else { execChangePeerV2 b true true with kindLeader := true } := rfl

theorem targetLeaderWasVoter_iff {b : B} : targetLeaderWasVoter b = true ↔
    ∃ p, pmGet b.originPeers b.targetLeader = some p ∧ p.role ≠ .learner := by
  unfold targetLeaderWasVoter
  cases pmGet b.originPeers b.targetLeader <;> simp [isLearner]

theorem originLeaderStaysVoter_iff {b : B} : originLeaderStaysVoter b = true ↔
    b.originLeader = 0 ∨ ∃ p, pmGet b.targetPeers b.originLeader = some p ∧ p.role ≠ .learner := by
  unfold originLeaderStaysVoter
  cases pmGet b.targetPeers b.originLeader <;> simp [isLearner]

theorem jointMid_spec (b : B) (S : List Peer) (hcur : b.cur.leader = b.originLeader)
    (hl0 : b.originLeader ≠ 0)
    (hOS : ∀ p ∈ b.originPeers, p ∈ S) (hplainO : plainRoles b.originPeers)
    (hplainT : plainRoles b.targetPeers)
    (ht : ∃ p, pmGet b.targetPeers b.targetLeader = some p ∧ p.role = .voter) :
    ∃ mid, (jointMid b).steps = b.steps ++ mid ∧ (jointMid b).toRemove = b.toRemove ∧
      MidForm S b.targetPeers (toItems (pmSorted b.toPromote)) (toItems (pmSorted b.toDemote))
        b.originLeader b.targetLeader mid := by
  rw [jointMid_eq]
  split
  · next hc =>
    -- the target leader is an origin voter: transfer first
    have hv : ∃ p ∈ S, p.store = b.targetLeader ∧ p.role = .voter := by
      obtain ⟨p, hp, hr⟩ := targetLeaderWasVoter_iff.1 hc
      obtain ⟨hm, hs⟩ := pmGet_some hp
      exact ⟨p, hOS p hm, hs, (hplainO p hm).resolve_right hr⟩
    obtain ⟨t1, t2, t3, t4, _, _⟩ := jointTransfer_spec b
    obtain ⟨h1, h2, _⟩ := execChangePeerV2_spec (jointTransfer b) false
    refine ⟨_, ?_, h2.trans t2, MidForm.before hv⟩
    rw [h1, t1, t3, t4, hcur]
    simp [List.append_assoc]
  · split
    · next hc2 =>
      -- the origin leader stays a voter: change peers first
      have hf : finV b.targetPeers b.originLeader = true := by
        rcases originLeaderStaysVoter_iff.1 hc2 with h0 | ⟨p, hp, hr⟩
        · exact absurd h0 hl0
        · obtain ⟨hm, hs⟩ := pmGet_some hp
          exact finV_iff.2 ⟨p, hm, hs, (hplainT p hm).resolve_right hr⟩
      obtain ⟨h1, h2, h3, h4, h5⟩ := execChangePeerV2_spec b false
      obtain ⟨t1, t2, _⟩ := jointTransfer_spec (execChangePeerV2 b true false)
      refine ⟨_, ?_, t2.trans h2, MidForm.after hf⟩
      rw [t1, h1, h3, h4, h5, hcur]
      simp [List.append_assoc]
    · next hc2 =>
      -- both demote the origin leader and promote the target leader: transfer inside the joint state
      have hne : b.originLeader ≠ b.targetLeader := by
        intro e
        obtain ⟨p, hp, hr⟩ := ht
        exact hc2 (originLeaderStaysVoter_iff.2 (Or.inr ⟨p, e ▸ hp, by simp [hr]⟩))
      obtain ⟨h1, h2, _⟩ := execChangePeerV2_spec b true
      refine ⟨_, ?_, h2, MidForm.inside⟩
      show (execChangePeerV2 b true true).steps = _
      rw [h1, hcur, if_pos (by simpa using hne)]
      simp [List.append_assoc]

/-- `buildJoint` up to the joint transition: the state `bc` it hands to `jointMid`, in terms of the
    prepared state -/
theorem buildJoint_ok {b1 b2 : B} (hplain : plainRoles b1.targetPeers)
    (hreq : b1.targetLeader = 0 ∨ ∃ n ∈ b1.targetPeers, n.store = b1.targetLeader ∧ n.role = .voter)
    (h : buildJoint b1 = .ok b2) : ∃ bc,
    b2.steps = (jointMid bc).steps ++ (pmSorted (jointMid bc).toRemove).map rmStep ∧
    Keeps b1 bc ∧
    (∃ p ∈ b1.targetPeers, p.store = bc.targetLeader ∧ p.role = .voter) ∧
    (b1.targetLeader = 0 ∨ bc.targetLeader = b1.targetLeader) ∧
    bc.steps = b1.steps ++ (pmSorted b1.toAdd).map (addStep b1.lightWeight) ∧
    bc.toPromote = ((pmSorted b1.toAdd).filter (fun p => !isLearner p)).foldl pmSet b1.toPromote ∧
    bc.toDemote = (((pmSorted b1.toRemove).filter (fun p => !isLearner p)).map asLearner).foldl pmSet b1.toDemote ∧
    bc.toRemove = b1.toRemove ∧ bc.cur.leader = b1.cur.leader := by
  obtain ⟨ka, a0, a1, a2, a3, a4, a5⟩ := addLoop_spec (pmSorted b1.toAdd) b1
  generalize hba : (pmSorted b1.toAdd).foldl jointAddBody b1 = ba at ka a0 a1 a2 a3 a4 a5
  obtain ⟨t, eb, ht, htreq⟩ := setTarget_plain ba (ka.targetPeers ▸ hplain) (by rw [a0, ka.targetPeers]; exact hreq)
  unfold buildJoint at h
  simp only [hba, eb, demoteLoop_eq] at h
  obtain ⟨ht0, h⟩ := ok_of_guard h
  cases h
  refine ⟨_, removeLoop_steps _ _, ka.trans ⟨rfl, rfl, rfl, rfl, rfl⟩, ?_, ?_, a1, a2, by simp only [a5, a4], a4, a3⟩
  · rw [← ka.targetPeers]
    exact ht.resolve_left (by simpa using ht0)
  · rw [← a0]; exact htreq

/-! The data of the joint builder, from the request `b0` and the allocated adds `A'`: the adds and removes
in the order of the loops, `jdS` the peers after the add loop, `jdPm` / `jdDm` the promote / demote maps
after the add / demote loop, `jdP` / `jdD` their items. -/

def jdA (A' : List Peer) : List Peer := pmSorted A'
def jdR (b0 : B) : List Peer := pmSorted (diffOrigin (clearPending b0)).toRemove
def jdS (b0 : B) (A' : List Peer) : List Peer := b0.originPeers ++ (jdA A').map asLearner
def jdPm (b0 : B) (A' : List Peer) : List Peer :=
  ((jdA A').filter (fun p => !isLearner p)).foldl pmSet (diffOrigin (clearPending b0)).toPromote
def jdDm (b0 : B) : List Peer :=
  (((jdR b0).filter (fun p => !isLearner p)).map asLearner).foldl pmSet (diffOrigin (clearPending b0)).toDemote
def jdP (b0 : B) (A' : List Peer) : List Item := toItems (pmSorted (jdPm b0 A'))
def jdD (b0 : B) : List Item := toItems (pmSorted (jdDm b0))

theorem jd_nodupPm {b0 : B} (rec : Recorded b0) (A' : List Peer) : (stores (jdPm b0 A')).Nodup :=
  nodup_foldl_pmSet _ _ (nodup_pending _ rec.nodupO)

theorem jd_nodupDm {b0 : B} (rec : Recorded b0) : (stores (jdDm b0)).Nodup :=
  nodup_foldl_pmSet _ _ (nodup_pending _ rec.nodupO)

theorem jd_nodupR {b0 : B} (rec : Recorded b0) : (stores (jdR b0)).Nodup :=
  nodup_pmSorted (nodup_stores_filter _ rec.nodupO)

theorem stores_map_asLearner (l : List Peer) : stores (l.map asLearner) = stores l :=
  stores_map (f := asLearner) (fun _ => rfl) l

theorem jd_mem_S {b0 : B} {A' : List Peer} (p : Peer) : p ∈ jdS b0 A' ↔ p ∈ b0.originPeers ∨ ∃ a ∈ jdA A', p = asLearner a := by
  unfold jdS
  simp only [List.mem_append, List.mem_map, eq_comm]

section
variable {b0 : B} (rec : Recorded b0) (hd : b0.allowDemote = true)
include rec hd

theorem jd_R_mem (o : Peer) : o ∈ jdR b0 ↔ o ∈ b0.originPeers ∧ o.store ∉ stores b0.targetPeers := by
  have hnR : (stores (diffOrigin (clearPending b0)).toRemove).Nodup :=
    nodup_stores_filter _ rec.nodupO
  unfold jdR
  rw [mem_pmSorted hnR]
  exact diff_remove_joint rec hd o

theorem jd_Dm_eq : jdDm b0 = (diffOrigin (clearPending b0)).toDemote ++
    ((jdR b0).filter (fun p => !isLearner p)).map asLearner := by
  unfold jdDm
  apply foldl_pmSet_fresh
  · intro x hx hs
    obtain ⟨r, hr, rfl⟩ := List.mem_map.1 hx
    obtain ⟨n, hn, e⟩ := mem_stores.1 hs
    obtain ⟨_, o, ho, _, ⟨n0, hn0, hn0s, _⟩, rfl⟩ := (diff_demote_iff rec n).1 hn
    apply ((jd_R_mem rec hd r).1 (List.mem_filter.1 hr).1).2
    exact mem_stores.2 ⟨n0, hn0, hn0s.trans e⟩
  · rw [stores_map_asLearner]
    exact nodup_stores_filter _ (jd_nodupR rec)

end

section
variable {b0 : B} (rec : Recorded b0) (hd : b0.allowDemote = true) {nid : Nat} {A' : List Peer}
  (hA : allocIds ((pmSorted b0.targetPeers).filter (needAdd (diffOrigin (clearPending b0)))) nid = .ok A')
include rec hd hA

theorem jd_A_facts :
    (stores (jdA A')).Nodup ∧
    (∀ a ∈ jdA A', a.store ∉ stores b0.originPeers ∧ ∃ n ∈ b0.targetPeers, n.store = a.store ∧ n.role = a.role) ∧
    (∀ n ∈ b0.targetPeers, n.store ∉ stores b0.originPeers → ∃ a ∈ jdA A', a.store = n.store ∧ a.role = n.role) := by
  obtain ⟨h1, h2, h3⟩ := diff_add rec hA
  refine ⟨nodup_pmSorted h1, ?_, ?_⟩
  · intro a ha
    obtain ⟨n, hn, e1, e2, hneed⟩ := h2 a (mem_pmSorted_mem ha)
    exact ⟨e1 ▸ (needAdd_joint rec hd n).1 hneed, n, hn, e1, e2⟩
  · intro n hn hs
    obtain ⟨a, ha, e⟩ := h3 n hn ((needAdd_joint rec hd n).2 hs)
    exact ⟨a, (mem_pmSorted h1).2 ha, e⟩

theorem jd_nodupS : (stores (jdS b0 A')).Nodup := by
  obtain ⟨h1, h2, _⟩ := jd_A_facts rec hd hA
  unfold jdS
  simp only [stores, List.map_append]
  refine List.nodup_append.2 ⟨rec.nodupO, ?_, ?_⟩
  · rw [← stores, stores_map_asLearner]; exact h1
  · intro x hx y hy e
    subst e
    rw [← stores, stores_map_asLearner] at hy
    obtain ⟨a, ha, e⟩ := mem_stores.1 hy
    exact (h2 a ha).1 (e ▸ hx)

theorem jd_Pm_eq : jdPm b0 A' = (diffOrigin (clearPending b0)).toPromote ++ (jdA A').filter (fun p => !isLearner p) := by
  obtain ⟨h1, h2, _⟩ := jd_A_facts rec hd hA
  unfold jdPm
  apply foldl_pmSet_fresh
  · intro x hx hs
    obtain ⟨n, hn, e⟩ := mem_stores.1 hs
    obtain ⟨o, ho, _, _, rfl⟩ := (diff_promote_iff rec n).1 hn
    exact (h2 x (List.mem_filter.1 hx).1).1 (e ▸ mem_stores.2 ⟨o, ho, rfl⟩)
  · exact nodup_stores_filter _ h1

theorem jd_ctx : JointCtx (jdS b0 A') b0.targetPeers (jdP b0 A') (jdD b0) := by
  obtain ⟨hA1, hA2, hA3⟩ := jd_A_facts rec hd hA
  have hOsub : ∀ p ∈ b0.originPeers, p ∈ jdS b0 A' := fun p hp =>
    (jd_mem_S p).2 (Or.inl hp)
  have hAsub : ∀ a ∈ jdA A', asLearner a ∈ jdS b0 A' := fun a ha =>
    (jd_mem_S _).2 (Or.inr ⟨a, ha, rfl⟩)
  constructor
  case nodupS => exact jd_nodupS rec hd hA
  case nodupT => exact rec.nodupT
  case plainT => exact rec.plainT
  case plainS =>
    intro p hp
    rcases (jd_mem_S p).1 hp with h | ⟨a, _, rfl⟩
    · exact rec.plainO p h
    · right; rfl
  case subT =>
    intro n hn
    by_cases hO : n.store ∈ stores b0.originPeers
    · obtain ⟨o, ho, e⟩ := mem_stores.1 hO
      exact mem_stores.2 ⟨o, hOsub o ho, e⟩
    · obtain ⟨a, ha, e, _⟩ := hA3 n hn hO
      exact mem_stores.2 ⟨asLearner a, hAsub a ha, e⟩
  case pMem =>
    intro p hp
    unfold jdP
    rw [inItems_toItems_sorted, jd_Pm_eq rec hd hA]
    simp only [stores, List.map_append, List.mem_append, List.mem_map, List.mem_filter]
    rcases (jd_mem_S p).1 hp with h | ⟨a, ha, rfl⟩
    · constructor
      · rintro (⟨n, hn, e⟩ | ⟨a, ⟨ha, _⟩, e⟩)
        · obtain ⟨o, ho, hl, hf, rfl⟩ := (diff_promote_iff rec n).1 hn
          cases eq_of_mem_store rec.nodupO ho h e
          exact ⟨hl, hf⟩
        · exact absurd (e ▸ mem_stores.2 ⟨p, h, rfl⟩) (hA2 a ha).1
      · rintro ⟨hl, hf⟩
        exact Or.inl ⟨_, (diff_promote_iff rec _).2 ⟨p, h, hl, hf, rfl⟩, rfl⟩
    · obtain ⟨haO, n, hn, hns, hnr⟩ := hA2 a ha
      have hfa : finV b0.targetPeers a.store = true ↔ a.role = .voter := by
        rw [← hns, ← hnr]; exact finV_of_mem rec.nodupT hn
      constructor
      · rintro (⟨n', hn', e⟩ | ⟨a', ⟨ha', hr⟩, e⟩)
        · obtain ⟨o, ho, _, _, rfl⟩ := (diff_promote_iff rec n').1 hn'
          exact absurd (e ▸ mem_stores.2 ⟨o, ho, rfl⟩) haO
        · cases eq_of_mem_store hA1 ha' ha e
          exact ⟨rfl, hfa.2 ((hnr ▸ rec.plainT n hn).resolve_right (by simpa [isLearner] using hr))⟩
      · rintro ⟨_, hf⟩
        exact Or.inr ⟨a, ⟨ha, by simp [isLearner, hfa.1 hf]⟩, rfl⟩
  case dMem =>
    intro p hp
    unfold jdD
    rw [inItems_toItems_sorted, jd_Dm_eq rec hd]
    simp only [stores, List.map_append, List.mem_append, List.mem_map, List.mem_filter]
    rcases (jd_mem_S p).1 hp with h | ⟨a, ha, rfl⟩
    · constructor
      · rintro (⟨n, hn, e⟩ | ⟨x, ⟨r, ⟨hr, hrl⟩, rfl⟩, e⟩)
        · obtain ⟨_, o, ho, hv, ⟨n0, hn0, hn0s, hn0r⟩, rfl⟩ := (diff_demote_iff rec n).1 hn
          cases eq_of_mem_store rec.nodupO ho h e
          exact ⟨hv, hn0s ▸ finV_false_of_learner rec.nodupT hn0 hn0r⟩
        · obtain ⟨hrO, hrT⟩ := (jd_R_mem rec hd r).1 hr
          cases eq_of_mem_store rec.nodupO hrO h e
          exact ⟨(rec.plainO p h).resolve_right fun e => by simp [isLearner, e] at hrl, finV_false_of_not_mem hrT⟩
      · rintro ⟨hv, hf⟩
        by_cases hT : p.store ∈ stores b0.targetPeers
        · obtain ⟨n0, hn0, hs⟩ := mem_stores.1 hT
          refine Or.inl ⟨_, (diff_demote_iff rec _).2 ⟨hd, p, h, hv, ⟨n0, hn0, hs, ?_⟩, rfl⟩, rfl⟩
          refine (rec.plainT n0 hn0).resolve_left fun e => ?_
          have := (finV_of_mem rec.nodupT hn0).2 e
          rw [hs, hf] at this; cases this
        · exact Or.inr ⟨asLearner p, ⟨p, ⟨(jd_R_mem rec hd p).2 ⟨h, hT⟩, by simp [isLearner, hv]⟩, rfl⟩, rfl⟩
    · constructor
      · rintro (⟨n, hn, e⟩ | ⟨x, ⟨r, ⟨hr, _⟩, rfl⟩, e⟩)
        · obtain ⟨_, o, ho, _, _, rfl⟩ := (diff_demote_iff rec n).1 hn
          exact absurd (e ▸ mem_stores.2 ⟨o, ho, rfl⟩) (hA2 a ha).1
        · exact absurd (e ▸ mem_stores.2 ⟨r, ((jd_R_mem rec hd r).1 hr).1, rfl⟩) (hA2 a ha).1
      · rintro ⟨hv, _⟩; cases hv
  case pIn =>
    intro it hit
    obtain ⟨x, hx', rfl⟩ := mem_toItems_sorted hit
    rw [jd_Pm_eq rec hd hA, List.mem_append] at hx'
    rcases hx' with hx' | hx'
    · obtain ⟨o, ho, _, _, rfl⟩ := (diff_promote_iff rec x).1 hx'
      exact ⟨o, hOsub o ho, rfl, rfl⟩
    · exact ⟨asLearner x, hAsub x (List.mem_filter.1 hx').1, rfl, rfl⟩
  case dIn =>
    intro it hit
    obtain ⟨x, hx', rfl⟩ := mem_toItems_sorted hit
    rw [jd_Dm_eq rec hd, List.mem_append] at hx'
    rcases hx' with hx' | hx'
    · obtain ⟨_, o, ho, _, _, rfl⟩ := (diff_demote_iff rec x).1 hx'
      exact ⟨o, hOsub o ho, rfl, rfl⟩
    · obtain ⟨r, hr, rfl⟩ := List.mem_map.1 hx'
      exact ⟨r, hOsub r ((jd_R_mem rec hd r).1 (List.mem_filter.1 hr).1).1, rfl, rfl⟩
  case nodupP =>
    unfold jdP
    rw [stores_toItems]
    exact nodup_pmSorted (jd_nodupPm rec _)
  case nodupD =>
    unfold jdD
    rw [stores_toItems]
    exact nodup_pmSorted (jd_nodupDm rec)

theorem jd_R_stores (s : Nat) :
    s ∈ stores (jdR b0) ↔ (s ∈ stores (jdS b0 A') ∧ s ∉ stores b0.targetPeers) := by
  obtain ⟨hA1, hA2, hA3⟩ := jd_A_facts rec hd hA
  constructor
  · intro hs
    obtain ⟨o, ho, rfl⟩ := mem_stores.1 hs
    obtain ⟨hoO, hoT⟩ := (jd_R_mem rec hd o).1 ho
    exact ⟨mem_stores.2 ⟨o, (jd_mem_S o).2 (Or.inl hoO), rfl⟩, hoT⟩
  · rintro ⟨hS, hT⟩
    obtain ⟨p, hp, rfl⟩ := mem_stores.1 hS
    rcases (jd_mem_S p).1 hp with h | ⟨a, ha, rfl⟩
    · exact mem_stores.2 ⟨p, (jd_R_mem rec hd p).2 ⟨h, hT⟩, rfl⟩
    · obtain ⟨_, n, hn, hns, _⟩ := hA2 a ha
      exact absurd (mem_stores.2 ⟨n, hn, hns⟩) hT

end

end PdModel.Builder
