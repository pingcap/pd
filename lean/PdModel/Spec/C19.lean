import PdModel.Prelude.ListFacts
/-
C19 – "DR auto-sync only declares 'sync' when every region is in sync", stated over what can be
observed from outside the replication-mode manager:

  * the replication state that is served (state, state id) before and after an operation,
  * during an operation, in order: the ids obtained from the id allocator, the statuses offered to all
    members, the statuses written to storage (with the outcome of the write) – each together with the
    state that was served at that very moment,
  * the facts the decision is about: failed stores / replicas per data centre, whether the wait
    time-out has passed, and the replication status every region has reported so far.

No implementation identifiers.  Keys are naturals; an end key 0 means +∞.
-/
namespace PdModel.Spec.C19

inductive DrState where
  | none | sync | async | syncRecover
  deriving Repr, DecidableEq, Inhabited

/-- served replication state: state and state id -/
abbrev Served := DrState × Nat

/-- what a region reported: its range, whether it has integrity over the label, under which state id -/
structure Report where
  start     : Nat
  end_      : Nat
  integrity : Bool
  sid       : Nat
  deriving Repr, DecidableEq

/-- key `k` lies in `r`, and `r` reported integrity under state id `id` -/
def Report.Covers (r : Report) (id k : Nat) : Prop :=
  r.integrity = true ∧ r.sid = id ∧ r.start ≤ k ∧ (r.end_ = 0 ∨ k < r.end_)

/-- every key of the whole key space lies in a region that has reported integrity under `id` -/
def Covered (rs : List Report) (id : Nat) : Prop :=
  ∀ k : Nat, ∃ r ∈ rs, r.Covers id k

def coversB (r : Report) (id k : Nat) : Bool :=
  r.integrity && r.sid == id && decide (r.start ≤ k) && (r.end_ == 0 || decide (k < r.end_))

theorem coversB_iff (r : Report) (id k : Nat) : coversB r id k = true ↔ r.Covers id k := by
  simp [coversB, Report.Covers, and_assoc]

def pointB (rs : List Report) (id k : Nat) : Bool := rs.any (fun r => coversB r id k)

theorem pointB_iff (rs : List Report) (id k : Nat) : pointB rs id k = true ↔ ∃ r ∈ rs, r.Covers id k := by
  simp [pointB, coversB_iff]

/-- executable form: key 0 and the end key of every region that reported integrity under `id` are
    covered (that is enough: the first uncovered key would be 0 or such an end key) -/
def coveredB (rs : List Report) (id : Nat) : Bool :=
  pointB rs id 0 &&
  rs.all (fun r => !(r.integrity && r.sid == id && r.end_ != 0) || pointB rs id r.end_)

theorem coveredB_iff (rs : List Report) (id : Nat) : coveredB rs id = true ↔ Covered rs id := by
  simp only [coveredB, Bool.and_eq_true, List.all_eq_true, or_eq_true_imp, Bool.not_eq_false', bne_iff_ne, beq_iff_eq,
    and_imp, pointB_iff]
  constructor
  · rintro ⟨h0, hall⟩ k
    induction k with
    | zero => exact h0
    | succ k ih =>
      obtain ⟨r, hr, hi, hs, hle, hend⟩ := ih
      by_cases hk : r.end_ = 0 ∨ k + 1 < r.end_
      · exact ⟨r, hr, hi, hs, by omega, hk⟩
      · have he : r.end_ = k + 1 := by omega
        have hp := hall r hr hi hs (he ▸ Nat.succ_ne_zero k)
        rwa [he] at hp
  · exact fun h => ⟨h 0, fun r _ _ _ _ => h r.end_⟩

/-- the facts a periodic check decides on -/
structure Facts where
  downP   : Nat     -- failed stores in the primary data centre
  downD   : Nat     -- failed stores in the dr data centre
  repP    : Nat     -- replicas in the primary data centre
  repD    : Nat     -- replicas in the dr data centre
  timeout : Bool    -- the wait time-out has passed
  deriving Repr, DecidableEq

/-- both data centres have fewer failed stores than replicas -/
def Facts.canSync (f : Facts) : Prop := f.downP < f.repP ∧ f.downD < f.repD

/-- replicas that can still be up -/
def Facts.up (f : Facts) : Nat := (f.repP - f.downP) + (f.repD - f.downD)

/-- a majority of all replicas can still be up -/
def Facts.hasMajority (f : Facts) : Prop := f.up * 2 > f.repP + f.repD

instance (f : Facts) : Decidable f.canSync := by unfold Facts.canSync; infer_instance
instance (f : Facts) : Decidable f.hasMajority := by unfold Facts.hasMajority; infer_instance

/-- why an operation may change the served state -/
inductive Cause where
  | tick (f : Facts)   -- the periodic check in dr-auto-sync mode, deciding on `f`
  | enable             -- the configuration was switched from majority to dr-auto-sync
  | relabel            -- the label key was changed (documented, deliberate jump to async)
  | init               -- first start in dr-auto-sync mode, nothing persisted yet
  | other
  deriving Repr, DecidableEq

/-- is the transition of the served state from `a` to `b` allowed? -/
def Allowed (c : Cause) (rs : List Report) (a b : Served) : Prop :=
  match c, b.1 with
  | .tick f, .async       => ¬ f.canSync ∧ f.hasMajority ∧ f.timeout = true ∧ a.1 ≠ .async
  | .relabel, .async      => True
  | .tick f, .syncRecover => f.canSync ∧ a.1 = .async
  | .enable, .syncRecover => True
  | .tick _, .sync        => a.1 = .syncRecover ∧ Covered rs a.2
  | .init, .sync          => True
  | _, _                  => False

def allowedB (c : Cause) (rs : List Report) (a b : Served) : Bool :=
  match c, b.1 with
  | .tick f, .async       => decide (¬ f.canSync) && decide f.hasMajority && f.timeout && decide (a.1 ≠ .async)
  | .relabel, .async      => true
  | .tick f, .syncRecover => decide f.canSync && decide (a.1 = .async)
  | .enable, .syncRecover => true
  | .tick _, .sync        => decide (a.1 = .syncRecover) && coveredB rs a.2
  | .init, .sync          => true
  | _, _                  => false

theorem allowedB_iff (c : Cause) (rs : List Report) (a b : Served) :
    allowedB c rs a b = true ↔ Allowed c rs a b := by
  unfold allowedB Allowed
  split <;> simp [coveredB_iff, and_assoc]

/-- what happens, in order, while an operation runs -/
inductive Ev where
  | idFail                                                   -- the id allocator returned an error
  | id (n : Nat)                                             -- an id was obtained
  | offer (st : DrState) (id : Nat) (seen : Served)          -- a status was offered to all members
  | persist (st : DrState) (id : Nat) (ok : Bool) (seen : Served)   -- a status was written to storage
  deriving Repr, DecidableEq

/-- `Run c rs cur used evs fin`: starting with `cur` served and the ids `used` handed out before, the
    events `evs` are a sequence of attempted state switches, each

      obtain an id that was never used before ; offer ; persist – all while the *old* state is still
      served ; and only a successful persist is followed by serving the new state, which must be an
      allowed transition;

    a failed id allocation or persist leaves the served state unchanged; at the end `fin` is served. -/
inductive Run (c : Cause) (rs : List Report) : Served → List Nat → List Ev → Served → Prop where
  | done (cur used) : Run c rs cur used [] cur
  | idFail (cur used evs fin) : Run c rs cur used evs fin → Run c rs cur used (.idFail :: evs) fin
  | failed (cur used evs fin st id) :
      id ∉ used → Run c rs cur (id :: used) evs fin →
      Run c rs cur used (.id id :: .offer st id cur :: .persist st id false cur :: evs) fin
  | switched (cur used evs fin st id) :
      id ∉ used → Allowed c rs cur (st, id) → Run c rs (st, id) (id :: used) evs fin →
      Run c rs cur used (.id id :: .offer st id cur :: .persist st id true cur :: evs) fin

/-- executable checker (the monitor) -/
def runB (c : Cause) (rs : List Report) : Served → List Nat → List Ev → Served → Bool
  | cur, _, [], fin => cur == fin
  | cur, used, .idFail :: evs, fin => runB c rs cur used evs fin
  | cur, used, .id n :: .offer st i s1 :: .persist st' i' ok s2 :: evs, fin =>
    i == n && i' == n && st' == st && s1 == cur && s2 == cur && !used.contains n &&
    (if ok then allowedB c rs cur (st, n) && runB c rs (st, n) (n :: used) evs fin
     else runB c rs cur (n :: used) evs fin)
  | _, _, _, _ => false

theorem runB_iff (c : Cause) (rs : List Report) (cur : Served) (used : List Nat) (evs : List Ev)
    (fin : Served) : runB c rs cur used evs fin = true ↔ Run c rs cur used evs fin := by
  constructor
  · intro h
    fun_induction runB c rs cur used evs fin with
    | case1 cur used fin => exact beq_iff_eq.1 h ▸ .done _ _
    | case2 cur used evs fin ih => exact .idFail _ _ _ _ (ih h)
    | case3 cur used n st i s1 st' i' ok s2 evs fin ih1 ih2 =>
      simp only [Bool.and_eq_true, beq_iff_eq, Bool.not_eq_true', List.contains_eq_mem,
        decide_eq_false_iff_not] at h
      obtain ⟨⟨⟨⟨⟨⟨rfl, rfl⟩, rfl⟩, rfl⟩, rfl⟩, hn⟩, hrest⟩ := h
      cases ok with
      | true =>
        simp only [if_true, Bool.and_eq_true] at hrest
        exact .switched _ _ _ _ _ _ hn ((allowedB_iff _ _ _ _).1 hrest.1) (ih1 hrest.2)
      | false =>
        simp only [Bool.false_eq_true, if_false] at hrest
        exact .failed _ _ _ _ _ _ hn (ih2 hrest)
    | case4 => simp at h
  · intro h
    induction h <;> simp [runB, allowedB_iff, *]

/-- what is observed of one operation -/
structure Obs where
  cause   : Cause
  reports : List Report     -- everything regions have reported up to the end of the operation
  before  : Served          -- served when the operation starts
  evs     : List Ev
  after   : Served          -- served when it has returned

def idsOf (evs : List Ev) : List Nat :=
  evs.filterMap (fun e => match e with | .id n => some n | _ => none)

/-- **the property over a whole history**: every operation is a `Run`; `used` are the ids obtained before it -/
def Holds : List Nat → List Obs → Prop
  | _, [] => True
  | used, o :: os => Run o.cause o.reports o.before used o.evs o.after ∧ Holds (idsOf o.evs ++ used) os

def check : List Nat → List Obs → Bool
  | _, [] => true
  | used, o :: os => runB o.cause o.reports o.before used o.evs o.after && check (idsOf o.evs ++ used) os

theorem check_iff (used : List Nat) (os : List Obs) : check used os = true ↔ Holds used os := by
  induction os generalizing used with
  | nil => simp [check, Holds]
  | cons o os ih => simp [check, Holds, runB_iff, ih]

/-- every performed switch of a `Run` was an allowed transition from the state that was served while
    it was being persisted -/
theorem Run.persist_allowed {c rs cur used evs fin} (h : Run c rs cur used evs fin) (st : DrState) (id : Nat)
    (seen : Served) (hm : Ev.persist st id true seen ∈ evs) : Allowed c rs seen (st, id) := by
  induction h with
  | done cur used => simp at hm
  | idFail _ _ _ _ _ ih | failed _ _ _ _ _ _ _ _ ih => simp at hm; exact ih hm
  | switched cur used evs fin st' id' _ ha _ ih =>
    simp at hm
    rcases hm with ⟨rfl, rfl, rfl⟩ | hm
    · exact ha
    · exact ih hm

end PdModel.Spec.C19
