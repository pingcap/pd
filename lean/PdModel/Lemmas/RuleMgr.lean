import PdModel.Lemmas.RuleMaps
import PdModel.Lemmas.RuleSweep
/-! ruleConfig / ruleConfigPatch as finite maps: what the patched view, trim and commit are, extensionally. -/
namespace PdModel.Rules
open PdModel.Spec.C13

/-- lookup in the patched view: the patch entry if there is one (none = deleted), else the served rule -/
def Patch.findR (c : Config) (p : Patch) (k : K) : Option Rule :=
  match mapGet (·.1) k p.mutR with
  | some kv => kv.2
  | none => getR k c.rules

structure ConfigWF (c : Config) : Prop where
  keys  : KeysNodup Rule.key c.rules
  valid : ∀ r ∈ c.rules, ruleOK r = true
  gkeys : KeysNodup gKey c.groups

structure PatchWF (p : Patch) : Prop where
  keys  : KeysNodup (fun kv : K × Option Rule => kv.1) p.mutR
  self  : ∀ kv ∈ p.mutR, ∀ r, kv.2 = some r → kv.1 = r.key ∧ ruleOK r = true
  gkeys : KeysNodup gKey p.mutG

theorem patchWF_empty : PatchWF {} :=
  ⟨List.Pairwise.nil, fun _ h => (List.not_mem_nil h).elim, List.Pairwise.nil⟩

theorem adjustRule_ok (r r' : Rule) (g : Nat) (h : adjustRule r g = some r') : ruleOK r' = true := by
  unfold adjustRule at h
  split at h
  · cases h
  · dsimp only at h
    generalize (if g ≠ 0 ∧ r.group = 0 then { r with group := g } else r) = x at h
    split at h
    · next hk => cases h; exact hk
    · cases h

theorem adjustRule_of_ok (r : Rule) (h : ruleOK r = true) : adjustRule r 0 = some r := by
  unfold adjustRule
  simp [h]

/-- `mut[k] = v` (`none`: delete) -/
theorem PatchWF.setEntry {p : Patch} (h : PatchWF p) (k : K) (v : Option Rule)
    (hv : ∀ r, v = some r → k = r.key ∧ ruleOK r = true) :
    PatchWF { p with mutR := mapSet (·.1) (k, v) p.mutR } := by
  refine ⟨keysNodup_mapSet _ h.keys, fun kv hkv => ?_, h.gkeys⟩
  rcases (mem_mapSet _ _ kv _).1 hkv with e | ⟨e, _⟩
  · exact e ▸ hv
  · exact h.self kv e

theorem PatchWF.setRule {p : Patch} (h : PatchWF p) (r : Rule) (hr : ruleOK r = true) : PatchWF (p.setRule r) :=
  h.setEntry r.key (some r) fun _ e => Option.some.inj e ▸ ⟨rfl, hr⟩

theorem PatchWF.deleteRule {p : Patch} (h : PatchWF p) (k : K) : PatchWF (p.deleteRule k) :=
  h.setEntry k none fun _ e => nomatch e

theorem PatchWF.setGroup {p : Patch} (h : PatchWF p) (g : Group) : PatchWF (p.setGroup g) :=
  ⟨h.keys, h.self, keysNodup_mapSet _ h.gkeys⟩

theorem PatchWF.deleteRules (l : List Rule) {p : Patch} (h : PatchWF p) :
    PatchWF (l.foldl (fun p r => p.deleteRule r.key) p) :=
  foldl_inv PatchWF _ l p h fun _ r _ h => h.deleteRule r.key

theorem PatchWF.deleteGroups (l : List Group) {p : Patch} (h : PatchWF p) :
    PatchWF (l.foldl (fun p g => p.deleteGroup g.id) p) :=
  foldl_inv PatchWF _ l p h fun _ _ _ h => h.setGroup _

theorem addRules_wf {g : Nat} {l : List Rule} {p p' : Patch} (h : PatchWF p) (e : addRules p g l = some p') :
    PatchWF p' := by
  induction l generalizing p with
  | nil => cases e; exact h
  | cons r rs ih =>
    rw [addRules] at e
    split at e
    · cases e
    · next r' ha => exact ih (h.setRule r' (adjustRule_ok r r' g ha)) e

theorem addBundles_wf {l : List Bundle} {p p' : Patch} (h : PatchWF p) (e : addBundles p l = some p') :
    PatchWF p' := by
  induction l generalizing p with
  | nil => cases e; exact h
  | cons b bs ih =>
    rw [addBundles] at e
    split at e
    · cases e
    · next p1 ha => exact ih (addRules_wf (h.setGroup _) ha) e

theorem patchOf_wf {c : Config} {op : Op} {p : Patch} (h : patchOf c op = some p) : PatchWF p := by
  cases op with
  | setRule r => exact addRules_wf patchWF_empty h
  | deleteRule k => cases h; exact patchWF_empty.deleteRule k
  | setRules rs => exact addRules_wf patchWF_empty h
  | batch ops =>
    rw [patchOf] at h
    split at h
    · cases h
      refine foldl_inv PatchWF _ ops {} patchWF_empty fun p0 o _ h0 => ?_
      cases o with
      | add r =>
        dsimp only
        split
        · next r' ha => exact h0.setRule r' (adjustRule_ok r r' 0 ha)
        · exact h0
      | del k => exact h0.deleteRule k
      | delPrefix g lo hi => exact h0.deleteRules _
    · cases h
  | setGroup g => cases h; exact patchWF_empty.setGroup g
  | deleteGroup id => cases h; exact patchWF_empty.setGroup _
  | setBundle b =>
    refine addBundles_wf ?_ h
    split
    · exact patchWF_empty.deleteRules _
    · exact patchWF_empty
  | setAllBundles bs ov => exact addBundles_wf ((patchWF_empty.deleteRules _).deleteGroups _) h
  | deleteBundle ids => cases h; exact (patchWF_empty.deleteRules _).deleteGroups _
  | getModSet k cnt =>
    rw [patchOf] at h
    split at h
    · cases h
    · exact addRules_wf patchWF_empty h

theorem mem_patch_rules (c : Config) (hc : ConfigWF c) (p : Patch) (hp : PatchWF p) (r : Rule) :
    r ∈ p.rules c ↔ p.findR c r.key = some r := by
  unfold Patch.rules Patch.findR
  rw [List.mem_append, List.mem_filterMap, List.mem_filter]
  constructor
  · rintro (⟨kv, hkv, h2⟩ | ⟨hr, hnone⟩)
    · rw [← (hp.self kv hkv r h2).1, mapGet_of_mem _ p.mutR hp.keys kv hkv]; exact h2
    · rw [Option.isNone_iff_eq_none.1 hnone]
      exact mapGet_of_mem Rule.key c.rules hc.keys r hr
  · intro h
    split at h
    · next kv hm => exact Or.inl ⟨kv, (mapGet_some _ hm).2, h⟩
    · next hm => exact Or.inr ⟨(mapGet_some _ h).2, Option.isNone_iff_eq_none.2 hm⟩

theorem patch_rules_keys (c : Config) (hc : ConfigWF c) (p : Patch) (hp : PatchWF p) :
    KeysNodup Rule.key (p.rules c) := by
  unfold Patch.rules KeysNodup
  rw [List.pairwise_append]
  refine ⟨?_, hc.keys.sublist List.filter_sublist, ?_⟩
  · rw [List.pairwise_filterMap]
    refine hp.keys.imp_of_mem ?_
    intro a b ha hb hab r1 h1 r2 h2
    rw [← (hp.self a ha r1 h1).1, ← (hp.self b hb r2 h2).1]; exact hab
  · intro r1 h1 r2 h2 e
    obtain ⟨kv, hkv, hs⟩ := List.mem_filterMap.1 h1
    have hnone := Option.isNone_iff_eq_none.1 (List.mem_filter.1 h2).2
    rw [← e, ← (hp.self kv hkv r1 hs).1, mapGet_of_mem _ p.mutR hp.keys kv hkv] at hnone
    cases hnone

theorem patch_rules_valid (c : Config) (hc : ConfigWF c) (p : Patch) (hp : PatchWF p) :
    ∀ r ∈ p.rules c, ruleOK r = true := by
  intro r hr
  rcases List.mem_append.1 hr with h | h
  · obtain ⟨kv, hkv, hs⟩ := List.mem_filterMap.1 h
    exact (hp.self kv hkv r hs).2
  · exact hc.valid r (List.mem_filter.1 h).1

def commitRules (mutR : List (K × Option Rule)) (rs : List Rule) : List Rule :=
  mutR.foldl (fun rs kv => match kv.2 with | none => mapDel Rule.key kv.1 rs | some r => setR r rs) rs

def commitGroups (mutG : List Group) (gs : List Group) : List Group := mutG.foldl (fun gs g => setG g gs) gs

theorem commit_eq (c : Config) (p : Patch) :
    p.commit c = ({ rules := commitRules p.mutR c.rules, groups := commitGroups p.mutG c.groups } : Config).adjust := rfl

theorem commitRules_get {mutR : List (K × Option Rule)}
    (hk : KeysNodup (fun kv : K × Option Rule => kv.1) mutR)
    (hs : ∀ kv ∈ mutR, ∀ r, kv.2 = some r → kv.1 = r.key) (rs : List Rule) (k : K) :
    getR k (commitRules mutR rs) =
      match mapGet (fun kv : K × Option Rule => kv.1) k mutR with
      | some kv => kv.2
      | none => getR k rs := by
  unfold commitRules
  refine (foldl_lookup _ _ (fun rs k => getR k rs) (·.2) mutR hk (fun kv hkv rs k => ?_) rs k).trans ?_
  · dsimp only [getR]
    split
    · next hv => rw [mapGet_mapDel, hv]
    · next r hv => rw [setR, mapGet_mapSet, ← hs kv hkv r hv, hv]
  · cases mapGet (fun kv : K × Option Rule => kv.1) k mutR <;> rfl

theorem commitRules_keys (mutR : List (K × Option Rule)) (rs : List Rule) (h : KeysNodup Rule.key rs) :
    KeysNodup Rule.key (commitRules mutR rs) := by
  refine foldl_inv (KeysNodup Rule.key) _ mutR rs h fun rs kv _ h => ?_
  split
  · exact keysNodup_mapDel _ h
  · exact keysNodup_mapSet _ h

theorem commitGroups_get (mutG : List Group) (hk : KeysNodup gKey mutG) (gs : List Group) (id : Nat) :
    getG id (commitGroups mutG gs) = match getG id mutG with | some g => some g | none => getG id gs := by
  unfold getG commitGroups
  refine (foldl_lookup gKey _ (fun gs k => mapGet gKey k gs) some mutG hk
    (fun g _ gs k => mapGet_mapSet gKey g k gs) gs (id, 0)).trans ?_
  cases mapGet gKey (id, 0) mutG <;> rfl

theorem commitGroups_keys (mutG : List Group) (gs : List Group) (h : KeysNodup gKey gs) :
    KeysNodup gKey (commitGroups mutG gs) :=
  foldl_inv (KeysNodup gKey) _ mutG gs h fun _ _ _ h => keysNodup_mapSet _ h

/-! What a group list says about a group is its non-default entry, if any: a default entry and no entry mean the
same (`getGroup_eq`), only non-default groups are stored, and `adjust`, which drops default entries and
re-creates them for the groups that have rules, changes nothing in this respect. -/

def nonDefault (g : Group) : Bool := !g.isDefault

theorem getG_key (id : Nat) (gs : List Group) (g : Group) (h : getG id gs = some g) : g.id = id :=
  congrArg Prod.fst (mapGet_some gKey h).1

theorem getD_filter_nonDefault (o : Option Group) (id : Nat) (h : ∀ g, o = some g → g.id = id) :
    (o.filter nonDefault).getD (defaultGroup id) = o.getD (defaultGroup id) := by
  cases o with
  | none => rfl
  | some g =>
    obtain ⟨gid, idx, ov⟩ := g
    cases h _ rfl
    by_cases h0 : idx = 0 <;> cases ov <;> simp [Option.filter, nonDefault, Group.isDefault, defaultGroup, h0]

theorem getGroup_eq (c : Config) (id : Nat) :
    c.getGroup id = ((getG id c.groups).filter nonDefault).getD (defaultGroup id) :=
  (getD_filter_nonDefault _ id fun g => getG_key id c.groups g).symm

theorem adjust_fold_getG_filter (rules : List Rule) (gs : List Group) (id : Nat) :
    (getG id (rules.foldl (fun gs r => if (getG r.group gs).isSome then gs else setG (defaultGroup r.group) gs) gs)).filter
      nonDefault = (getG id gs).filter nonDefault := by
  induction rules generalizing gs with
  | nil => rfl
  | cons r rs ih =>
    rw [List.foldl_cons, ih]
    split
    · rfl
    · next hn =>
      simp only [getG, setG, mapGet_mapSet, gKey, defaultGroup, Prod.mk.injEq, and_true]
      by_cases e : r.group = id
      · subst e
        have hn' : mapGet gKey (r.group, 0) gs = none := Option.not_isSome_iff_eq_none.1 hn
        rw [if_pos rfl, hn']
        rfl
      · rw [if_neg e]

theorem adjust_getG_filter (c : Config) (h : KeysNodup gKey c.groups) (id : Nat) :
    (getG id c.adjust.groups).filter nonDefault = (getG id c.groups).filter nonDefault := by
  rw [Config.adjust, adjust_fold_getG_filter]
  unfold getG
  rw [mapGet_filter _ _ h]
  cases mapGet gKey (id, 0) c.groups with
  | none => rfl
  | some g => cases hd : g.isDefault <;> simp [Option.filter, nonDefault, hd]

theorem adjust_getGroup {c : Config} (h : KeysNodup gKey c.groups) (id : Nat) :
    c.adjust.getGroup id = c.getGroup id := by
  rw [getGroup_eq, getGroup_eq, adjust_getG_filter c h]

theorem adjust_rules (c : Config) : c.adjust.rules = c.rules := rfl

theorem adjust_gkeys {c : Config} (h : KeysNodup gKey c.groups) : KeysNodup gKey c.adjust.groups :=
  foldl_inv _ _ _ _ (h.sublist List.filter_sublist) fun gs r _ h => by split; exact h; exact keysNodup_mapSet _ h

theorem trim_findR (c : Config) (p : Patch) (hp : PatchWF p) (k : K) : (p.trim c).findR c k = p.findR c k := by
  unfold Patch.findR Patch.trim
  dsimp only
  rw [mapGet_filter _ _ hp.keys]
  cases hm : mapGet (fun kv : K × Option Rule => kv.1) k p.mutR with
  | none => rfl
  | some kv =>
    have hk : kv.1 = k := (mapGet_some _ hm).1
    by_cases he : kv.2 = getR kv.1 c.rules
    · simp [Option.filter, he, hk]
    · simp [Option.filter, he]

theorem trim_getGroup (c : Config) (p : Patch) (hp : PatchWF p) (id : Nat) :
    (p.trim c).getGroup c id = p.getGroup c id := by
  unfold Patch.getGroup Patch.trim getG
  dsimp only
  rw [mapGet_filter _ _ hp.gkeys]
  cases hm : mapGet gKey (id, 0) p.mutG with
  | none => rfl
  | some g =>
    have hid : g.id = id := getG_key id p.mutG g hm
    by_cases he : g = c.getGroup g.id
    · rw [Option.filter, if_neg (by simpa using he), ← hid]
      exact he.symm
    · rw [Option.filter, if_pos (by simpa using he)]

theorem trim_wf (c : Config) (p : Patch) (hp : PatchWF p) : PatchWF (p.trim c) :=
  ⟨hp.keys.sublist List.filter_sublist,
   fun kv hkv => hp.self kv (List.mem_filter.1 hkv).1,
   hp.gkeys.sublist List.filter_sublist⟩

theorem commit_findR (c : Config) (p : Patch) (hp : PatchWF p) (k : K) : getR k (p.commit c).rules = p.findR c k :=
  commitRules_get hp.keys (fun kv hkv r hr => (hp.self kv hkv r hr).1) _ k

theorem commit_getGroup (c : Config) (hc : ConfigWF c) (p : Patch) (hp : PatchWF p) (id : Nat) :
    (p.commit c).getGroup id = p.getGroup c id := by
  rw [commit_eq, adjust_getGroup (commitGroups_keys _ _ hc.gkeys), Config.getGroup, Patch.getGroup,
    commitGroups_get _ hp.gkeys]
  cases getG id p.mutG <;> rfl

/-- what the committed group list says about a group (`getGroup_eq`), as it is stored -/
theorem commit_getG (c : Config) (hc : ConfigWF c) (p : Patch) (hp : PatchWF p) (id : Nat) :
    (getG id (p.commit c).groups).filter nonDefault =
      match getG id p.mutG with
      | some g => (some g).filter nonDefault
      | none => (getG id c.groups).filter nonDefault := by
  rw [commit_eq, adjust_getG_filter _ (commitGroups_keys _ _ hc.gkeys), commitGroups_get _ hp.gkeys]
  cases getG id p.mutG <;> rfl

theorem commit_mem (c : Config) (hc : ConfigWF c) (p : Patch) (hp : PatchWF p) (r : Rule) :
    r ∈ (p.commit c).rules ↔ r ∈ p.rules c := by
  have hk : KeysNodup Rule.key (p.commit c).rules := commitRules_keys _ _ hc.keys
  rw [mem_iff_mapGet Rule.key _ hk, mem_patch_rules c hc p hp, ← commit_findR c p hp]
  rfl

theorem commit_wf (c : Config) (hc : ConfigWF c) (p : Patch) (hp : PatchWF p) : ConfigWF (p.commit c) :=
  ⟨commitRules_keys _ _ hc.keys,
   fun r hr => patch_rules_valid c hc p hp r ((commit_mem c hc p hp r).1 hr),
   adjust_gkeys (commitGroups_keys _ _ hc.gkeys)⟩

theorem ruleOK_range (r : Rule) (h : ruleOK r = true) : r.end_ = 0 ∨ r.start < r.end_ := by
  unfold ruleOK at h
  simp only [Bool.and_eq_true, Bool.not_eq_true', Bool.and_eq_false_imp, decide_eq_true_eq, decide_eq_false_iff_not] at h
  have := h.1.1.1.1.1
  omega

theorem grules_wf (rules : List Rule) (f : Nat → Group) (hk : KeysNodup Rule.key rules)
    (hv : ∀ r ∈ rules, ruleOK r = true) :
    RulesWF (rules.map (fun r => (⟨r, f r.group⟩ : GRule))) ∧ RangeWF (rules.map (fun r => (⟨r, f r.group⟩ : GRule))) := by
  refine ⟨⟨List.pairwise_map.2 hk, ?_⟩, ?_⟩
  · intro a ha b hb hab
    obtain ⟨ra, _, rfl⟩ := List.mem_map.1 ha
    obtain ⟨rb, _, rfl⟩ := List.mem_map.1 hb
    exact congrArg f hab
  · intro x hx
    obtain ⟨r, hr, rfl⟩ := List.mem_map.1 hx
    exact ruleOK_range r (hv r hr)

theorem ConfigWF.grules {c : Config} (hc : ConfigWF c) : RulesWF c.grules ∧ RangeWF c.grules :=
  grules_wf c.rules c.getGroup hc.keys hc.valid

theorem build_ext (rs1 rs2 : List Rule) (f1 f2 : Nat → Group) (hk1 : KeysNodup Rule.key rs1)
    (hk2 : KeysNodup Rule.key rs2) (hv : ∀ r ∈ rs1, ruleOK r = true) (hm : ∀ r, r ∈ rs1 ↔ r ∈ rs2)
    (hf : ∀ id, f1 id = f2 id) :
    buildRuleList (rs1.map fun r => ⟨r, f1 r.group⟩) = buildRuleList (rs2.map fun r => ⟨r, f2 r.group⟩) := by
  have h1 := grules_wf rs1 f1 hk1 hv
  have hp : rs1.Perm rs2 := (List.perm_ext_iff_of_nodup hk1.nodup hk2.nodup).2 hm
  rw [funext hf] at h1 ⊢
  exact build_iteration_order_independent _ _ h1.1 h1.2 (hp.map _)

theorem build_congr (c1 c2 : Config) (h1 : ConfigWF c1) (h2 : ConfigWF c2)
    (hr : ∀ k, getR k c1.rules = getR k c2.rules) (hg : ∀ id, c1.getGroup id = c2.getGroup id) :
    buildRuleList c1.grules = buildRuleList c2.grules :=
  build_ext _ _ _ _ h1.keys h2.keys h1.valid
    (fun r => by rw [mem_iff_mapGet Rule.key _ h1.keys, mem_iff_mapGet Rule.key _ h2.keys]; exact iff_of_eq (congrArg (· = some r) (hr r.key))) hg

/-- the index built from the patched view is the index of the committed configuration: trimming the patch first
    changes neither the rules of the patched view nor its groups -/
theorem commit_build (c : Config) (hc : ConfigWF c) (p : Patch) (hp : PatchWF p) :
    buildRuleList ((p.trim c).commit c).grules = buildRuleList (p.grules c) :=
  have hp' := trim_wf c p hp
  have hc' := commit_wf c hc _ hp'
  build_ext _ _ _ _ hc'.keys (patch_rules_keys c hc p hp) hc'.valid
    (fun r => by rw [commit_mem c hc _ hp', mem_patch_rules c hc _ hp', trim_findR c p hp, mem_patch_rules c hc p hp])
    fun id => (commit_getGroup c hc _ hp' id).trans (trim_getGroup c p hp id)

end PdModel.Rules
