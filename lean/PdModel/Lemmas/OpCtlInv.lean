import PdModel.Lemmas.OpCtl
/-! The invariants of the controller model and the elementary state changes that keep them.

    `Moves c c'` collects what every controller function guarantees of the state it returns.  The functions
    are compositions of five elementary changes: a change outside operators / cache / running map / records
    (`Moves.of_frame`), a new version of a stored operator (`moves_setOp`), `buryOperator` (`moves_bury`: the
    version it stores, then the record), an operator taken out of the running map, ended and buried
    (`moves_leave`), an operator registered for its region (`moves_register`). -/
namespace PdModel.OpCtl
open PdModel.Steps PdModel.Spec

/-- every STARTED operator is registered as the running operator of its region -/
def Inv (c : Ctl) : Prop :=
  ∀ k o, c.getOp k = some o → o.status = .started → c.runningOn o.region = some k

/-- every record names an existing operator of that region in an end status -/
def RecInv (c : Ctl) : Prop :=
  ∀ r id, (r, id) ∈ c.records → ∃ o, c.getOp id = some o ∧ o.region = r ∧ o.status.isEnd = true

/-- the record of a region, as `GetOperatorStatus` looks it up (`oc.opRecords.Get`) -/
def Ctl.recordOn (c : Ctl) (r : Nat) : Option Nat := (c.records.find? (fun x => x.1 == r)).map (·.2)

def HasRec (c : Ctl) (r : Nat) : Prop := c.records.any (fun x => x.1 == r) = true

theorem inv_init : Inv ({} : Ctl) := by
  intro k o ho; cases ho

theorem recInv_empty : RecInv ({} : Ctl) := by
  intro r k hk; cases hk

theorem hasRec_of_recordOn {c : Ctl} {r id : Nat} (h : c.recordOn r = some id) : HasRec c r := by
  obtain ⟨x, hf, _⟩ := Option.map_eq_some_iff.1 h
  exact List.any_eq_true.2 ⟨x, List.mem_of_find?_eq_some hf, (List.find?_some hf :)⟩

theorem hasRec_congr {c c' : Ctl} {r : Nat} (h : c'.records = c.records) (hr : HasRec c r) : HasRec c' r := by
  unfold HasRec; rw [h]; exact hr

theorem inv_congr {c c' : Ctl} (hi : Inv c) (h1 : c'.ops = c.ops) (h2 : c'.running = c.running) : Inv c' := by
  intro k o ho hst
  unfold Ctl.getOp at ho; unfold Ctl.runningOn
  rw [h1] at ho; rw [h2]
  exact hi k o ho hst

/-- a record stays sound while its operator moves along the matrix: an ended operator cannot move -/
theorem recInv_of_le {c c' : Ctl} (hle : Le c c') (hrec : c'.records = c.records) (hi : RecInv c) :
    RecInv c' := by
  intro r k hk
  obtain ⟨x, gx, rx, ex⟩ := hi r k (hrec ▸ hk)
  obtain ⟨x', gx', rel⟩ := hle.some k x gx
  exact ⟨x', gx', rel.region.trans rx, by rw [reach_from_end rel.status ex]; exact ex⟩

theorem bury_eq {c : Ctl} {id : Nat} {o : Op} (h : c.getOp id = some o) :
    bury c id = { c.setOp (buried o) with
                  records := ((buried o).region, id) :: c.records.filter (fun x => x.1 != (buried o).region) } := by
  unfold bury; rw [h]; rfl

theorem bury_of_none {c : Ctl} {id : Nat} (h : c.getOp id = none) : bury c id = c := by
  unfold bury; rw [h]

theorem getOp_bury {c : Ctl} {id : Nat} {o : Op} (h : c.getOp id = some o) (j : Nat) :
    (bury c id).getOp j = if j = id then some (buried o) else c.getOp j := by
  rw [bury_eq h]; exact getOp_setOp_of h (calm_buried o).rel.id j

theorem runningOn_bury (c : Ctl) (id r : Nat) : (bury c id).runningOn r = c.runningOn r := by
  unfold bury; split <;> rfl

theorem recordOn_bury {c : Ctl} {id : Nat} {o : Op} (h : c.getOp id = some o) :
    (bury c id).recordOn o.region = some id := by
  rw [bury_eq h, (calm_buried o).rel.region]
  simp [Ctl.recordOn]

/-- `c'` is what a controller function made of `c`.  The invariants are kept rather than assumed, so that
    the lemmas compose without side conditions. -/
structure Moves (c c' : Ctl) : Prop where
  le : Le c c'
  inv : Inv c → Inv c'
  recInv : RecInv c → RecInv c'
  hasRec : ∀ r, HasRec c r → HasRec c' r

theorem Moves.refl (c : Ctl) : Moves c c := ⟨Le.refl c, id, id, fun _ h => h⟩

theorem Moves.trans {a b c : Ctl} (h1 : Moves a b) (h2 : Moves b c) : Moves a c :=
  ⟨h1.le.trans h2.le, fun h => h2.inv (h1.inv h), fun h => h2.recInv (h1.recInv h),
   fun r h => h2.hasRec r (h1.hasRec r h)⟩

theorem Moves.ite {α : Type} {c : Ctl} {b : Prop} [Decidable b] {x y : Ctl × α} (hx : Moves c x.1)
    (hy : Moves c y.1) : Moves c (if b then x else y).1 := by
  split <;> assumption

theorem Moves.of_le {c c' : Ctl} (hle : Le c c') (hrec : c'.records = c.records) (hinv : Inv c → Inv c') :
    Moves c c' :=
  ⟨hle, hinv, recInv_of_le hle hrec, fun _ => hasRec_congr hrec⟩

theorem Moves.of_frame {c c' : Ctl}
    (h : c' = { c with waiting := c'.waiting, wopCount := c'.wopCount, queue := c'.queue, seq := c'.seq,
                       used := c'.used }) : Moves c c' := by
  rw [h]; exact .of_le (Le.of_eq rfl rfl rfl) rfl (inv_congr · rfl rfl)

theorem moves_setOp {c : Ctl} {k : Nat} {o o' : Op} (h : c.getOp k = some o) (hc : Calm o o') :
    Moves c (c.setOp o') := by
  refine .of_le (le_setOp h hc.rel) rfl fun hi j x hx hst => ?_
  rw [getOp_setOp_of h hc.rel.id] at hx
  split at hx
  · next e => cases hx; rw [runningOn_setOp, hc.rel.region, e]; exact hi k o h (hc.noStart hst)
  · exact hi j x hx hst

/-- `oc.opRecords.Put(op)` (keyed by `op.RegionID()`) for an ended operator -/
theorem moves_record {c : Ctl} {id : Nat} {x : Op} (h : c.getOp id = some x) (he : x.status.isEnd = true) :
    Moves c { c with records := (x.region, id) :: c.records.filter (fun y => y.1 != x.region) } := by
  refine ⟨Le.of_eq rfl rfl rfl, (inv_congr · rfl rfl), fun hi r k hk => ?_, fun r hr => ?_⟩
  · rcases List.mem_cons.1 hk with hk | hk
    · cases hk; exact ⟨x, h, rfl, he⟩
    · exact hi r k (List.mem_filter.1 hk).1
  · obtain ⟨y, hy, hyr⟩ := List.any_eq_true.1 hr
    by_cases e : x.region = r
    · exact List.any_eq_true.2 ⟨_, List.mem_cons_self, beq_iff_eq.2 e⟩
    · refine List.any_eq_true.2 ⟨y, List.mem_cons_of_mem _ (List.mem_filter.2 ⟨hy, ?_⟩), hyr⟩
      rw [beq_iff_eq.1 hyr]; exact bne_iff_ne.2 (Ne.symm e)

theorem moves_bury (c : Ctl) (id : Nat) : Moves c (bury c id) := by
  cases h : c.getOp id with
  | none => rw [bury_of_none h]; exact Moves.refl c
  | some o =>
    rw [bury_eq h]
    exact (moves_setOp h (calm_buried o)).trans
      (moves_record (by rw [getOp_setOp_of h (calm_buried o).rel.id, if_pos rfl]) (buried_isEnd o))

/-- the common shape of every place that takes an operator out of the running map (`RemoveOperator`, through which
    the stale and timeout branches of `Dispatch` go; the replacement in `addOperatorLocked`; the unexpected-status
    branch of `Dispatch`; the vanished region in `PushOperators`): `removeOperatorLocked(op)`, then a status move,
    then `buryOperator(op)`.  Whatever move `dst` is
    attempted, and whether or not it is allowed, `bury` stores an ended operator. -/
theorem getOp_leave {c : Ctl} {k : Nat} {o : Op} (dst : Status) (h : c.getOp k = some o) (j : Nat) :
    (bury ((removeLocked c o).1.setOp (o.to dst).1) k).getOp j =
      if j = k then some (buried (o.to dst).1) else c.getOp j := by
  have h1 := (getOp_removeLocked c o k).trans h
  have h2 := getOp_setOp_of h1 (rel_to o dst).id
  rw [getOp_bury (by rw [h2, if_pos rfl])]
  split
  · rfl
  · next e => rw [h2, if_neg e, getOp_removeLocked]

theorem moves_leave {c : Ctl} {k : Nat} {o : Op} (dst : Status) (h : c.getOp k = some o) :
    Moves c (bury ((removeLocked c o).1.setOp (o.to dst).1) k) := by
  have h1 := (getOp_removeLocked c o k).trans h
  have hrec : ((removeLocked c o).1.setOp (o.to dst).1).records = c.records := by rw [removeLocked_fst]; rfl
  have hle : Le c ((removeLocked c o).1.setOp (o.to dst).1) :=
    Le.trans (by rw [removeLocked_fst]; exact Le.of_eq rfl rfl rfl) (le_setOp h1 (rel_to o dst))
  refine ⟨hle.trans (moves_bury _ k).le, fun hi j x hx hst => ?_,
    fun hi => (moves_bury _ k).recInv (recInv_of_le hle hrec hi),
    fun r hr => (moves_bury _ k).hasRec r (hasRec_congr hrec hr)⟩
  rw [getOp_leave dst h] at hx
  split at hx
  · cases hx; exact absurd hst (ne_started_of_end (buried_isEnd _))
  · next e =>
    -- another STARTED operator runs on a region of its own
    have hrun := hi j x hx hst
    rw [runningOn_bury, runningOn_setOp, runningOn_removeLocked, if_neg, hrun]
    rintro ⟨h3, h4⟩
    rw [h4, h3, getOp_some h] at hrun
    exact e (Option.some.inj hrun).symm

theorem leave_site_recorded {c : Ctl} {k : Nat} {o : Op} (dst : Status) (h : c.getOp k = some o)
    (hrun : c.runningOn o.region = some k) :
    ∃ o', (bury ((removeLocked c o).1.setOp (o.to dst).1) k).getOp k = some o' ∧
      o'.status.isEnd = true ∧ o'.region = o.region ∧
      (bury ((removeLocked c o).1.setOp (o.to dst).1) k).recordOn o.region = some k ∧
      (bury ((removeLocked c o).1.setOp (o.to dst).1) k).runningOn o.region = none := by
  have h1 := (getOp_removeLocked c o k).trans h
  refine ⟨_, by rw [getOp_leave dst h, if_pos rfl], buried_isEnd _,
    (calm_buried _).rel.region.trans (rel_to o dst).region, ?_, ?_⟩
  · rw [← (rel_to o dst).region]
    exact recordOn_bury (by rw [getOp_setOp_of h1 (rel_to o dst).id, if_pos rfl])
  · rw [runningOn_bury, runningOn_setOp, runningOn_removeLocked, if_pos ⟨by rw [getOp_some h]; exact hrun, rfl⟩]

theorem moves_register {c : Ctl} {k : Nat} {o0 o : Op} (h : c.getOp k = some o0) (hr : Rel o0 o)
    (hfree : ∀ j x, c.runningOn o.region = some j → c.getOp j = some x → x.status ≠ .started) :
    Moves c { c.setOp o with running := c.running.filter (fun x => x.1 != o.region) ++ [(o.region, o.id)] } := by
  refine .of_le ((le_setOp h hr).trans (Le.of_eq rfl rfl rfl)) rfl fun hi j x hx hst => ?_
  have hx' : (c.setOp o).getOp j = some x := hx
  rw [getOp_setOp_of h hr.id] at hx'
  refine (runningOn_register (c.setOp o) o.region o.id x.region).trans ?_
  split at hx'
  · next e => cases hx'; rw [if_pos rfl, hr.id, getOp_some h, e]
  · -- another STARTED operator is registered for its region, which `hfree` says is not this one
    have hrun := hi j x hx' hst
    rw [if_neg (fun e : x.region = o.region => hfree j x (e ▸ hrun) hx' hst)]; exact hrun

end PdModel.OpCtl
