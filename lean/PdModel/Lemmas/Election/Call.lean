import PdModel.Lemmas.Election.Etcd
/-! One call of one contender (`loc`): what it does to the store and to the contender's own state, and the
    three things the invariants of whole histories need of it: which lease the contender refers to afterwards
    (`LidStep`), what it guarantees to the other contenders (`Guar`), and that it keeps the contender's own part
    of the faithful-execution invariant (`LF`); `loc_ok` establishes the three in one pass over the calls. -/
namespace PdModel.Election

/-- id of the lease a contender believes to own (0 = none) -/
def lid (c : Cont) : Nat := match c.lease with | some l => l.id | none => 0

theorem lid_of_some {c : Cont} {l : Lease} (h : c.lease = some l) : lid c = l.id := by
  simp only [lid, h]

theorem check_iff {c : Cont} :
    c.check = true ↔ ∃ l, c.lease = some l ∧ l.expire.expiredAt c.clock = false := by
  unfold Cont.check
  cases c.lease <;> simp

theorem not_busy {c : Cont} (h : ¬ (c.pending.isSome || c.closing.isSome) = true) :
    c.pending = none ∧ c.closing = none := by
  simpa using h

theorem closeLease_c (x : Loc) (rv : Bool) :
    (closeLease x rv).c = { x.c with lease := x.c.lease.map fun l => { l with expire := .closed } } := by
  -- with `x` taken apart both sides are structure literals, equal field by field
  rcases x with ⟨e, n, ⟨k, m, v, _ | l, t, ca, ti, w, p, wa, cl, ib, ie⟩⟩ <;> rfl

theorem closeLease_etcd (x : Loc) (rv : Bool) :
    (closeLease x rv).etcd = if rv then x.etcd.revoke (lid x.c) else x.etcd := by
  rcases x with ⟨e, n, ⟨k, m, v, _ | l, t, ca, ti, w, p, wa, cl, ib, ie⟩⟩ <;> cases rv <;> rfl

theorem closeLease_check (x : Loc) (rv : Bool) : (closeLease x rv).c.check = false := by
  rw [closeLease_c]
  cases x.c.lease <;> simp [Cont.check, Expire.expiredAt]

theorem resetStep_check (x : Loc) (rv : Bool) : (resetStep x rv).c.check = false :=
  closeLease_check _ _

theorem loc_delkey (x : Loc) (f rv) :
    loc x (.delkey f rv) =
      if x.c.pending.isSome = true then (x, .bad) else
      match f with
      | .none => (resetStep { x with etcd := x.etcd.apply1 (.del (.leader x.c.key)) } rv, .ok)
      | .errAfter => ({ x with etcd := x.etcd.apply1 (.del (.leader x.c.key)) }, .err)
      | .errBefore => (x, .err) := by
  cases f <;> rfl

theorem campaignCmps_all (e : Etcd) (c : Cont) (extra : List Cmp) :
    (campaignCmps c extra).all e.holds = (extra.all e.holds && (e.kv (.leader c.key)).isNone) := by
  simp [campaignCmps, List.all_append, Etcd.holds]

/-- Won or lost; a lost one may still have put the record on the absent key (answer lost) before the lease is
    closed. -/
theorem campaignTxn_cases (x : Loc) (l : Lease) (extra : List Cmp) (f : Fault) (rv : Bool) :
    let op := EOp.put (.leader x.c.key) x.c.value l.id
    let c0 : Cont := { x.c with pending := none }
    let won := f = .none ∧ x.etcd.kv (.leader x.c.key) = none ∧ extra.all x.etcd.holds = true ∧
      (l.id = 0 ∨ x.etcd.live l.id = true)
    (won ∧ campaignTxn x l extra f rv = ({ x with etcd := x.etcd.apply1 op, c := { c0 with won := true } }, .ok)) ∨
    (¬ won ∧ ∃ e1 o, o ≠ .ok ∧
      (e1 = x.etcd ∨ e1 = x.etcd.apply1 op ∧ x.etcd.kv (.leader x.c.key) = none ∧ x.etcd.opOk op = true) ∧
      campaignTxn x l extra f rv = (closeLease { x with etcd := e1, c := c0 } rv, o)) := by
  intro op c0 won
  have hop : x.etcd.opOk op = true ↔ (l.id = 0 ∨ x.etcd.live l.id = true) := by simp [op, Etcd.opOk]
  have hcm : (campaignCmps x.c extra).all x.etcd.holds = true ↔
      x.etcd.kv (.leader x.c.key) = none ∧ extra.all x.etcd.holds = true := by
    rw [campaignCmps_all, Bool.and_eq_true, Option.isNone_iff_eq_none, and_comm]
  unfold campaignTxn
  rw [runTxn_single]
  by_cases ha : f ≠ .errBefore ∧ (campaignCmps x.c extra).all x.etcd.holds = true ∧ x.etcd.opOk op = true
  · rw [if_pos ha]
    by_cases hf : f = .none
    · rw [if_pos hf]
      exact .inl ⟨⟨hf, (hcm.1 ha.2.1).1, (hcm.1 ha.2.1).2, hop.1 ha.2.2⟩, rfl⟩
    · rw [if_neg hf]
      exact .inr ⟨fun hw => hf hw.1, _, .err, Out.noConfusion, .inr ⟨rfl, (hcm.1 ha.2.1).1, ha.2.2⟩, rfl⟩
  · rw [if_neg ha]
    have hw : ¬ won := fun hw => ha ⟨by rw [hw.1]; exact Fault.noConfusion, hcm.2 ⟨hw.2.1, hw.2.2.1⟩, hop.2 hw.2.2.2⟩
    by_cases hc : f = .none ∧ (campaignCmps x.c extra).all x.etcd.holds = false
    · rw [if_pos hc]
      exact .inr ⟨hw, _, .conflict, Out.noConfusion, .inl rfl, rfl⟩
    · rw [if_neg hc]
      exact .inr ⟨hw, _, .err, Out.noConfusion, .inl rfl, rfl⟩

/-- on the contender's own view of the store; `campaign_iff_absent` (Props/C03) reads it on a step of the whole state -/
theorem campaignTxn_spec (x : Loc) (l : Lease) (extra : List Cmp) (f : Fault) (rv : Bool) (hl : x.c.lease = some l) :
    let r := campaignTxn x l extra f rv
    (r.2 = .ok ↔ f = .none ∧ x.etcd.kv (.leader x.c.key) = none ∧ extra.all x.etcd.holds = true ∧
        (l.id = 0 ∨ x.etcd.live l.id = true)) ∧
    (r.2 = .ok → r.1.etcd.kv (.leader x.c.key) = some ⟨x.c.value, l.id⟩) ∧
    (r.2 ≠ .ok → rv = true → l.id ≠ 0 →
        r.1.etcd.kv (.leader x.c.key) = x.etcd.kv (.leader x.c.key) ∨
        (x.etcd.kv (.leader x.c.key)).map (·.lease) = some l.id) := by
  intro r
  rcases campaignTxn_cases x l extra f rv with ⟨hw, e⟩ | ⟨hw, e1, o, ho, he1, e⟩ <;>
    (have hr : r = _ := e; clear_value r; subst hr)
  · exact ⟨⟨fun _ => hw, fun _ => rfl⟩, fun _ => if_pos rfl, fun h => absurd rfl h⟩
  · refine ⟨⟨fun h => absurd h ho, fun h => absurd h hw⟩, fun h => absurd h ho, fun _ hrv hid => ?_⟩
    subst hrv
    rw [closeLease_etcd, if_pos rfl, lid_of_some (c := { x.c with pending := none }) hl]
    rcases he1 with rfl | ⟨rfl, habs, hop⟩
    · rcases revoke_kv_cases x.etcd l.id (.leader x.c.key) with h | h
      · exact .inl h
      · exact .inr h.2.1
    · -- the put went through although the answer was lost: the record leaves again with the revoked lease
      left
      have hlive : x.etcd.live l.id = true := by simpa [Etcd.opOk, hid] using hop
      rw [habs, revoke_kv, apply1_live, apply1_put_kv]
      simp [hid, hlive]

theorem grantStep_parked (x : Loc) (ttl extra) (h : ¬ ttl > maxLeaseTTL) :
    (grantStep x ttl extra).1 =
      { x with etcd := x.etcd.grant.1
               c := { x.c with value := x.c.member, won := false, pending := some extra,
                               lease := some { id := x.etcd.granted + 1, ttl := ttl, expire := .at (x.c.clock + ttl) } } } := by
  simp only [grantStep, if_neg h, Etcd.grant]

theorem loc_campaign (x : Loc) (ttl extra f rv) :
    loc x (.campaign ttl extra f rv) =
      if (x.c.pending.isSome || x.c.closing.isSome) = true then (x, .bad)
      else if ttl > maxLeaseTTL then grantStep x ttl extra
      else campaignTxn (grantStep x ttl extra).1
        { id := x.etcd.granted + 1, ttl := ttl, expire := .at (x.c.clock + ttl) } extra f rv := by
  by_cases h : ttl > maxLeaseTTL <;> simp [loc, grantStep, h, finishStep, Etcd.grant]

/-- the writer's comparison with the leader record holds -/
def owns (x : Loc) (w : WKind) : Bool :=
  match w with
  | .idRebase => x.etcd.holds (.valueEq (.leader x.c.key) x.c.member)
  | _ => x.etcd.holds (leaderCmp x.c)

/-- the single operation of a guarded write -/
def writeOp (x : Loc) (w : WKind) : EOp :=
  match (writeTxn x w).2 with
  | [op] => op
  | _ => .del .enc

theorem writeTxn_snd (x : Loc) (w : WKind) : (writeTxn x w).2 = [writeOp x w] := by
  cases w <;> first | rfl | (simp only [writeOp, writeTxn]; cases x.etcd.kv (.allocId x.c.key) <;> rfl)

theorem writeOp_ok (x : Loc) (w : WKind) (e : Etcd) : e.opOk (writeOp x w) = true := by
  cases w <;> first | rfl | (simp only [writeOp, writeTxn]; cases x.etcd.kv (.allocId x.c.key) <;> rfl)

theorem writeOp_not_leader (x : Loc) (w : WKind) (k : Nat) : (writeOp x w).key ≠ .leader k := by
  intro h
  cases w <;> first
    | cases h
    | (simp only [writeOp, writeTxn] at h; cases hk : x.etcd.kv (.allocId x.c.key) <;> rw [hk] at h <;> cases h)

theorem writeTxn_cmps_all (x : Loc) (w : WKind) :
    (writeTxn x w).1.all x.etcd.holds = owns x w := by
  cases w <;> simp [writeTxn, owns]
  split <;> simp_all [Etcd.holds]

theorem writeStep_eq (x : Loc) (w : WKind) (f : Fault) :
    writeStep x w f =
      if w = .encRotate ∧ x.c.check = false then (x, .noop)
      else if f ≠ .errBefore ∧ owns x w = true then
        ({ x with etcd := x.etcd.apply1 (writeOp x w), stamp := if w.opaque then x.stamp + 1 else x.stamp,
                  c := if w = .tsSync ∧ f = .none then { x.c with tsoInit := true } else x.c },
         if f = .none then .ok else .err)
      else (x, if f = .none ∧ owns x w = false then .conflict else .err) := by
  unfold writeStep
  by_cases h0 : w = .encRotate ∧ x.c.check = false
  · simp [h0]
  · have h0' : ¬ ((decide (w = .encRotate) && !x.c.check) = true) := by simpa using h0
    rw [if_neg h0, if_neg h0', show writeTxn x w = ((writeTxn x w).1, [writeOp x w]) by rw [← writeTxn_snd]]
    simp only [runTxn_single, writeTxn_cmps_all, writeOp_ok, and_true]
    by_cases hw : w = .tsSync
    · subst hw
      by_cases ho : owns x .tsSync = true <;> cases f <;> simp [ho, WKind.opaque]
    · by_cases ho : owns x w = true <;> cases f <;> simp [ho, hw]

theorem writeStep_cases (x : Loc) (w : WKind) (f : Fault) :
    (writeStep x w f).1 = x ∨
    ((writeStep x w f).1.etcd = x.etcd.apply1 (writeOp x w) ∧
      ((writeStep x w f).1.c = x.c ∨ (w = .tsSync ∧ (writeStep x w f).1.c = { x.c with tsoInit := true }))) := by
  rw [writeStep_eq]
  by_cases h0 : w = .encRotate ∧ x.c.check = false
  · rw [if_pos h0]; exact .inl rfl
  · rw [if_neg h0]
    by_cases ha : f ≠ .errBefore ∧ owns x w = true
    · rw [if_pos ha]
      refine .inr ⟨rfl, ?_⟩
      by_cases ht : w = .tsSync ∧ f = .none
      · exact .inr ⟨ht.1, if_pos ht⟩
      · exact .inl (if_neg ht)
    · rw [if_neg ha]; exact .inl rfl

theorem writeStep_ok_iff (x : Loc) (w : WKind) (f : Fault) :
    (writeStep x w f).2 = .ok ↔ f = .none ∧ owns x w = true ∧ ¬ (w = .encRotate ∧ x.c.check = false) := by
  rw [writeStep_eq]
  by_cases h0 : w = .encRotate ∧ x.c.check = false
  · simp [h0]
  · by_cases ho : owns x w = true <;> cases f <;> simp [h0, ho]

theorem writeStep_rejected (x : Loc) (w : WKind) (f : Fault) (hown : owns x w = false) :
    (writeStep x w f).1 = x ∧ (writeStep x w f).2 ≠ .ok ∧ ∀ n, (writeStep x w f).2 ≠ .gotId n := by
  have ha : ¬ (f ≠ .errBefore ∧ owns x w = true) := fun h => by rw [hown] at h; cases h.2
  rw [writeStep_eq]
  by_cases h0 : w = .encRotate ∧ x.c.check = false
  · rw [if_pos h0]; exact ⟨rfl, nofun, nofun⟩
  · rw [if_neg h0, if_neg ha]
    exact ⟨rfl, by split <;> nofun, fun n => by split <;> nofun⟩

def LWf (c : Cont) : Prop :=
  (c.pending.isSome → lid c ≠ 0) ∧
  (∀ l, c.lease = some l → (l.expire = .unset → l.id = 0) ∧ (∀ t, l.expire = .at t → l.id ≠ 0))

/-- what a call may do to the lease a contender refers to: keep it, drop it, or take one granted during the call -/
structure LidStep (x z : Loc) : Prop where
  granted : x.etcd.granted ≤ z.etcd.granted
  key     : z.c.key = x.c.key
  member  : z.c.member = x.c.member
  wf      : LWf x.c → LWf z.c
  ref     : lid z.c = lid x.c ∨ lid z.c = 0 ∨ (x.etcd.granted < lid z.c ∧ lid z.c ≤ z.etcd.granted)

theorem LidStep.refl (x : Loc) : LidStep x x := ⟨Nat.le_refl _, rfl, rfl, id, .inl rfl⟩

/-- `h2` after `h1`; the later block comes first so that its shape fixes the state in between -/
theorem LidStep.after {x y z : Loc} (h2 : LidStep y z) (h1 : LidStep x y) : LidStep x z := by
  refine ⟨Nat.le_trans h1.granted h2.granted, h2.key.trans h1.key, h2.member.trans h1.member,
    fun h => h2.wf (h1.wf h), ?_⟩
  rcases h2.ref with e | e | ⟨a, b⟩
  · rw [e]
    exact h1.ref.imp_right (.imp_right (.imp_right fun b => Nat.le_trans b h2.granted))
  · exact .inr (.inl e)
  · exact .inr (.inr ⟨Nat.lt_of_le_of_lt h1.granted a, b⟩)

/-- no lease is granted and the lease object stays -/
theorem LidStep.of_eq {y z : Loc} (hg : z.etcd.granted = y.etcd.granted) (hl : z.c.lease = y.c.lease)
    (hp : z.c.pending = y.c.pending ∨ z.c.pending = none) (hk : z.c.key = y.c.key)
    (hm : z.c.member = y.c.member) : LidStep y z := by
  have hlid : lid z.c = lid y.c := by simp only [lid, hl]
  refine ⟨Nat.le_of_eq hg.symm, hk, hm, fun hw => ⟨fun h => ?_, by rw [hl]; exact hw.2⟩, .inl hlid⟩
  rw [hlid]
  rcases hp with hp | hp <;> rw [hp] at h
  · exact hw.1 h
  · cases h

/-- the stored expiry becomes the zero time of `Close`, or a time if the Grant of that lease had succeeded -/
theorem LidStep.of_expire {y z : Loc} {l : Lease} {ex : Expire} (hg : z.etcd.granted = y.etcd.granted)
    (hy : y.c.lease = some l) (hz : z.c.lease = some { l with expire := ex })
    (hex : ex = .closed ∨ (l.id ≠ 0 ∧ ∃ t, ex = .at t))
    (hp : z.c.pending = y.c.pending ∨ z.c.pending = none) (hk : z.c.key = y.c.key)
    (hm : z.c.member = y.c.member) : LidStep y z := by
  have hlid : lid z.c = lid y.c := by rw [lid_of_some hy, lid_of_some hz]
  refine ⟨Nat.le_of_eq hg.symm, hk, hm, fun hw => ⟨fun h => ?_, fun l' hl' => ?_⟩, .inl hlid⟩
  · rw [hlid]
    rcases hp with hp | hp <;> rw [hp] at h
    · exact hw.1 h
    · cases h
  · obtain rfl : _ = l' := Option.some.inj (hz.symm.trans hl')
    rcases hex with rfl | ⟨hid, t, rfl⟩
    · exact ⟨Expire.noConfusion, fun _ => Expire.noConfusion⟩
    · exact ⟨Expire.noConfusion, fun _ _ => hid⟩

theorem closeLease_lidStep (x : Loc) (rv : Bool) : LidStep x (closeLease x rv) := by
  unfold closeLease
  cases h : x.c.lease with
  | none => exact .refl x
  | some l => exact .of_expire (by cases rv <;> simp) h rfl (.inl rfl) (.inl rfl) rfl rfl

/-- what the faithful-execution invariant says about one contender against the store -/
structure LF (e : Etcd) (c : Cont) : Prop where
  live  : ∀ l, c.lease = some l → l.id ≠ 0 → l.expire.expiredAt c.clock = false → e.live l.id = true
  won   : c.won = true → ∃ l, c.lease = some l ∧ l.id ≠ 0 ∧ c.pending = none ∧
            (e.live l.id = true → e.kv (.leader c.key) = some ⟨c.member, l.id⟩)
  serve : (c.tsoInit = true ∨ c.cache = c.member) → c.check = true → c.won = true
  pend  : c.pending.isSome = true → c.value = c.member ∧ c.won = false
  mem   : c.member ≠ 0
  clos  : c.closing.isSome = true → c.won = false ∧ c.pending = none ∧
            ∀ l, c.lease = some l → l.expire = .closed

/-- what the invariant needs of the call-order / clock assumptions, as seen by the acting contender -/
def LPre (x : Loc) : LOp → Prop
  | .clock t => x.c.clock ≤ t
  | .campaign _ _ _ _ | .gcampaign _ _ => x.c.cache ≠ x.c.member ∧ x.c.tsoInit = false
  | .keep | .enable | .write .tsSync _ => x.c.won = true
  | .delkey _ _ => x.c.won = false ∧ ∀ y, x.etcd.kv (.leader x.c.key) = some y → y.val = x.c.member
  | .observe => x.c.won = false
  | _ => True

theorem expiredAt_mono (x : Expire) (a b : Nat) (hab : a ≤ b) (h : x.expiredAt b = false) :
    x.expiredAt a = false := by
  cases x <;> simp_all [Expire.expiredAt]; omega

theorem LF.live_of_check {e : Etcd} {c : Cont} {l : Lease} (h : LF e c) (hl : c.lease = some l) (hne : l.id ≠ 0)
    (hck : c.check = true) : e.live l.id = true :=
  h.live l hl hne (by simpa [hl] using check_iff.1 hck)

theorem LF.of_resigned (e : Etcd) {c : Cont} (hw : c.won = false) (hp : c.pending = none) (hm : c.member ≠ 0)
    (hl : ∀ l, c.lease = some l → l.expire = .closed) : LF e c := by
  refine ⟨fun l h _ hex => ?_, fun h => ?_, fun _ hc => ?_, fun h => ?_, hm, fun _ => ⟨hw, hp, hl⟩⟩
  · rw [hl l h] at hex; cases hex
  · rw [hw] at h; cases h
  · obtain ⟨l, h, hex⟩ := check_iff.1 hc
    rw [hl l h] at hex; cases hex
  · rw [hp] at h; cases h

/-- the clock advances, announcement and bookkeeping change; nothing that `LF` reads of the lease, the record or
    the campaign does -/
theorem LF.of_same {e : Etcd} {c : Cont} (h : LF e c) {t ca : Nat} {ti w : Bool} {b n : Nat} (ht : c.clock ≤ t)
    (hs : (ti = true ∨ ca = c.member) → c.won = true ∨ c.tsoInit = true ∨ c.cache = c.member) :
    LF e { c with clock := t, cache := ca, tsoInit := ti, watching := w, idBase := b, idEnd := n } := by
  refine ⟨fun l h1 h2 h3 => h.live l h1 h2 (expiredAt_mono _ _ _ ht h3), h.won, fun h1 h2 => ?_, h.pend, h.mem, h.clos⟩
  rcases hs h1 with h3 | h3
  · exact h3
  · obtain ⟨l, hl, hex⟩ := check_iff.1 h2
    exact h.serve h3 (check_iff.2 ⟨l, hl, expiredAt_mono _ _ _ ht hex⟩)

/-- `unsetLeader`: a leader cache of 0 announces nobody, since member ids are not 0 -/
theorem LF.unsetLeader {e : Etcd} {c : Cont} (h : LF e c) (w : Bool) :
    LF e { c with cache := 0, watching := w } :=
  h.of_same (Nat.le_refl _) fun hs => hs.elim (fun t => .inr (.inl t)) fun e => absurd e.symm h.mem

theorem LF.of_env {e e' : Etcd} {c : Cont} (h : LF e c)
    (hlive : ∀ l, c.lease = some l → l.id ≠ 0 → l.expire.expiredAt c.clock = false → e.live l.id = true →
      e'.live l.id = true)
    (hrec : ∀ l, c.lease = some l → l.id ≠ 0 → e'.live l.id = true → e.live l.id = true ∧
      (e.kv (.leader c.key) = some ⟨c.member, l.id⟩ → e'.kv (.leader c.key) = some ⟨c.member, l.id⟩)) :
    LF e' c := by
  refine ⟨fun l hl hne hex => hlive l hl hne hex (h.live l hl hne hex), fun hw => ?_, h.serve, h.pend, h.mem, h.clos⟩
  obtain ⟨l, hl, hne, hp, hr⟩ := h.won hw
  exact ⟨l, hl, hne, hp, fun hl' => (hrec l hl hne hl').2 (hr (hrec l hl hne hl').1)⟩

/-- the store changes under a contender, but neither the liveness of its lease nor its own record -/
theorem LF.of_store {e e' : Etcd} {c : Cont} (h : LF e c) (hl : lid c ≠ 0 → e'.live (lid c) = e.live (lid c))
    (hk : lid c ≠ 0 → e.kv (.leader c.key) = some ⟨c.member, lid c⟩ →
      e'.kv (.leader c.key) = some ⟨c.member, lid c⟩) : LF e' c := by
  refine h.of_env (fun l hl' hne _ => ?_) (fun l hl' hne => ?_) <;> rw [← lid_of_some hl'] at hne ⊢
  · exact (hl hne).symm ▸ id
  · exact fun hlive => ⟨hl hne ▸ hlive, hk hne⟩

theorem closeLease_LF (x : Loc) (rv : Bool) (hw : x.c.won = false) (hp : x.c.pending = none)
    (hm : x.c.member ≠ 0) : LF (closeLease x rv).etcd (closeLease x rv).c := by
  rw [closeLease_c]
  refine .of_resigned _ hw hp hm fun l hl => ?_
  obtain ⟨_, _, rfl⟩ := Option.map_eq_some_iff.1 hl
  rfl

/-- a lease the caller does not own: one of those handed out before the call, other than the caller's -/
def Foreign (x : Loc) (id : Nat) : Prop := id ≠ 0 ∧ id ≠ lid x.c ∧ id ≤ x.etcd.granted

theorem Foreign.step {x y : Loc} {id : Nat} (h : Foreign x id) (s : LidStep x y) : Foreign y id := by
  refine ⟨h.1, fun e => ?_, Nat.le_trans h.2.2 s.granted⟩
  rcases s.ref with r | r | r
  · exact h.2.1 (e.trans r)
  · exact h.1 (e.trans r)
  · exact Nat.lt_irrefl _ (Nat.lt_of_lt_of_le (e ▸ r.1) h.2.2)

/-- what a call of one contender guarantees to everybody else: foreign leases stay as they are, and so does a
    leader record attached to one unless it names the caller itself.  These are the two things `LF.of_store` asks
    of the store on behalf of a contender that does not act. -/
structure Guar (x x' : Loc) : Prop where
  live : ∀ id, Foreign x id → x'.etcd.live id = x.etcd.live id
  recd : ∀ k e, Foreign x e.lease → ¬ (k = x.c.key ∧ e.val = x.c.member) →
          x.etcd.kv (.leader k) = some e → x'.etcd.kv (.leader k) = some e

theorem Guar.of_eq {x x' : Loc} (h : x'.etcd = x.etcd) : Guar x x' :=
  ⟨fun _ _ => by rw [h], fun _ _ _ _ he => by rw [h]; exact he⟩

theorem Guar.after {x y z : Loc} (h2 : Guar y z) (h1 : Guar x y) (s : LidStep x y) : Guar x z :=
  ⟨fun id f => (h2.live id (f.step s)).trans (h1.live id f),
   fun k e f n he => h2.recd k e (f.step s) (s.key ▸ s.member ▸ n) (h1.recd k e f n he)⟩

/-- the Revoke request for the own lease, which may not have gone out -/
theorem guar_revoke (x x' : Loc) (rv : Bool) (h : x'.etcd = if rv then x.etcd.revoke (lid x.c) else x.etcd) :
    Guar x x' := by
  cases rv
  · exact .of_eq h
  replace h : x'.etcd = x.etcd.revoke (lid x.c) := h
  refine ⟨fun id f => by rw [h, revoke_live_ne f.2.1], fun k e f _ he => ?_⟩
  rcases revoke_kv_cases x.etcd (lid x.c) (.leader k) with r | r
  · rw [h, r, he]
  · exact absurd (by simpa [he] using r.2.1) f.2.1

/-- one operation that touches a leader record only where there is none or where it names the caller -/
theorem guar_apply1 (x x' : Loc) (op : EOp) (h : x'.etcd = x.etcd.apply1 op)
    (hk : ∀ k e, op.key = .leader k → x.etcd.kv (.leader k) = some e → k = x.c.key ∧ e.val = x.c.member) :
    Guar x x' := by
  refine ⟨fun id _ => by rw [h, apply1_live], fun k e _ n he => ?_⟩
  rw [h, apply1_kv_other _ _ _ fun hop => n (hk k e hop he)]
  exact he

theorem closeLease_guar (x : Loc) (rv : Bool) : Guar x (closeLease x rv) :=
  guar_revoke _ _ rv (closeLease_etcd x rv)

/-- What one call does for the invariants of histories.  `lid` holds of every call and carries `Inv0`; `next`
    speaks of a well-formed contender (`LF`, `LWf`) whose call respects the assumptions `P`, and carries `InvF`. -/
structure CallOk (P : Prop) (x z : Loc) : Prop where
  lid  : LidStep x z
  next : LF x.etcd x.c → LWf x.c → P → Guar x z ∧ LF z.etcd z.c

namespace CallOk
variable {P Q : Prop} {x y z : Loc}

theorem same : CallOk P x x := ⟨.refl x, fun h _ _ => ⟨.of_eq rfl, h⟩⟩

/-- only the contender changes, and not in its lease, parked campaign, key or member -/
theorem of_cont {c' : Cont} (hl : c'.lease = x.c.lease) (hp : c'.pending = x.c.pending) (hk : c'.key = x.c.key)
    (hm : c'.member = x.c.member) (n : LF x.etcd x.c → P → LF x.etcd c') : CallOk P x { x with c := c' } :=
  ⟨.of_eq rfl hl (.inl hp) hk hm, fun h _ p => ⟨.of_eq rfl, n h p⟩⟩

/-- two building blocks in a row -/
theorem trans (h1 : CallOk P x y) (h2 : CallOk Q y z) (hq : P → Q) : CallOk P x z :=
  ⟨h2.lid.after h1.lid, fun h hw p =>
    have ⟨g1, l1⟩ := h1.next h hw p
    have ⟨g2, l2⟩ := h2.next l1 (h1.lid.wf hw) (hq p)
    ⟨g2.after g1 h1.lid, l2⟩⟩

/-- `Reset` after a block: out of the term, then `Close` -/
theorem reset (h1 : CallOk P x y) (rv : Bool) (hp : y.c.pending = none) : CallOk P x (resetStep y rv) :=
  have k : LidStep y { y with c := { y.c with won := false } } := .of_eq rfl rfl (.inl rfl) rfl rfl
  h1.trans (Q := True) ⟨(closeLease_lidStep _ rv).after k, fun h _ _ =>
    ⟨(closeLease_guar _ rv).after (.of_eq rfl) k, closeLease_LF _ rv rfl hp h.mem⟩⟩ fun _ => trivial

end CallOk

/-- Grant refused (a lease object without a lease) or a fresh live lease with the campaign parked on it -/
theorem grantStep_ok (x : Loc) (ttl extra) (hcl : x.c.closing = none) :
    CallOk (x.c.cache ≠ x.c.member ∧ x.c.tsoInit = false) x (grantStep x ttl extra).1 := by
  have hc : ¬ x.c.closing.isSome = true := by simp [hcl]
  have hs {P : Prop} (hpre : x.c.cache ≠ x.c.member ∧ x.c.tsoInit = false)
      (h : x.c.tsoInit = true ∨ x.c.cache = x.c.member) : P := by simp [hpre.1, hpre.2] at h
  unfold grantStep
  split
  · refine ⟨⟨Nat.le_refl _, rfl, rfl, fun _ => ⟨nofun, fun l hl => ?_⟩, .inr (.inl rfl)⟩, fun h _ hpre => ⟨.of_eq rfl,
      fun l hl hid => ?_, nofun, fun h _ => hs hpre h, nofun, h.mem, fun h => absurd h hc⟩⟩
    · cases hl; exact ⟨fun _ => rfl, nofun⟩
    · cases hl; exact absurd rfl hid
  · refine ⟨⟨Nat.le_succ _, rfl, rfl, fun _ => ⟨fun _ => Nat.succ_ne_zero _, fun l hl => ?_⟩,
        .inr (.inr ⟨Nat.lt_succ_self _, Nat.le_refl _⟩)⟩,
      fun h _ hpre => ⟨⟨fun id f => grant_live_le f.2.2, fun k e _ _ he => he⟩,
        fun l hl _ _ => ?_, nofun, fun h _ => hs hpre h, fun _ => ⟨rfl, rfl⟩, h.mem, fun h => absurd h hc⟩⟩
    · cases hl; exact ⟨nofun, fun _ _ => Nat.succ_ne_zero _⟩
    · cases hl; simp [Etcd.grant]

/-- the transaction of a parked campaign; its lease is a granted one because the campaign is parked (`LWf`) -/
theorem campaignTxn_ok (x : Loc) (l extra f rv) (hl : x.c.lease = some l) (hp : x.c.pending.isSome = true) :
    CallOk True x (campaignTxn x l extra f rv).1 := by
  -- the put lands on an absent key
  have put : ∀ x' : Loc, x.etcd.kv (.leader x.c.key) = none →
      x'.etcd = x.etcd.apply1 (.put (.leader x.c.key) x.c.value l.id) → Guar x x' := fun x' habs h =>
    guar_apply1 x x' (.put (.leader x.c.key) x.c.value l.id) h fun k e hk he => by
      obtain rfl : x.c.key = k := Key.leader.inj hk
      cases habs.symm.trans he
  rcases campaignTxn_cases x l extra f rv with ⟨hw, e⟩ | ⟨_, e1, o, _, he1, e⟩ <;> rw [e]
  · refine ⟨.of_eq (apply1_granted _ _) rfl (.inr rfl) rfl rfl, fun h w _ => ⟨put _ hw.2.1 rfl, ?_⟩⟩
    have hcl : ¬ x.c.closing.isSome = true := fun hc => by rw [(h.clos hc).2.1] at hp; cases hp
    exact ⟨fun l' hl' => h.live l' hl',
      fun _ => ⟨l, hl, lid_of_some hl ▸ w.1 hp, rfl, fun _ => by rw [← (h.pend hp).1]; exact if_pos rfl⟩,
      fun _ _ => rfl, nofun, h.mem, fun hc => absurd hc hcl⟩
  · -- lost: the lease is closed, whether the store is as before or has the put whose answer was lost
    have k1 : LidStep x { x with etcd := e1, c := { x.c with pending := none } } :=
      .of_eq (by rcases he1 with rfl | ⟨rfl, _⟩ <;> simp) rfl (.inr rfl) rfl rfl
    refine ⟨(closeLease_lidStep _ rv).after k1, fun h _ _ =>
      ⟨(closeLease_guar _ rv).after ?_ k1, closeLease_LF _ rv (h.pend hp).2 rfl h.mem⟩⟩
    rcases he1 with rfl | ⟨rfl, habs, _⟩
    · exact .of_eq rfl
    · exact put _ habs rfl

/-- nothing happens, or one operation on a key that is no leader record, with the TSO memory set by a successful
    `SyncTimestamp` -/
theorem writeStep_ok {P : Prop} (x : Loc) (w f) (hpre : P → w = .tsSync → x.c.won = true) :
    CallOk P x (writeStep x w f).1 := by
  rcases writeStep_cases x w f with e | ⟨he, hc⟩
  · rw [e]; exact .same
  refine ⟨?_, fun h _ p => ⟨guar_apply1 x _ _ he fun k _ hk => absurd hk (writeOp_not_leader x w k), ?_⟩⟩
  · rcases hc with hc | ⟨_, hc⟩ <;>
      exact .of_eq (by rw [he, apply1_granted]) (by rw [hc]) (.inl (by rw [hc])) (by rw [hc]) (by rw [hc])
  · have store : LF (x.etcd.apply1 (writeOp x w)) x.c :=
      h.of_store (fun _ => by rw [apply1_live]) fun _ => (apply1_kv_other _ _ _ (writeOp_not_leader x w _)).trans
    rcases hc with hc | ⟨hw, hc⟩ <;> rw [he, hc]
    · exact store
    · exact store.of_same (Nat.le_refl _) fun _ => .inl (hpre p hw)

/-- The own record is deleted outside a term (`DeleteLeaderKey`, or `CheckLeader` finding it stale).  Harmless
    even when `Reset` does not follow. -/
theorem delOwn_ok {P : Prop} (x : Loc)
    (hpre : P → x.c.won = false ∧ ∀ y, x.etcd.kv (.leader x.c.key) = some y → y.val = x.c.member) :
    CallOk P x { x with etcd := x.etcd.apply1 (.del (.leader x.c.key)) } :=
  ⟨.of_eq (apply1_granted _ _) rfl (.inl rfl) rfl rfl, fun h _ p =>
    ⟨guar_apply1 x _ (.del (.leader x.c.key)) rfl fun k e hk he => by
        obtain rfl : x.c.key = k := Key.leader.inj hk
        exact ⟨rfl, (hpre p).2 e he⟩,
      h.live, fun hw => absurd ((hpre p).1.symm.trans hw) Bool.noConfusion, h.serve, h.pend, h.mem, h.clos⟩⟩

theorem loc_ok (x : Loc) (a : LOp) : CallOk (LPre x a) x (loc x a).1 := by
  -- many kinds of call are refused while a campaign of the contender is parked (some also while a `Close` is, or while
  -- it watches): then nothing changes
  have refused {P b : Prop} [Decidable b] {r : Loc × Out} :=
    @ite_ind _ (fun r => CallOk P x r.1) b _ (x, .bad) r fun _ => .same
  cases a
  case clock t => exact .of_cont rfl rfl rfl rfl fun h hpre => h.of_same hpre .inr
  case campaign ttl extra f rv =>
    rw [loc_campaign]
    refine refused fun hb => ?_
    have grant := grantStep_ok x ttl extra (not_busy hb).2
    split
    · exact grant
    · next ht =>
      have hx := grantStep_parked x ttl extra ht
      exact grant.trans (campaignTxn_ok _ _ extra f rv (by rw [hx]) (by rw [hx]; rfl)) fun _ => trivial
  case gcampaign ttl extra => exact refused fun hb => grantStep_ok x ttl extra (not_busy hb).2
  case finish f rv =>
    simp only [loc, finishStep]; split
    · next extra l hp hl =>
      exact campaignTxn_ok x l extra f rv hl (by rw [hp]; rfl)
    · exact .same
  case keep =>
    simp only [loc]; split
    · exact .same
    · next l hl =>
      split
      · exact .same
      · next hb =>
        split
        · next hlive =>
          refine ⟨.of_expire rfl hl rfl
            (.inr ⟨(by simpa using hb : x.c.pending = none ∧ ¬ l.id = 0).2, _, rfl⟩) (.inl rfl) rfl rfl,
            fun h _ hpre => ?_⟩
          -- the stored expiry moves, but the lease was just seen live by the store
          obtain ⟨l0, hl0, a1, a2, a3⟩ := h.won hpre
          obtain rfl : l0 = l := Option.some.inj (hl0.symm.trans hl)
          exact ⟨.of_eq rfl, fun l' hl' _ _ => by cases hl'; exact hlive, fun _ => ⟨_, rfl, a1, a2, a3⟩,
            fun _ _ => hpre, h.pend, h.mem, fun hc => absurd ((h.clos hc).1.symm.trans hpre) Bool.noConfusion⟩
        · exact .same
  case resetl rv => exact refused fun hp => CallOk.same.reset rv (Option.not_isSome_iff_eq_none.1 hp)
  case gresetl pre leader =>
    refine refused fun hb => ?_
    split
    · next hl =>
      exact .of_cont rfl rfl rfl rfl fun h _ =>
        .of_resigned _ rfl (not_busy hb).1 h.mem fun l hl' => by cases hl.symm.trans hl'
    · next l hl =>
      refine ⟨.of_expire (by cases pre <;> simp) hl rfl (.inl rfl) (.inl rfl) rfl rfl, fun h _ _ =>
        ⟨?_, .of_resigned _ rfl (not_busy hb).1 h.mem fun l hl' => by cases hl'; rfl⟩⟩
      cases pre
      · exact guar_revoke _ _ true (by rw [lid_of_some hl]; rfl)
      · exact .of_eq rfl
  case rfinish rv =>
    simp only [loc]; split
    · exact .same
    · next hc =>
      refine ⟨.of_eq (by dsimp only; split <;> simp) rfl (.inl rfl) rfl rfl, fun h _ _ => ?_⟩
      obtain ⟨hw', hpn, hcl⟩ := h.clos (by rw [hc]; rfl)
      exact ⟨guar_revoke _ _ _ rfl, .of_resigned _ hw' hpn h.mem hcl⟩
  case delkey f rv =>
    rw [loc_delkey]
    refine refused fun hp => ?_
    have del := delOwn_ok (P := LPre x (.delkey f rv)) x id
    cases f
    · exact del.reset rv (Option.not_isSome_iff_eq_none.1 hp)
    · exact .same
    · -- the record is gone but `Reset` was not called
      exact del
  case write w f => exact refused fun _ => writeStep_ok x w f fun hpre hw => by subst hw; exact hpre
  case idalloc f =>
    refine refused fun _ => ?_
    split
    · have wr := writeStep_ok (P := True) x .idRebase f fun _ => nofun
      split
      · next x1 e =>
        rw [e] at wr
        exact wr.trans (y := x1) (.of_cont rfl rfl rfl rfl fun h _ => h.of_same (Nat.le_refl _) .inr) id
      · exact wr
    · exact .of_cont rfl rfl rfl rfl fun h _ => h.of_same (Nat.le_refl _) .inr
  case enable => exact .of_cont rfl rfl rfl rfl fun h hpre => h.of_same (Nat.le_refl _) fun _ => .inl hpre
  case unset => exact .of_cont rfl rfl rfl rfl fun h _ => h.unsetLeader _
  case observe =>
    refine refused fun hb => ?_
    split
    · exact .same
    · split
      · next y hy hv =>
        exact (delOwn_ok x fun hpre => ⟨hpre, fun y' hy' => by cases hy.symm.trans hy'; exact hv⟩).reset true
          (by simpa using hb : x.c.pending = none ∧ x.c.watching = false).1
      · next hne =>
        exact .of_cont rfl rfl rfl rfl fun h _ => h.of_same (Nat.le_refl _) fun hs =>
          hs.elim (fun t => .inr (.inl t)) fun e => absurd e hne
  case unwatch =>
    simp only [loc]; split
    · exact .of_cont rfl rfl rfl rfl fun h _ => h.unsetLeader _
    · exact .same
  case tsoreset =>
    exact .of_cont rfl rfl rfl rfl fun h _ =>
      h.of_same (Nat.le_refl _) fun hs => hs.elim nofun fun e => .inr (.inr e)
  case stepdown rv =>
    refine refused fun hp => ?_
    have hp := Option.not_isSome_iff_eq_none.1 hp
    have unset : CallOk True x { x with c := { x.c with cache := 0, tsoInit := false } } :=
      .of_cont rfl rfl rfl rfl fun h _ => h.of_same (Nat.le_refl _) fun hs =>
        hs.elim nofun fun e => absurd e.symm h.mem
    exact (unset.reset rv hp).reset rv ((congrArg Cont.pending (closeLease_c _ rv)).trans hp)
  case crash =>
    exact refused fun _ => ⟨⟨Nat.le_refl _, rfl, rfl, fun _ => ⟨nofun, nofun⟩, .inr (.inl rfl)⟩,
      fun h _ _ => ⟨.of_eq rfl, .of_resigned _ rfl rfl h.mem nofun⟩⟩
  all_goals exact .same

end PdModel.Election
