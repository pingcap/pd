import PdModel.Model.RegionCache
import PdModel.Spec.C06
import PdModel.Lemmas.RegionTreeQuery
/-!
Lemmas for the heartbeat path: the pre-check is exactly `MustReject` on the current regions; one heartbeat
changes nothing, or puts the region (`Spec.C07.put`) and leaves the storage as `Spec.C06.StoredOk` asks.
-/
namespace PdModel.RegionCache
open PdModel.RegionTree PdModel.Spec
open PdModel.Spec.C07 (WFRange WF Overlap)
-- core's `Inv` (the class behind `⁻¹`) is visible everywhere: with the invariant of the region tree merely opened,
-- each `Inv s` is an overloaded name and is elaborated both ways; under this namespace it has one reading
export PdModel.RegionTree (Inv)

theorem mem_insertByKey {r y : Region} {L : List Region} : y ∈ C07.insertByKey r L ↔ y = r ∨ y ∈ L := by
  induction L with
  | nil => exact List.mem_cons
  | cons x xs ih =>
    unfold C07.insertByKey
    split
    · exact List.mem_cons
    · rw [List.mem_cons, ih, List.mem_cons, or_left_comm]

theorem mem_put {L : List Region} {r y : Region} :
    y ∈ C07.put L r ↔ y = r ∨ (y ∈ L ∧ ¬ Overlap y r ∧ y.id ≠ r.id) := by
  unfold C07.put
  rw [mem_insertByKey]
  simp only [List.mem_filter, decide_eq_true_eq]

theorem mem_displaced {L : List Region} {r y : Region} :
    y ∈ C07.displaced L r ↔ y ∈ L ∧ Overlap y r ∧ y.id ≠ r.id := by
  unfold C07.displaced; simp only [List.mem_filter, decide_eq_true_eq]

theorem mem_overlaps {L : List Region} {r y : Region} : y ∈ C07.overlaps L r ↔ y ∈ L ∧ Overlap y r := by
  unfold C07.overlaps; simp only [List.mem_filter, decide_eq_true_eq]

theorem put_displaces (L : List Region) (r : Region) :
    r ∈ C07.put L r ∧ (∀ y ∈ C07.put L r, y ≠ r → ¬ Overlap y r) ∧
    (∀ y ∈ C07.displaced L r, y ∉ C07.put L r) := by
  refine ⟨mem_put.2 (Or.inl rfl), fun y hy hne => ?_, fun y hy hmem => ?_⟩
  · exact (mem_put.1 hy).elim (absurd · hne) (·.2.1)
  · obtain ⟨_, hov, hid⟩ := mem_displaced.1 hy
    exact (mem_put.1 hmem).elim (fun e => hid (e ▸ rfl)) (·.2.1 hov)

theorem abs_id_unique {s : RegionsInfo} (h : Inv s) {a b : Region} (ha : a ∈ abs s) (hb : b ∈ abs s)
    (e : a.id = b.id) : a = b := by
  obtain ⟨x, hx, rfl⟩ := List.mem_map.1 ha
  obtain ⟨y, hy, rfl⟩ := List.mem_map.1 hb
  rw [h.map.inj x hx y hy e]

theorem abs_wf {s : RegionsInfo} (h : Inv s) {a : Region} (ha : a ∈ abs s) : WF a := by
  obtain ⟨x, hx, rfl⟩ := List.mem_map.1 ha
  exact h.wf x hx

theorem get_some_iff {s : RegionsInfo} (h : Inv s) {id : Nat} {o : Region} :
    C07.get (abs s) id = some o ↔ o ∈ abs s ∧ o.id = id := by
  unfold C07.get
  constructor
  · intro hf
    exact ⟨List.mem_of_find?_eq_some hf, by simpa using List.find?_some hf⟩
  · rintro ⟨hm, hid⟩
    apply find?_eq_some_of_unique hm (by simp [hid])
    intro c hc hp
    simp only [decide_eq_true_eq] at hp
    exact abs_id_unique h hc hm (by rw [hp, hid])

theorem abs_no_overlap {s : RegionsInfo} (h : Inv s) {a b : Region} (ha : a ∈ abs s) (hb : b ∈ abs s)
    (hne : a ≠ b) : ¬ Overlap a b :=
  (abs_ordered h).not_overlap id ha hb hne

theorem no_overlap_of_inv {s : RegionsInfo} (h : Inv s) : C06.NoOverlap (abs s) := by
  unfold C06.NoOverlap
  refine List.Pairwise.imp ?_ (abs_ordered h).1
  intro a b hab
  exact (before_not_overlap hab).1

theorem getRegionC_some {c : Cluster} (h : Inv c.ri) {id : Nat} {o : Region} :
    getRegionC c id = some o ↔ o ∈ abs c.ri ∧ o.id = id := by
  rw [getRegionC, getRegion_eq h, get_some_iff h]

theorem getRegionByKey_some {c : Cluster} (h : Inv c.ri) {k : Key} {y : Region}
    (hy : getRegionByKey c k = some y) : y ∈ abs c.ri ∧ Contains y k := by
  rw [getRegionByKey, search_eq_aux h, C07.search] at hy
  have hk := List.find?_some hy
  exact ⟨List.mem_of_find?_eq_some hy, of_decide_eq_true hk⟩

theorem contains_overlap {a b : Region} {k : Key} (ha : Contains a k) (hb : Contains b k) : Overlap a b :=
  ⟨ha.2.imp_right (List.lt_of_le_of_lt hb.1), hb.2.imp_right (List.lt_of_le_of_lt ha.1)⟩

theorem lookup_foldl_mapDel (ov : List Region) (st : List (Nat × Meta)) (k : Nat) :
    mapGet (ov.foldl (fun st item => mapDel st item.id) st) k =
      if k ∈ ov.map (·.id) then none else mapGet st k := by
  induction ov generalizing st with
  | nil => exact (if_neg List.not_mem_nil).symm
  | cons o ov ih =>
    simp only [List.foldl_cons, ih, mapGet_mapDel, List.map_cons, List.mem_cons]
    by_cases h1 : k ∈ ov.map (·.id)
    · rw [if_pos h1, if_pos (Or.inr h1)]
    · by_cases h2 : k = o.id
      · rw [if_neg h1, if_pos h2, if_pos (Or.inl h2)]
      · rw [if_neg h1, if_neg h2, if_neg (not_or.2 ⟨h2, h1⟩)]

theorem mapGet_store (c : Cluster) (r : Region) (saveKV : Bool) (gone : List Region) (k : Nat) :
    mapGet (store c r saveKV gone).storage k =
      if saveKV = true ∧ k = r.id then some (metaOf r)
      else if k ∈ gone.map (·.id) then none else mapGet c.storage k := by
  unfold store
  cases saveKV
  · simp only [lookup_foldl_mapDel, Bool.false_eq_true, false_and, if_false]
  · simp only [if_true, mapGet_mapSet, lookup_foldl_mapDel, true_and]

theorem lookup_eq_mapGet (M : List (Nat × Meta)) (id : Nat) : C06.lookup M id = mapGet M id := by
  unfold C06.lookup
  induction M with
  | nil => rfl
  | cons e M ih =>
    obtain ⟨k, v⟩ := e
    simp only [List.find?_cons, mapGet]
    by_cases hk : k = id
    · simp [hk]
    · simp only [hk, decide_false, if_false]; exact ih

theorem storedOk_same (M : List (Nat × Meta)) (r : Region) : C06.StoredOk M M r [] :=
  ⟨fun _ hy => (nomatch hy), Or.inl rfl, fun _ _ _ _ => rfl⟩

theorem storedOk_store (c : Cluster) (r : Region) (saveKV : Bool) (gone : List Region)
    (hg : ∀ y ∈ gone, y.id ≠ r.id) : C06.StoredOk c.storage (store c r saveKV gone).storage r gone := by
  have stays : ∀ k, (∀ y ∈ gone, y.id ≠ k) → k ∉ gone.map (·.id) := fun k hk hm => by
    obtain ⟨y, hy, e⟩ := List.mem_map.1 hm; exact hk y hy e
  refine ⟨fun y hy => ?_, ?_, fun e _ hne hgone => ?_⟩
  · rw [lookup_eq_mapGet, mapGet_store, if_neg (fun h => hg y hy h.2), if_pos (List.mem_map_of_mem hy)]
  · rw [lookup_eq_mapGet, lookup_eq_mapGet, mapGet_store]
    cases saveKV
    · exact Or.inl (by rw [if_neg (fun h => nomatch h.1), if_neg (stays _ hg)])
    · exact Or.inr (if_pos ⟨rfl, rfl⟩)
  · rw [lookup_eq_mapGet, lookup_eq_mapGet, mapGet_store, if_neg (fun h => hne h.2), if_neg (stays _ hgone)]

theorem behind_iff (o r : Region) :
    (r.term > 0 ∧ r.term < o.term ∨ r.version < o.version ∨ r.confVer < o.confVer) ↔ ¬ C06.NotBehind o r := by
  unfold C06.NotBehind
  constructor
  · rintro (⟨h1, h2⟩ | h | h) ⟨a, b, c⟩
    · exact Nat.not_le.2 h2 (c h1)
    · exact Nat.not_le.2 h a
    · exact Nat.not_le.2 h b
  · intro hn
    refine Decidable.by_contra fun hc => hn ⟨?_, ?_, fun h0 => ?_⟩ <;> refine Nat.le_of_not_lt fun hlt => hc ?_
    · exact Or.inr (Or.inl hlt)
    · exact Or.inr (Or.inr hlt)
    · exact Or.inl ⟨h0, hlt⟩

theorem preCheck_spec (s : RegionsInfo) (r : Region) :
    ((preCheckPutRegion s r).2 = .stale ↔
      (∃ o, (getRelevantRegions s r).1 = some o ∧ ¬ C06.NotBehind o r) ∨
      (getRelevantRegions s r).2.any (fun item => r.version < item.version) = true) ∧
    ((preCheckPutRegion s r).2 = .ok → (preCheckPutRegion s r).1 = (getRelevantRegions s r).1) := by
  unfold preCheckPutRegion
  generalize getRelevantRegions s r = p
  obtain ⟨origin, ovs⟩ := p
  dsimp only
  by_cases hany : ovs.any (fun item => decide (r.version < item.version)) = true
  · rw [if_pos hany]
    exact ⟨⟨fun _ => Or.inr hany, fun _ => rfl⟩, nofun⟩
  · rw [if_neg hany]
    cases origin with
    | none => exact ⟨⟨nofun, fun h => h.elim (fun ⟨_, e, _⟩ => nomatch e) (absurd · hany)⟩, fun _ => rfl⟩
    | some o =>
      dsimp only
      by_cases hb : r.term > 0 ∧ r.term < o.term ∨ r.version < o.version ∨ r.confVer < o.confVer
      · rw [if_pos hb]
        exact ⟨⟨fun _ => Or.inl ⟨o, rfl, (behind_iff o r).1 hb⟩, fun _ => rfl⟩, nofun⟩
      · rw [if_neg hb]
        exact ⟨⟨nofun, fun h => h.elim (fun ⟨_, e, hn⟩ => absurd ((behind_iff o r).2 (Option.some.inj e ▸ hn)) hb)
          (absurd · hany)⟩, fun _ => rfl⟩

theorem preCheck_cases (s : RegionsInfo) (r : Region) :
    (preCheckPutRegion s r).2 = .ok ∨ (preCheckPutRegion s r).2 = .stale := by
  cases (preCheckPutRegion s r).2 <;> simp

theorem preCheck_eq {s : RegionsInfo} {r : Region} {v : Verdict} (hv : (preCheckPutRegion s r).2 = v) :
    preCheckPutRegion s r = ((preCheckPutRegion s r).1, v) := by
  rw [← hv]

theorem preCheck_stale_iff {s : RegionsInfo} (h : Inv s) (r : Region) :
    (preCheckPutRegion s r).2 = .stale ↔ C06.MustReject (abs s) r := by
  have full : (C07.overlaps (abs s) r).any (fun item => decide (r.version < item.version)) = true ↔
      ∃ y ∈ abs s, Overlap y r ∧ r.version < y.version := by
    simp only [List.any_eq_true, mem_overlaps, decide_eq_true_eq, and_assoc]
  have origin : (∃ o ∈ abs s, o.id = r.id ∧ ¬ C06.NotBehind o r) ↔
      ∃ o, C07.get (abs s) r.id = some o ∧ ¬ C06.NotBehind o r := by
    simp only [get_some_iff h, and_assoc]
  rw [(preCheck_spec s r).1, C06.MustReject, origin, ← full]
  unfold getRelevantRegions
  simp only [getRegion_eq h, overlaps_eq_aux h]
  cases hg : C07.get (abs s) r.id with
  | none => exact Iff.rfl
  | some o =>
    dsimp only
    by_cases hk : o.startKey ≠ r.startKey ∨ o.endKey ≠ r.endKey
    · rw [if_pos hk]
    · rw [if_neg hk]
      -- the overlaps are not looked at when the origin has the range of `r`: then whatever intersects `r`
      -- intersects the origin, so it is the origin, and a newer origin is already the first reason
      refine ⟨fun hs => hs.elim Or.inl nofun, fun hs => hs.elim Or.inl (fun hn => ?_)⟩
      obtain ⟨y, hy, hyr, hv⟩ := full.1 hn
      obtain ⟨ho, _⟩ := (get_some_iff h).1 hg
      have hyo : Overlap y o := by
        unfold Overlap at hyr ⊢
        rw [show o.startKey = r.startKey from Decidable.of_not_not fun e => hk (Or.inl e),
            show o.endKey = r.endKey from Decidable.of_not_not fun e => hk (Or.inr e)]
        exact hyr
      rw [Decidable.of_not_not fun e => abs_no_overlap h hy ho e hyo] at hv
      exact Or.inl ⟨o, rfl, fun nb => absurd nb.1 (Nat.not_le.2 hv)⟩

theorem preCheck_ok {s : RegionsInfo} (h : Inv s) {r : Region} (hv : (preCheckPutRegion s r).2 = .ok) :
    ¬ C06.MustReject (abs s) r :=
  fun hm => nomatch hv.symm.trans ((preCheck_stale_iff h r).2 hm)

theorem preCheck_origin {s : RegionsInfo} (h : Inv s) (r : Region) (hok : (preCheckPutRegion s r).2 = .ok) :
    (preCheckPutRegion s r).1 = C07.get (abs s) r.id :=
  ((preCheck_spec s r).2 hok).trans (getRegion_eq h r.id)

/-- `saveKV` and `isNew` are never set without `saveCache`, so a heartbeat that is not ignored enters the
    locked section -/
theorem flags_saveCache (origin : Option Region) (r : Region)
    (h : (!(computeFlags origin r).saveKV && !(computeFlags origin r).saveCache && !(computeFlags origin r).isNew) = false) :
    (computeFlags origin r).saveCache = true := by
  have bool : ∀ kv sc nw : Bool, (kv = true → sc = true) → (nw = true → sc = true) →
      (!kv && !sc && !nw) = false → sc = true := by decide
  cases origin with
  | none => rfl
  | some o =>
    refine bool _ _ _ (fun hs => ?_) (fun hs => ?_) h <;> dsimp only [computeFlags] at hs ⊢
    · rw [hs]; rfl
    · rw [(Bool.and_eq_true_iff.1 hs).1]; simp only [Bool.or_true, Bool.true_or]

theorem commit_stale {c : Cluster} {r : Region} (hv : (preCheckPutRegion c.ri r).2 = .stale) :
    commit c r = (c, .stale, []) := by
  unfold commit; rw [hv]

theorem commit_ok {c : Cluster} {r : Region} (hv : (preCheckPutRegion c.ri r).2 = .ok) :
    commit c r = ({ c with ri := (setRegion c.ri r).1 }, .ok, (setRegion c.ri r).2) := by
  unfold commit; rw [hv]

theorem commit_spec {c : Cluster} (h : Inv c.ri) {r : Region} (hr : WF r) :
    (commit c r = (c, .stale, []) ∧ C06.MustReject (abs c.ri) r) ∨
    (∃ c', commit c r = (c', .ok, C07.displaced (abs c.ri) r) ∧ ¬ C06.MustReject (abs c.ri) r ∧
      Inv c'.ri ∧ abs c'.ri = C07.put (abs c.ri) r ∧ c'.storage = c.storage) := by
  rcases preCheck_cases c.ri r with hv | hv
  · have p := setRegion_refines h hr
    exact Or.inr ⟨{ c with ri := (setRegion c.ri r).1 }, by rw [commit_ok hv, p.out_eq], preCheck_ok h hv, p.inv,
      p.abs_eq, rfl⟩
  · exact Or.inl ⟨commit_stale hv, (preCheck_stale_iff h r).1 hv⟩

/-- handled on its own, the second check (the one inside `commit`, in the locked section) sees the state the first one
    saw, so the branch "passed first, stale then" does not occur -/
theorem heartbeat_cases (c : Cluster) (r : Region) :
    ((preCheckPutRegion c.ri r).2 = .stale ∧ heartbeat c r = (c, .stale)) ∨
    ((preCheckPutRegion c.ri r).2 = .ok ∧ (heartbeat c r = (c, .ok) ∨
      ∃ saveKV, heartbeat c r = (store { c with ri := (setRegion c.ri r).1 } r saveKV (setRegion c.ri r).2, .ok))) := by
  rcases preCheck_cases c.ri r with hv | hv
  · refine Or.inr ⟨hv, ?_⟩
    generalize hb : heartbeat c r = res
    unfold heartbeat at hb
    rw [commit_ok hv, preCheck_eq hv] at hb
    dsimp only at hb
    cases hfl : (!(computeFlags (preCheckPutRegion c.ri r).1 r).saveKV &&
        !(computeFlags (preCheckPutRegion c.ri r).1 r).saveCache &&
        !(computeFlags (preCheckPutRegion c.ri r).1 r).isNew) with
    | true => exact Or.inl (by rw [← hb, hfl, if_pos rfl])
    | false =>
      rw [hfl, if_neg Bool.false_ne_true, if_pos (flags_saveCache _ r hfl)] at hb
      exact Or.inr ⟨_, hb.symm⟩
  · refine Or.inl ⟨hv, ?_⟩
    unfold heartbeat
    rw [preCheck_eq hv]

theorem heartbeat_verdict {c : Cluster} (h : Inv c.ri) (r : Region) :
    ((heartbeat c r).2 = .stale ↔ C06.MustReject (abs c.ri) r) ∧
    ((heartbeat c r).2 = .stale → (heartbeat c r).1 = c) := by
  rcases heartbeat_cases c r with ⟨hv, e⟩ | ⟨hv, e⟩
  · rw [e]
    exact ⟨⟨fun _ => (preCheck_stale_iff h r).1 hv, fun _ => rfl⟩, fun _ => rfl⟩
  · rcases e with e | ⟨saveKV, e⟩ <;> rw [e] <;> exact ⟨⟨nofun, (absurd · (preCheck_ok h hv))⟩, nofun⟩

theorem heartbeat_effect {c : Cluster} (h : Inv c.ri) {r : Region} (hr : WF r) :
    (heartbeat c r).1 = c ∨
      (¬ C06.MustReject (abs c.ri) r ∧ Inv (heartbeat c r).1.ri ∧
        abs (heartbeat c r).1.ri = C07.put (abs c.ri) r ∧
        C06.StoredOk c.storage (heartbeat c r).1.storage r (C07.displaced (abs c.ri) r)) := by
  rcases heartbeat_cases c r with ⟨_, e⟩ | ⟨hv, e | ⟨saveKV, e⟩⟩ <;> rw [e]
  · exact Or.inl rfl
  · exact Or.inl rfl
  · have p := setRegion_refines h hr
    refine Or.inr ⟨preCheck_ok h hv, p.inv, p.abs_eq, ?_⟩
    rw [p.out_eq]
    exact storedOk_store _ r saveKV _ (fun y hy => (mem_displaced.1 hy).2.2)

theorem heartbeat_inv {c : Cluster} (h : Inv c.ri) {r : Region} (hr : WF r) : Inv (heartbeat c r).1.ri := by
  rcases heartbeat_effect h hr with e | ⟨_, e, _⟩
  · rw [e]; exact h
  · exact e

/-- what is served after a heartbeat was served before, or is the heartbeat, and that one passed the check -/
theorem served_from {c : Cluster} (h : Inv c.ri) {r : Region} (hr : WF r) {y : Region}
    (hy : y ∈ abs (heartbeat c r).1.ri) : y ∈ abs c.ri ∨ y = r ∧ ¬ C06.MustReject (abs c.ri) r := by
  rcases heartbeat_effect h hr with e | ⟨hnm, _, e, _⟩
  · exact Or.inl (e ▸ hy)
  · exact (mem_put.1 (e ▸ hy)).elim (fun e' => Or.inr ⟨e', hnm⟩) (fun h' => Or.inl h'.1)

end PdModel.RegionCache
