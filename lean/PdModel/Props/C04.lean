import PdModel.Model.IdAlloc
import PdModel.Lemmas.IdAlloc
import PdModel.Spec.C04
import PdModel.Generated.IdAlloc
/-!
C04.  The invariant speaks of the ghost log `granted`; `StepOk.logs` and `events_eq_granted` tie the log to the
observed events.
Quantifiers: every number of allocator instances, every interleaving of their reads, transactions
and local allocations, every leader-record history, every transaction fault (error with or without
effect), no bound on the length of the history.
-/
namespace PdModel.IdAlloc
open PdModel.Spec

def events : St → List Op → List C04.Ev
  | _, [] => []
  | s, op :: ops =>
    let r := step s op
    (evOf r.1 op r.2).toList ++ events r.1 ops

theorem toList_reverse {α} (o : Option α) : o.toList.reverse = o.toList := by cases o <;> rfl

theorem events_eq_granted (s : St) (ops : List Op) :
    ((run s ops).granted.map toEv).reverse = (s.granted.map toEv).reverse ++ events s ops := by
  induction ops generalizing s with
  | nil => exact (List.append_nil _).symm
  | cons op ops ih =>
    rw [show run s (op :: ops) = run (step s op).1 ops from rfl, ih, (step_ok s op).logs, List.reverse_append,
      List.append_assoc, toList_reverse]
    rfl

theorem inv_reachable (k : Nat) (hk : 0 < k) (ops : List Op) : Inv (run (init k) ops) :=
  inv_run (inv_init k) hk ops

theorem holds_of_inv {s : St} (h : Inv s) : C04.Holds (s.granted.map toEv).reverse := by
  refine ⟨?_, fun i => ?_, fun e he => ?_⟩
  · rw [List.map_reverse, List.map_map]; exact List.pairwise_reverse.2 (h.nodup.imp Ne.symm)
  · rw [List.filter_reverse, List.map_reverse, List.pairwise_reverse, List.filter_map, List.map_map]
    exact h.incr i
  · obtain ⟨g, hg, rfl⟩ := List.mem_map.1 (List.mem_reverse.1 he)
    exact (h.gle g hg).2.1

/-- C04 from any state that satisfies the invariant, not only the initial one -/
theorem C04_holds_from {s : St} (h : Inv s) (hs : 0 < s.step) (ops : List Op) :
    C04.Holds ((s.granted.map toEv).reverse ++ events s ops) := by
  rw [← events_eq_granted]
  exact holds_of_inv (inv_run h hs ops)

/-- C04: for every history of the model, the observed allocations are pairwise distinct,
    increase within each instance, and none exceeds the bound that was durably stored when it
    was returned.  The only hypothesis is `0 < allocStep`. -/
theorem C04_holds (k : Nat) (hk : 0 < k) (ops : List Op) : C04.Holds (events (init k) ops) :=
  C04_holds_from (inv_init k) hk ops

/-- instantiated with the step extracted from `/repo/server/id/id.go` -/
theorem C04_holds_extracted (ops : List Op) :
    C04.Holds (events (init PdModel.Generated.IdAlloc.allocStep) ops) :=
  C04_holds _ (by decide) ops

/-- a transaction answered `conflict` changed neither the stored bound nor a window -/
theorem cas_conflict_unchanged (s : St) (i : Nat) (f : Fault) (h : (cas s i f).2 = .conflict) :
    (cas s i f).1.stored = s.stored ∧
    ∀ (j : Nat) (y : Inst), (cas s i f).1.insts[j]? = some y →
      ∃ y0 : Inst, s.insts[j]? = some y0 ∧ y.base = y0.base ∧ y.end_ = y0.end_ := by
  rcases cas_cases s i f with ⟨_, e⟩ | ⟨x, v, k, hx, _, ⟨_, e⟩ | ⟨_, _, e⟩⟩ <;> rw [e] at h ⊢
  · cases h
  · exact ⟨rfl, forall_getElem?_set (fun _ y hy => ⟨y, hy, rfl, rfl⟩) ⟨x, hx, rfl, rfl⟩⟩
  · split at h <;> cases h

/-- If the transaction's condition does not hold – the issuing member is not the value of the leader
    record (**non-leader cannot extend**) or the stored bound is not the one that was read
    (**lost race cannot extend**) – the transaction never reports success, the stored bound is
    unchanged and so is every instance's window; this holds for every fault flag. -/
theorem failed_condition_cannot_extend (s : St) (i : Nat) (x : Inst) (v : Option Nat) (k : Kind)
    (f : Fault) (hx : s.insts[i]? = some x) (hp : x.pending = some (v, k))
    (hc : s.leader ≠ x.member ∨ s.stored ≠ v) :
    (cas s i f).2 ≠ .ok ∧ (cas s i f).1.stored = s.stored ∧
    ∀ (j : Nat) (y : Inst), (cas s i f).1.insts[j]? = some y →
      ∃ y0 : Inst, s.insts[j]? = some y0 ∧ y.base = y0.base ∧ y.end_ = y0.end_ := by
  rcases cas_cases s i f with ⟨h, _⟩ | ⟨x', v', k', hx', hp', ⟨_, e⟩ | ⟨_, hh, _⟩⟩
  · exact nomatch (h x hx).symm.trans hp
  · rw [e]; exact ⟨by split <;> nofun, rfl, forall_getElem?_set (fun _ y hy => ⟨y, hy, rfl, rfl⟩) ⟨x', hx', rfl, rfl⟩⟩
  · cases Option.some.inj (hx.symm.trans hx')
    cases Option.some.inj (hp.symm.trans hp')
    have := casHolds_iff.1 hh
    exact hc.elim (absurd this.2.1) (absurd this.1)

theorem non_leader_cannot_extend (s : St) (i : Nat) (x : Inst) (v k f)
    (hx : s.insts[i]? = some x) (hp : x.pending = some (v, k)) (hl : s.leader ≠ x.member) :
    (cas s i f).2 ≠ .ok ∧ (cas s i f).1.stored = s.stored :=
  let h := failed_condition_cannot_extend s i x v k f hx hp (Or.inl hl); ⟨h.1, h.2.1⟩

theorem lost_race_cannot_extend (s : St) (i : Nat) (x : Inst) (v k f)
    (hx : s.insts[i]? = some x) (hp : x.pending = some (v, k)) (hl : s.stored ≠ v) :
    (cas s i f).2 ≠ .ok ∧ (cas s i f).1.stored = s.stored :=
  let h := failed_condition_cannot_extend s i x v k f hx hp (Or.inr hl); ⟨h.1, h.2.1⟩

/-- no operation, failed or not, decreases the stored bound -/
theorem stored_monotone (s : St) (op : Op) : s.bound ≤ (step s op).1.bound :=
  (step_ok s op).frame.2

theorem run_step_const (s : St) (ops : List Op) : (run s ops).step = s.step :=
  foldl_inv (·.step = s.step) _ ops s rfl fun t op _ h => (step_ok t op).frame.1.trans h

/-! Non-vacuity: a concrete history with two instances racing for the window, a lost race,
    a leader switch and a faulty transaction. -/
def demoOps : List Op :=
  [.new 1, .new 2, .leader 1, .galloc 0, .leader 2, .alloc 1 .none, .finish 0 .none,
   .leader 1, .alloc 0 .errAfter, .alloc 0 .none, .alloc 1 .none, .alloc 1 .none]

example : events (init 3) demoOps = [⟨1, 1, 3⟩, ⟨0, 7, 9⟩, ⟨1, 2, 9⟩, ⟨1, 3, 9⟩] := by decide

/-- structure obligation: `Alloc` and `Rebase` each hold the instance mutex for their whole body
    (this is what makes rd ; cas ; bump of one instance sequential in the model).  Re-checked against
    the facts regenerated from the Go source on every run. -/
theorem id_alloc_sections_locked :
    PdModel.Generated.IdAlloc.allocIsOneSection = true ∧
    PdModel.Generated.IdAlloc.rebaseIsOneSection = true := by decide
end PdModel.IdAlloc
