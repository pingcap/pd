import PdModel.Model.StoreFsm
import PdModel.Spec.C14
import PdModel.Prelude.ListFacts
/-!
`Good s o direct sweep` collects, in terms of look-ups in the model state, what one operation must guarantee;
`Props/C14.lean` turns it into the observable statement `Spec.C14.StepOk`.  Its two clauses about the life of a
store are established store by store, as `Entry` (`Good.of_entry`).
Every operation reaches the served and stored maps in one of three ways, and there is one lemma for each:
it leaves the record of every store alone (`good_frame`: refusals, region heartbeats, restart), it writes one
store through `commit` (`good_commit`, which asks that the address written be `Free`; `good_update`, for a store that
keeps its address), or it is one of the two loops (`CheckRel`, `RmRel`).
-/
namespace PdModel.StoreFsm
open PdModel.AMap PdModel.Spec

def lifeOf : SState → C14.Life
  | .up => .up | .offline => .offline | .tombstone => .tombstone

def recOf (m : Meta) : C14.Rec :=
  { addr := m.addr, state := lifeOf m.state, destroyed := m.destroyed,
    version := (m.ver.major, m.ver.minor, m.ver.patch), start := m.start, labels := m.labels }

theorem lifeOf_inj (x y : SState) : lifeOf x = lifeOf y ↔ x = y := by cases x <;> cases y <;> decide

theorem lifeOf_tomb (x : SState) : lifeOf x = .tombstone ↔ x = .tombstone := lifeOf_inj x .tombstone
theorem lifeOf_up (x : SState) : lifeOf x = .up ↔ x = .up := lifeOf_inj x .up
theorem lifeOf_off (x : SState) : lifeOf x = .offline ↔ x = .offline := lifeOf_inj x .offline

theorem liveRec_recOf (m : Meta) : C14.liveRec (recOf m) = live m := by
  cases m with
  | mk addr state destroyed ver start labels => cases state <;> rfl

theorem live_iff (m : Meta) : live m = true ↔ m.state ≠ .tombstone ∧ m.destroyed = false := by
  simp only [live, Bool.and_eq_true, bne_iff_ne, ne_eq, Bool.not_eq_true']

theorem fwd_recOf (a b : Meta) : C14.fwd (recOf a) (recOf b) = true ↔
    (a.state = .tombstone → b.state = .tombstone) ∧ (b.state = .tombstone → a.state ≠ .up) ∧
    (a.destroyed = true → ¬(a.state = .offline ∧ b.state = .up)) ∧ (a.destroyed = true → b.destroyed = true) := by
  simp only [C14.fwd_iff, recOf, ne_eq, lifeOf_tomb, lifeOf_up, lifeOf_off]

theorem fwd_same (a b : Meta) (h1 : b.state = a.state) (h2 : b.destroyed = a.destroyed) :
    C14.fwd (recOf a) (recOf b) = true :=
  (fwd_recOf a b).2 ⟨fun h => h1.trans h, fun h e => (nomatch e.symm.trans (h1.symm.trans h)),
    fun _ h => (nomatch h.1.symm.trans (h1.symm.trans h.2)), fun h => h2.trans h⟩

def tomb (a : Served) : Served := { a with md := { a.md with state := .tombstone } }

theorem fwd_tomb (a : Served) (h : a.md.state ≠ .up) : C14.fwd (recOf a.md) (recOf (tomb a).md) = true :=
  (fwd_recOf _ _).2 ⟨fun _ => rfl, fun _ => h, fun _ h' => (nomatch h'.2), fun h' => h'⟩

structure Inv (served : AMap Served) (stored : AMap Meta) : Prop where
  durable : ∀ id, get stored id = (get served id).map (·.md)
  addr : ∀ (i j : Nat) (a b : Served), get served i = some a → get served j = some b → i ≠ j →
    live a.md = true → live b.md = true → a.md.addr ≠ b.md.addr

theorem inv_init : Inv ([] : AMap Served) ([] : AMap Meta) :=
  ⟨fun _ => rfl, fun _ _ _ _ h => nomatch h⟩

/-- what the address loop of `putStoreImpl` establishes before a record with address `addr` is published for `id` -/
def Free (served : AMap Served) (id : Nat) (addr : String) : Prop :=
  ∀ (j : Nat) (b : Served), j ≠ id → get served j = some b → live b.md = true → b.md.addr ≠ addr

theorem Inv.free {served : AMap Served} {stored : AMap Meta} (h : Inv served stored) {id : Nat} {a : Served}
    (ha : get served id = some a) (la : live a.md = true) : Free served id a.md.addr :=
  fun j b hj hb lb => h.addr j id b a hb ha hj lb la

/-- one key of both maps is set (`x = some sv`) or cleared (`x = none`) -/
theorem Inv.set {served served' : AMap Served} {stored stored' : AMap Meta} (h : Inv served stored) (id : Nat)
    (x : Option Served) (hs : ∀ j, get served' j = if j = id then x else get served j)
    (hd : ∀ j, get stored' j = if j = id then x.map (·.md) else get stored j)
    (ha : ∀ sv, x = some sv → live sv.md = true → Free served id sv.md.addr) :
    Inv served' stored' := by
  refine ⟨fun j => ?_, fun i j a b hi hj hij la lb => ?_⟩
  · rw [hs, hd, h.durable j]
    exact (apply_ite (Option.map Served.md) (j = id) x _).symm
  · rw [hs] at hi hj
    by_cases h1 : i = id
    · have h2 : j ≠ id := fun e => hij (h1.trans e.symm)
      rw [if_pos h1] at hi; rw [if_neg h2] at hj
      exact (ha a hi la j b h2 hj lb).symm
    · rw [if_neg h1] at hi
      by_cases h2 : j = id
      · rw [if_pos h2] at hj
        exact ha b hj lb i a h1 hi la
      · rw [if_neg h2] at hj
        exact h.addr i j a b hi hj hij la lb

/-- `putStoreLocked` -/
theorem Inv.put {served : AMap Served} {stored : AMap Meta} (h : Inv served stored) (id : Nat) (sv : Served)
    (ha : live sv.md = true → Free served id sv.md.addr) : Inv (put served id sv) (put stored id sv.md) :=
  h.set id (some sv) (fun _ => get_put ..) (fun _ => get_put ..) fun _ e => by cases e; exact ha

/-- `deleteStoreLocked` -/
theorem Inv.del {served : AMap Served} {stored : AMap Meta} (h : Inv served stored) (id : Nat) :
    Inv (del served id) (del stored id) :=
  h.set id none (fun _ => get_del ..) (fun _ => get_del ..) fun _ e => nomatch e

/-- record and weights (the region bookkeeping and the heartbeat flag aside) -/
def core (x : Served) : Meta × Nat × Nat := (x.md, x.lw, x.rw)

def sameSv (a b : Option Served) : Prop := a.map core = b.map core

theorem sameSv_refl (a : Option Served) : sameSv a a := rfl

theorem map_md_of_sameSv {a b : Option Served} (h : sameSv a b) : a.map (·.md) = b.map (·.md) := by
  have := congrArg (Option.map Prod.fst) h
  rw [Option.map_map, Option.map_map] at this
  exact this

/-- `direct`: `buryStore` entered directly; `sweep`: the tombstone clean-up loop -/
structure Good (s : St) (o : Out) (direct sweep : Bool) : Prop where
  inv : Inv o.st.served o.st.stored
  fwd : ∀ (id : Nat) (a : Served), get s.served id = some a →
    match get o.st.served id with
    | some b => C14.fwd (recOf a.md) (recOf b.md) = true
    | none => a.md.state = .tombstone
  bury : direct = false → ∀ (id : Nat) (a b : Served), get s.served id = some a → get o.st.served id = some b →
    a.md.state ≠ .tombstone → b.md.state = .tombstone → treeCount s.regions id = 0
  failed : ∀ w ∈ o.writes, w.failed = true → sameSv (get s.served w.id) (get o.st.served w.id)
  err : o.res ≠ .ok → sweep = false → ∀ id, sameSv (get s.served id) (get o.st.served id)

theorem Good.congr {s s' : St} {o o' : Out} {d w : Bool} (h : Good s o d w)
    (hs : s'.served = s.served) (hr : s'.regions = s.regions)
    (h1 : o'.st.served = o.st.served) (h2 : o'.st.stored = o.st.stored)
    (h3 : ∀ x ∈ o'.writes, x.failed = true → x ∈ o.writes) (h4 : o'.res ≠ .ok → o.res ≠ .ok) : Good s' o' d w :=
  ⟨by rw [h1, h2]; exact h.inv, by rw [hs, h1]; exact h.fwd, by rw [hs, hr, h1]; exact h.bury,
   by rw [hs, h1]; exact fun x hx hf => h.failed x (h3 x hx hf) hf, by rw [hs, h1]; exact fun hr => h.err (h4 hr)⟩

/-- what `Good` asks of one store, served as `a` before the operation: `c` = the store held no region peer -/
def Entry (c : Prop) (a : Served) : Option Served → Prop
  | some b => C14.fwd (recOf a.md) (recOf b.md) = true ∧ (a.md.state ≠ .tombstone → b.md.state = .tombstone → c)
  | none => a.md.state = .tombstone

theorem Entry.same {c : Prop} {a b : Served} (h1 : b.md.state = a.md.state) (h2 : b.md.destroyed = a.md.destroyed) :
    Entry c a (some b) :=
  ⟨fwd_same _ _ h1 h2, fun hna hb => absurd (h1.symm.trans hb) hna⟩

theorem Good.of_entry {s : St} {o : Out} {d w : Bool} (inv : Inv o.st.served o.st.stored)
    (he : ∀ id a, get s.served id = some a → Entry (d = false → treeCount s.regions id = 0) a (get o.st.served id))
    (failed : ∀ w ∈ o.writes, w.failed = true → sameSv (get s.served w.id) (get o.st.served w.id))
    (err : o.res ≠ .ok → w = false → ∀ id, sameSv (get s.served id) (get o.st.served id)) : Good s o d w := by
  refine ⟨inv, fun id a ha => ?_, fun hd id a b ha hb hna hb' => ?_, failed, err⟩
  · have h := he id a ha
    revert h
    cases get o.st.served id with
    | none => exact fun h => h
    | some b => exact And.left
  · have h := he id a ha
    rw [hb] at h
    exact h.2 hna hb' hd

/-- the guards of an operation are walked with this, branch by branch: `split` on a goal `Good s (if …) d w`
    is many times dearer to check -/
theorem Good.ite {s : St} {d w : Bool} {c : Prop} [Decidable c] {a b : Out}
    (ha : c → Good s a d w) (hb : ¬c → Good s b d w) : Good s (if c then a else b) d w :=
  ite_ind (P := fun o => Good s o d w) ha hb

theorem bumpCV_frame (s : St) :
    (bumpCV s).served = s.served ∧ (bumpCV s).stored = s.stored ∧ (bumpCV s).regions = s.regions := by
  unfold bumpCV; split
  · split <;> exact ⟨rfl, rfl, rfl⟩
  · exact ⟨rfl, rfl, rfl⟩

theorem good_bump {s : St} {o : Out} {d w : Bool} (h : Good s o d w) :
    Good s { o with st := bumpCV o.st } d w :=
  h.congr rfl rfl (bumpCV_frame _).1 (bumpCV_frame _).2.1 (fun _ hx _ => hx) (fun h => h)

section
variable {s : St} {d w : Bool} (hinv : Inv s.served s.stored)
include hinv

theorem good_frame {o : Out} (h1 : ∀ id, (get o.st.served id).map (·.md) = (get s.served id).map (·.md))
    (h2 : o.st.stored = s.stored)
    (h3 : (o.res = .ok ∧ o.writes = []) ∨ ∀ id, sameSv (get s.served id) (get o.st.served id)) :
    Good s o d w := by
  have pre : ∀ id b, get o.st.served id = some b → ∃ a, get s.served id = some a ∧ a.md = b.md := fun id b hb =>
    Option.map_eq_some_iff.1 ((h1 id).symm.trans (congrArg _ hb))
  refine .of_entry ⟨fun id => by rw [h2, hinv.durable id, h1 id], fun i j a b hi hj hij la lb => ?_⟩ (fun id a ha => ?_)
    (fun x hx _ => h3.elim (fun h => absurd (h.2 ▸ hx) List.not_mem_nil) (fun h => h x.id))
    (fun hr _ id => h3.elim (fun h => absurd h.1 hr) (fun h => h id))
  · obtain ⟨a', ha', ea⟩ := pre i a hi
    obtain ⟨b', hb', eb⟩ := pre j b hj
    rw [← ea] at la ⊢; rw [← eb] at lb ⊢
    exact hinv.addr i j a' b' ha' hb' hij la lb
  · obtain ⟨b, hb, (e : b.md = a.md)⟩ := Option.map_eq_some_iff.1 ((h1 id).trans (congrArg _ ha))
    rw [hb]; exact .same (congrArg _ e) (congrArg _ e)

theorem good_same {o : Out} (h1 : o.st.served = s.served) (h2 : o.st.stored = s.stored) : Good s o d w :=
  good_frame hinv (fun _ => by rw [h1]) h2 (Or.inr fun _ => by rw [h1]; exact sameSv_refl _)

theorem good_reject {r : Res} : Good s (reject s r) d w := good_same hinv rfl rfl

theorem good_guard {c : Prop} [Decidable c] {r : Res} {b : Out} (hb : ¬c → Good s b d w) :
    Good s (if c then reject s r else b) d w :=
  .ite (fun _ => good_reject hinv) hb

theorem good_commit {id : Nat} {sv : Served} {fail : Bool}
    (he : ∀ a, get s.served id = some a → Entry (d = false → treeCount s.regions id = 0) a (some sv))
    (ha : live sv.md = true → Free s.served id sv.md.addr) : Good s (commit s id sv fail) d w := by
  cases fail with
  | true => exact good_same hinv rfl rfl
  | false =>
    refine .of_entry (hinv.put id sv ha) (fun j a hj => ?_) (List.forall_mem_singleton.2 fun hf => nomatch hf)
      (fun hr => absurd rfl hr)
    show Entry _ a (get (put s.served id sv) j)
    rw [get_put]
    by_cases h : j = id
    · rw [if_pos h]; subst h; exact he a hj
    · rw [if_neg h, hj]; exact .same rfl rfl

theorem good_update {id : Nat} {old sv : Served} {fail : Bool} (hold : get s.served id = some old)
    (haddr : sv.md.addr = old.md.addr) (hlive : live sv.md = true → live old.md = true)
    (he : Entry (d = false → treeCount s.regions id = 0) old (some sv)) :
    Good s (commit s id sv fail) d w :=
  good_commit hinv (fun a ha => by cases hold.symm.trans ha; exact he)
    (fun ls => haddr ▸ hinv.free hold (hlive ls))

theorem good_keepMd {id : Nat} {old sv : Served} {fail : Bool} (hold : get s.served id = some old)
    (e : sv.md = old.md) : Good s (commit s id sv fail) d w :=
  good_update hinv hold (congrArg _ e) (fun h => e ▸ h) (.same (congrArg _ e) (congrArg _ e))

theorem good_setLive {id : Nat} {old : Served} {fail : Bool} (hold : get s.served id = some old)
    (hnt : old.md.state ≠ .tombstone) (hnd : old.md.destroyed = false) (st : SState) (hst : st ≠ .tombstone) (dd : Bool) :
    Good s (commit s id { old with md := { old.md with state := st, destroyed := dd } } fail) d w :=
  good_update hinv hold rfl (fun _ => (live_iff _).2 ⟨hnt, hnd⟩)
    ⟨(fwd_recOf _ _).2 ⟨fun h => absurd h hnt, fun h => absurd h hst, fun h => (nomatch hnd.symm.trans h),
      fun h => (nomatch hnd.symm.trans h)⟩, fun _ h => absurd h hst⟩

omit hinv in
theorem addrTaken_false {served : AMap Served} {id : Nat} {addr : String} (h : ¬addrTaken served id addr = true) :
    Free served id addr := by
  intro j b hj hb lb e
  exact h (List.any_eq_true.2 ⟨(j, b), mem_of_get hb,
    Bool.and_eq_true_iff.2 ⟨Bool.and_eq_true_iff.2 ⟨lb, bne_iff_ne.2 hj⟩, beq_iff_eq.2 e⟩⟩)

omit hinv in
theorem newServed_some {s : St} {r : Req} (v : Ver) (force : Bool) {old : Served} (h : get s.served r.id = some old) :
    (newServed s r v force).md.state = old.md.state ∧ (newServed s r v force).md.destroyed = old.md.destroyed ∧
    (newServed s r v force).lw = old.lw ∧ (newServed s r v force).rw = old.rw := by
  unfold newServed; rw [h]; exact ⟨rfl, rfl, rfl, rfl⟩

omit hinv in
theorem newServed_addr (s : St) (r : Req) (v : Ver) (force : Bool) : (newServed s r v force).md.addr = r.addr := by
  unfold newServed; split <;> rfl

theorem good_putImpl {r : Req} {force fail : Bool} : Good s (putImpl s r force fail) d w := by
  unfold putImpl
  refine good_guard hinv fun _ => ?_
  cases r.ver with
  | none => exact good_reject hinv
  | some v =>
    refine good_guard hinv fun _ => good_guard hinv fun hat =>
      good_guard hinv fun _ => good_commit hinv
        (fun a ha => .same (newServed_some v force ha).1 (newServed_some v force ha).2.1)
        (fun _ => newServed_addr s r v force ▸ addrTaken_false hat)

theorem good_putStore {r : Req} {mask : Nat} : Good s (putStore s r mask) d w :=
  .ite (fun _ => good_bump (good_putImpl hinv)) (fun _ => good_putImpl hinv)

theorem good_grpcPut {r : Req} {mask : Nat} : Good s (grpcPut s r mask) d w := by
  unfold grpcPut
  cases get s.served r.id with
  | none => exact good_guard hinv (fun _ => good_putStore hinv)
  | some sv =>
    exact good_guard hinv fun _ => good_guard hinv (fun _ => good_putStore hinv)

theorem good_updateLabels {id : Nat} {ls : Labels} {force : Bool} {mask : Nat} :
    Good s (updateLabels s id ls force mask) d w := by
  unfold updateLabels
  cases get s.served id with
  | none => exact good_reject hinv
  | some sv => exact good_putImpl hinv

theorem good_grpcHeartbeat {id mask : Nat} : Good s (grpcHeartbeat s id mask) d w := by
  unfold grpcHeartbeat
  cases hsv : get s.served id with
  | none => exact good_reject hinv
  | some sv =>
    refine good_guard hinv fun _ => good_guard hinv fun _ => ?_
    -- the save may fail, the heartbeat reports success all the same
    exact (good_keepMd (sv := { sv with persisted := true }) hinv hsv rfl).congr rfl rfl rfl rfl (fun _ hx _ => hx)
      (fun h => absurd rfl h)

theorem good_removeStore {id : Nat} {destroyed : Bool} {mask : Nat} : Good s (removeStore s id destroyed mask) d w := by
  unfold removeStore
  cases hsv : get s.served id with
  | none => exact good_reject hinv
  | some sv =>
    exact good_guard hinv fun _ => good_guard hinv fun hnt =>
      good_guard hinv fun hnd =>
        good_setLive hinv hsv hnt (Bool.eq_false_iff.2 hnd) .offline (fun h => nomatch h) destroyed

theorem good_upStore {id mask : Nat} : Good s (upStore s id mask) d w := by
  unfold upStore
  cases hsv : get s.served id with
  | none => exact good_reject hinv
  | some sv =>
    exact good_guard hinv fun hnt => good_guard hinv fun hnd =>
      good_guard hinv fun _ =>
        good_setLive hinv hsv hnt (Bool.eq_false_iff.2 hnd) .up (fun h => nomatch h) sv.md.destroyed

/-- `hempty`: except in the direct `BuryStore` (`d`), the store is known to hold no region peers -/
theorem good_buryStore {id : Nat} {fail : Bool} (hempty : d = false → treeCount s.regions id = 0) :
    Good s (buryStore s id fail) d w := by
  unfold buryStore
  cases hsv : get s.served id with
  | none => exact good_reject hinv
  | some sv =>
    exact good_guard hinv fun _ => good_guard hinv fun hnu =>
      good_bump (good_update (sv := tomb sv) hinv hsv rfl (fun h => absurd rfl ((live_iff _).1 h).1)
        ⟨fwd_tomb sv hnu, fun _ _ => hempty⟩)

theorem good_setWeight {id lw rw mask : Nat} : Good s (setWeight s id lw rw mask) d w := by
  unfold setWeight
  cases hsv : get s.served id with
  | none => exact good_reject hinv
  | some sv =>
    refine .ite (fun _ => good_same hinv rfl rfl) fun _ => .ite (fun _ => good_same hinv rfl rfl) fun _ => ?_
    -- the weight keys are not part of what `Good` looks at; the two writes in front succeeded
    refine (good_keepMd (sv := { sv with lw := lw, rw := rw })
      (s := { s with storedLW := put s.storedLW id lw, storedRW := put s.storedRW id rw }) hinv hsv rfl).congr
      rfl rfl rfl rfl
      (List.forall_mem_cons.2 ⟨fun hf => (nomatch hf), List.forall_mem_cons.2 ⟨fun hf => (nomatch hf), fun _ hx _ => hx⟩⟩)
      (fun h => h)

omit hinv in
theorem refresh_core (regions : AMap (List Nat)) : ∀ (l : List Nat) (served : AMap Served) (id : Nat),
    (get (refresh regions served l) id).map core = (get served id).map core := by
  intro l
  induction l with
  | nil => intro served id; rfl
  | cons x rest ih =>
    intro served id
    unfold refresh
    cases hsv : get served x with
    | none => exact ih served id
    | some sv =>
      show (get (refresh regions (put served x { sv with rcount := treeCount regions x }) rest) id).map core = _
      rw [ih, get_put]
      by_cases h : id = x
      · rw [if_pos h, h, hsv]; rfl
      · rw [if_neg h]

theorem good_regionHeartbeat {rid : Nat} {stores : List Nat} : Good s (regionHeartbeat s rid stores) d w :=
  good_frame hinv (fun id => map_md_of_sameSv (refresh_core _ _ _ id)) rfl (Or.inl ⟨rfl, rfl⟩)

theorem good_restart : Good s (restart s) d w :=
  good_frame hinv (fun id => by
    show (get (mapVal (loaded s) s.stored) id).map (·.md) = _
    rw [get_mapVal, hinv.durable id]
    cases get s.served id <;> rfl) rfl (Or.inl ⟨rfl, rfl⟩)

end

theorem dedupAux_spec : ∀ (l seen : List Nat), (dedupAux seen l).Nodup ∧ ∀ x ∈ dedupAux seen l, x ∉ seen := by
  intro l
  induction l with
  | nil => exact fun seen => ⟨List.nodup_nil, fun _ h => nomatch h⟩
  | cons x xs ih =>
    intro seen
    unfold dedupAux
    by_cases hx : seen.contains x = true
    · rw [if_pos hx]; exact ih seen
    · rw [if_neg hx]
      obtain ⟨h1, h2⟩ := ih (x :: seen)
      exact ⟨List.nodup_cons.2 ⟨fun hm => h2 x hm List.mem_cons_self, h1⟩, List.forall_mem_cons.2
        ⟨fun hs => hx (List.contains_iff_mem.2 hs), fun y hy hs => h2 y hy (List.mem_cons_of_mem _ hs)⟩⟩

theorem walk_nodup (s : St) (order : List Nat) : (walk s order).Nodup := (dedupAux_spec _ _).1

/-- loop invariant of `checkStores` relative to the state `s0` at its start; `l` = ids still to visit -/
structure CheckRel (s0 s : St) (ws : List Write) (l : List Nat) : Prop where
  regions : s.regions = s0.regions
  inv : Inv s.served s.stored
  entries : ∀ id, get s.served id = get s0.served id ∨
    ∃ a, get s0.served id = some a ∧ a.md.state = .offline ∧ treeCount s0.regions id = 0 ∧
      get s.served id = some (tomb a)
  failed : ∀ w ∈ ws, w.failed = true → get s.served w.id = get s0.served w.id ∧ w.id ∉ l

theorem buriable_iff (s : St) (id : Nat) :
    buriable s id = true ↔ ∃ sv, get s.served id = some sv ∧ sv.md.state = .offline ∧ treeCount s.regions id = 0 := by
  unfold buriable
  cases get s.served id <;> simp

theorem buryStore_offline {s : St} {id : Nat} {sv : Served} (fail : Bool) (h : get s.served id = some sv)
    (ho : sv.md.state = .offline) :
    buryStore s id fail = { (commit s id (tomb sv) fail) with st := bumpCV (commit s id (tomb sv) fail).st } := by
  unfold buryStore
  rw [h]
  dsimp only
  rw [ho]
  rfl

theorem CheckRel.tail {s0 s : St} {ws : List Write} {id : Nat} {l : List Nat} (h : CheckRel s0 s ws (id :: l)) :
    CheckRel s0 s ws l :=
  ⟨h.regions, h.inv, h.entries, fun x hx hf =>
    ⟨(h.failed x hx hf).1, fun hm => (h.failed x hx hf).2 (List.mem_cons_of_mem _ hm)⟩⟩

theorem CheckRel.bump {s0 s : St} {ws : List Write} {l : List Nat} (h : CheckRel s0 s ws l) :
    CheckRel s0 (bumpCV s) ws l := by
  obtain ⟨h1, h2, h3⟩ := bumpCV_frame s
  exact ⟨h3.trans h.regions, by rw [h1, h2]; exact h.inv, by rw [h1]; exact h.entries, by rw [h1]; exact h.failed⟩

theorem CheckRel.bury {s0 s : St} {ws : List Write} {id : Nat} {l : List Nat} (h : CheckRel s0 s ws (id :: l))
    (hid : id ∉ l) (sv : Served) (hsv : get s.served id = some sv) (hoff : sv.md.state = .offline)
    (htc : treeCount s.regions id = 0) (fail : Bool) :
    CheckRel s0 (commit s id (tomb sv) fail).st (ws ++ (commit s id (tomb sv) fail).writes) l := by
  have horig : get s.served id = get s0.served id := by
    rcases h.entries id with h1 | ⟨a, _, _, _, h4⟩
    · exact h1
    · cases hsv.symm.trans h4; cases hoff
  cases fail with
  | true =>
    exact ⟨h.regions, h.inv, h.entries,
      List.forall_mem_append.2 ⟨h.tail.failed, List.forall_mem_singleton.2 fun _ => ⟨horig, hid⟩⟩⟩
  | false =>
    refine ⟨h.regions, h.inv.put id (tomb sv) (fun hl => absurd rfl ((live_iff _).1 hl).1), fun j => ?_,
      List.forall_mem_append.2 ⟨fun x hx hf => ?_, List.forall_mem_singleton.2 fun hf => nomatch hf⟩⟩
    · show get (put s.served id (tomb sv)) j = _ ∨ ∃ a, _ ∧ _ ∧ _ ∧ get (put s.served id (tomb sv)) j = _
      rw [get_put]
      by_cases hj : j = id
      · rw [if_pos hj, hj]
        exact Or.inr ⟨sv, horig.symm.trans hsv, hoff, by rw [← h.regions]; exact htc, rfl⟩
      · rw [if_neg hj]; exact h.entries j
    · have := h.failed x hx hf
      refine ⟨?_, fun hm => this.2 (List.mem_cons_of_mem _ hm)⟩
      show get (put s.served id (tomb sv)) x.id = _
      rw [get_put_ne (fun e => this.2 (List.mem_cons.2 (Or.inl e)))]
      exact this.1

theorem checkLoop_rel (s0 : St) (mask : Nat) : ∀ (l : List Nat) (s : St) (n : Nat) (ws : List Write),
    l.Nodup → CheckRel s0 s ws l →
    CheckRel s0 (checkLoop s mask l n ws).1 (checkLoop s mask l n ws).2 [] := by
  intro l
  induction l with
  | nil => intro s n ws _ h; exact h
  | cons id rest ih =>
    intro s n ws hnd h
    obtain ⟨hid, hrest⟩ := List.nodup_cons.1 hnd
    unfold checkLoop
    by_cases hb : buriable s id = true
    · obtain ⟨sv, hsv, hoff, htc⟩ := (buriable_iff s id).1 hb
      rw [if_pos hb, buryStore_offline (failBit mask n) hsv hoff]
      dsimp only
      exact ih _ _ _ hrest (h.bury hid sv hsv hoff htc _).bump
    · rw [if_neg hb]
      exact ih _ _ _ hrest h.tail

theorem good_checkLoop {s : St} {mask : Nat} {l : List Nat} {w : Bool} (hinv : Inv s.served s.stored) (hnd : l.Nodup) :
    Good s { st := (checkLoop s mask l 0 []).1, res := .ok, writes := (checkLoop s mask l 0 []).2 } false w := by
  have h := checkLoop_rel s mask l s 0 [] hnd ⟨rfl, hinv, fun _ => Or.inl rfl, fun _ hx => nomatch hx⟩
  refine .of_entry h.inv (fun id a ha => ?_) (fun x hx hf => congrArg _ (h.failed x hx hf).1.symm)
    (fun hr => absurd rfl hr)
  rcases h.entries id with h1 | ⟨a', ha', hoff, htc, h4⟩
  · rw [h1, ha]; exact .same rfl rfl
  · cases ha.symm.trans ha'
    rw [h4]; exact ⟨fwd_tomb a (fun e => nomatch hoff.symm.trans e), fun _ _ _ => htc⟩

theorem good_checkStores {s : St} {order : List Nat} {mask : Nat} {w : Bool} (hinv : Inv s.served s.stored) :
    Good s (checkStores s order mask) false w :=
  good_checkLoop hinv (walk_nodup s order)

theorem good_checkStoresOnly {s : St} {ids : List Nat} {mask : Nat} {w : Bool} (hinv : Inv s.served s.stored) :
    Good s (checkStoresOnly s ids mask) false w :=
  good_checkLoop hinv (dedupAux_spec _ _).1

/-- loop invariant of `RemoveTombStoneRecords` -/
structure RmRel (s0 s : St) : Prop where
  inv : Inv s.served s.stored
  entries : ∀ id, get s.served id = get s0.served id ∨
    ∃ a, get s0.served id = some a ∧ a.md.state = .tombstone ∧ get s.served id = none

theorem removable_iff (s : St) (id : Nat) :
    removable s id = true ↔ ∃ sv, get s.served id = some sv ∧ sv.md.state = .tombstone ∧ sv.rcount = 0 := by
  unfold removable
  cases get s.served id <;> simp

/-- `hw`: the loop stops at its first failing delete, so the store of a failed write is served as at the start -/
theorem RmRel.good {s0 s : St} (h : RmRel s0 s) (o : Out) (d : Bool) (ho : o.st = s)
    (hw : ∀ x ∈ o.writes, x.failed = true → get s.served x.id = get s0.served x.id) : Good s0 o d true := by
  subst ho
  refine .of_entry h.inv (fun id a ha => ?_) (fun x hx hf => congrArg _ (hw x hx hf).symm) (fun _ hs => nomatch hs)
  rcases h.entries id with h1 | ⟨a', ha', htomb, h4⟩
  · rw [h1, ha]; exact .same rfl rfl
  · cases ha.symm.trans ha'
    rw [h4]; exact htomb

theorem good_rmLoop (s0 : St) (mask : Nat) (d : Bool) : ∀ (l : List Nat) (s : St) (n : Nat) (ws : List Write),
    RmRel s0 s → (∀ x ∈ ws, x.failed = false) → Good s0 (rmLoop s mask l n ws) d true := by
  intro l
  induction l with
  | nil => exact fun s n ws h hws => h.good _ d rfl fun x hx hf => nomatch (hws x hx).symm.trans hf
  | cons id rest ih =>
    intro s n ws h hws
    unfold rmLoop
    refine .ite (fun hrm => ?_) (fun _ => ih s n ws h hws)
    obtain ⟨sv, hsv, htomb, _⟩ := (removable_iff s id).1 hrm
    have horig : get s.served id = get s0.served id := by
      rcases h.entries id with h1 | ⟨_, _, _, h4⟩
      · exact h1
      · cases hsv.symm.trans h4
    refine .ite
      (fun _ => h.good _ d rfl (List.forall_mem_append.2
        ⟨fun x hx hf => (nomatch (hws x hx).symm.trans hf), List.forall_mem_singleton.2 fun _ => horig⟩))
      (fun _ => ih _ _ _ ⟨h.inv.del id, fun j => ?_⟩ (List.forall_mem_append.2 ⟨hws, List.forall_mem_singleton.2 rfl⟩))
    show get (del s.served id) j = _ ∨ ∃ a, _ ∧ _ ∧ get (del s.served id) j = none
    rw [get_del]
    by_cases hj : j = id
    · rw [if_pos hj, hj]; exact Or.inr ⟨sv, horig.symm.trans hsv, htomb, rfl⟩
    · rw [if_neg hj]; exact h.entries j

theorem good_removeTombstones {s : St} {order : List Nat} {mask : Nat} {d : Bool} (hinv : Inv s.served s.stored) :
    Good s (removeTombstones s order mask) d true :=
  good_rmLoop s mask d _ s 0 [] ⟨hinv, fun _ => Or.inl rfl⟩ (fun _ hx => nomatch hx)

end PdModel.StoreFsm
