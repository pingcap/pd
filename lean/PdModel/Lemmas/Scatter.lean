import PdModel.Model.Scatter
import PdModel.Spec.C11
import PdModel.Lemmas.Checkers
import PdModel.Prelude.ListFacts
/-! For C11: the two operator shapes of the schedulers judged by `Spec.C11` alone (`holds_move`, `holds_transfer`),
    what the scatter and transfer-leader state filters guarantee, read off the extracted condition table, and the
    invariant `Inv` that the two peer loops of region scatter keep. -/
namespace PdModel.Scatter
open PdModel.Spec.C10 PdModel.Filters PdModel.Spec

theorem length_filter_role {tp : List (Nat × Peer)} {ps : List Peer}
    (h : (tp.map (·.2.role)).Perm (ps.map (·.role))) (P : Nat → Bool) :
    (tp.filter (fun e => P e.2.role)).length = (ps.filter (fun p => P p.role)).length := by
  have := h.countP_eq P
  rwa [List.countP_map, List.countP_map, List.countP_eq_length_filter, List.countP_eq_length_filter] at this

theorem filter_store_ne_eq_erase {l : List Peer} {p0 : Peer} (hnd : (l.map (·.store)).Nodup) (hp : p0 ∈ l) :
    l.filter (fun p => p.store != p0.store) = l.erase p0 := by
  induction l with
  | nil => rfl
  | cons a t ih =>
    rw [List.map_cons, List.nodup_cons] at hnd
    rcases List.mem_cons.1 hp with rfl | hp'
    · rw [List.erase_cons_head, List.filter_cons, bne_self_eq_false, if_neg Bool.false_ne_true]
      exact List.filter_eq_self.2 fun p hpm => bne_iff_ne.2 fun he => hnd.1 (he ▸ List.mem_map_of_mem hpm)
    · have hne : a.store ≠ p0.store := fun he => hnd.1 (he ▸ List.mem_map_of_mem hp')
      rw [List.filter_cons, bne_iff_ne.2 hne, if_pos rfl, ih hnd.2 hp',
        List.erase_cons_tail fun he => hne (congrArg Peer.store (eq_of_beq he))]

theorem length_filter_replace (P : Peer → Bool) {l : List Peer} {p0 np : Peer} (hnd : (l.map (·.store)).Nodup)
    (hp : p0 ∈ l) (hP : P np = P p0) :
    ((l.filter (fun p => p.store != p0.store) ++ [np]).filter P).length = (l.filter P).length := by
  rw [filter_store_ne_eq_erase hnd hp, ← List.countP_eq_length_filter, ← List.countP_eq_length_filter,
    (List.perm_cons_erase hp).countP_eq, List.countP_append, List.countP_singleton, List.countP_cons, hP]

theorem peers_add_remove (r : Region) {t old : Nat} (role : Nat) (hne : t ≠ old) :
    (applySteps r [.add t role, .remove old]).peers = r.peers.filter (fun p => p.store != old) ++ [r.newPeer t role] := by
  show (r.peers ++ [_]).filter _ = _
  simp [List.filter_append, Region.newPeer, hne]

theorem holds_move {x : C11.Input} {p0 : Peer} {n role : Nat} (hrn : x.region.stores.Nodup)
    (hp0 : p0 ∈ x.region.peers) (hrole : (x.region.newPeer n role).isLearner = p0.isLearner)
    (hout : n ∉ x.region.stores) (hup : C11.upStore x n = true) :
    C11.Holds x [.add n role, .remove p0.store] := by
  have hne : n ≠ p0.store := fun he => hout (he ▸ List.mem_map_of_mem hp0)
  have hpeers := peers_add_remove x.region role hne
  refine ⟨?_, ?_, fun _ => (List.filter_sublist.map _).nodup (PdModel.Checkers.nodup_stores_add _ hrn hout), ?_, rfl⟩
  · rw [Region.voters, hpeers]; exact length_filter_replace _ hrn hp0 (congrArg not hrole)
  · rw [Region.learners, hpeers]; exact length_filter_replace _ hrn hp0 hrole
  · exact List.forall_mem_singleton.2 ⟨hup, by simpa using hout, by simpa [removedStores] using hne⟩

theorem holds_transfer {x : C11.Input} {t : Nat} (h : C11.transferOK x x.region t = true) :
    C11.Holds x [.transfer t] :=
  have ⟨c1, _, c3⟩ := PdModel.Checkers.same_counts_transfer x.region t
  ⟨congrArg (fun ps => (ps.filter fun p => !p.isLearner).length) c1,
    congrArg (fun ps => (ps.filter (·.isLearner)).length) c1, fun hn => c3 ▸ hn, nofun, (Bool.and_true _).trans h⟩

theorem transferOK_of {x : C11.Input} {p : Peer} {t : Nat} (hp : x.region.storePeer t = some p)
    (hv : p.isLearner = false) (hne : x.region.leaderStore ≠ t) (ha : C11.acceptsLeader x t = true) :
    C11.transferOK x x.region t = true := by
  simp [C11.transferOK, hp, hv, ha, hne]

/-- `StoreState{TransferLeader}` as a target filter -/
theorem leaderTarget_sound {o : Opts} {s : Store} (h : ({ transferLeader := true } : SSF).target o s = true) :
    s.state = 0 ∧ s.downSecs < o.conf.maxDownSecs ∧ s.pauseLeader = false ∧
    s.labels.any (fun kv => o.rejectLeader.contains kv) = false := by
  have row : anyCond 2 { transferLeader := true } o s = false := by simpa [SSF.target] using h
  obtain ⟨h0, h1⟩ := up_of_row row (by decide) (by decide) (by decide)
  exact ⟨h0, h1, not_cond row 3 (by decide), not_cond row 10 (by decide)⟩

/-- `StoreState{MoveRegion, ScatterRegion}` as a target filter -/
theorem scatterTarget_sound {o : Opts} {s : Store} (h : scatterSSF.target o s = true) :
    s.state = 0 ∧ s.downSecs < o.conf.maxDownSecs ∧ s.downSecs < o.conf.disconnectSecs ∧ s.busy = false := by
  have row : anyCond 4 scatterSSF o s = false := by simpa [SSF.target, scatterSSF] using h
  obtain ⟨h0, h1⟩ := up_of_row row (by decide) (by decide) (by decide)
  exact ⟨h0, h1, Nat.lt_of_not_le (of_decide_eq_false (not_cond row 4 (by decide))), not_cond row 5 (by decide)⟩

theorem mem_candidates {ex : Bool} {o : Opts} {stores : List Store} {r : Region} {src : Nat} {sel : List Nat}
    {ctx : Ctx} {sp : Bool} {g : Nat → Nat → Bool} {t : Nat} (h : t ∈ candidates ex o stores r src sel ctx sp g) :
    ∃ s ∈ stores, s.id = t ∧ t ∉ sel ∧ (ex = true → t ∈ r.stores → t = src) ∧
      (if sp then engineIs "tiflash" s else ordinaryEngine s) = true ∧ scatterSSF.target o s = true ∧ g src t = true := by
  unfold candidates at h
  split at h
  · cases h
  · simp only [List.mem_map, List.mem_filter, Bool.and_eq_true, Bool.or_eq_true, Bool.not_eq_true'] at h
    obtain ⟨s, ⟨hs, ⟨⟨⟨⟨⟨_, h2⟩, h3⟩, h4⟩, h5⟩, h6⟩⟩, rfl⟩ := h
    refine ⟨s, hs, rfl, ?_, ?_, h4, h5, h6⟩
    · simpa [excludedTarget] using h2
    · rintro rfl hm
      simpa [excludedTarget, hm] using h3

theorem bestOf_mem {get : Nat → Nat} {l : List Nat} {st m : Nat} (h : bestOf get l = some (st, m)) :
    st ∈ l ∧ m = get st := by
  refine foldl_inv (fun acc => ∀ st m, acc = some (st, m) → st ∈ l ∧ m = get st) _ l none nofun ?_ st m h
  intro acc a ha ih st m h
  have hnew : some (a, get a) = some (st, m) → st ∈ l ∧ m = get st := by
    rintro ⟨⟩; exact ⟨ha, rfl⟩
  split at h
  · exact hnew h
  · split at h
    · exact hnew h
    · exact ih st m h

theorem selectStore_cases (group : String) (p : Peer) (cands : List Nat) (ctx : Ctx) :
    selectStore group p cands ctx = p ∨
    ∃ st ∈ cands, st ≠ p.store ∧ selectStore group p cands ctx = { id := 0, store := st, role := p.role } := by
  unfold selectStore
  split
  · left; rfl
  · split
    · left; rfl
    · next st m hb =>
      have hbest := bestOf_mem hb
      split
      · left; rfl
      · next hstay =>
        refine Or.inr ⟨st, hbest.1, fun he => hstay ?_, rfl⟩
        rw [← he, hbest.2]
        simpa using hbest.1

theorem setTarget_fresh {tp : List (Nat × Peer)} {p : Peer} (h : p.store ∉ tp.map (·.1)) :
    setTarget tp p = tp ++ [(p.store, p)] :=
  if_neg fun ha => let ⟨e, he, heq⟩ := List.any_eq_true.1 ha; h (List.mem_map.2 ⟨e, he, eq_of_beq heq⟩)

def EntryOK (o : Opts) (stores : List Store) (r : Region) (e : Nat × Peer) : Prop :=
  e.2 ∈ r.peers ∨
  (e.1 ∉ r.stores ∧ ∃ s ∈ stores, s.id = e.1 ∧ scatterSSF.target o s = true)

theorem nodup_replace_middle {α} {l₁ l₂ : List α} {a b : α} (h : (l₁ ++ a :: l₂).Nodup) (h1 : b ∉ l₁) (h2 : b ∉ l₂) :
    (l₁ ++ b :: l₂).Nodup := by
  rw [List.perm_middle.nodup_iff, List.nodup_cons] at h ⊢
  exact ⟨fun hm => (List.mem_append.1 hm).elim h1 h2, h.2⟩

/-- `done`: the peers placed so far; `todo`: the peers still to be placed, of either engine – the TiFlash
    peers are `todo` all through the first loop -/
structure Inv (o : Opts) (stores : List Store) (r : Region) (done todo : List Peer)
    (acc : List (Nat × Peer) × List Nat) : Prop where
  keyed : ∀ e ∈ acc.1, e.2.store = e.1
  selEq : acc.2 = acc.1.map (·.1)
  /-- a peer never goes where a peer still to be placed sits -/
  nodup : (acc.2 ++ todo.map (·.store)).Nodup
  roles : acc.1.map (·.2.role) = done.map (·.role)
  ok    : ∀ e ∈ acc.1, EntryOK o stores r e
  todoSub : ∀ p ∈ todo, p ∈ r.peers

theorem Inv.push {o : Opts} {stores : List Store} {r : Region} {done todo : List Peer} {p np : Peer}
    {tp : List (Nat × Peer)} {sel : List Nat} (inv : Inv o stores r done (p :: todo) (tp, sel))
    (hrole : np.role = p.role) (hnd : (sel ++ np.store :: todo.map (·.store)).Nodup)
    (hentry : EntryOK o stores r (np.store, np)) :
    Inv o stores r (done ++ [p]) todo (setTarget tp np, sel ++ [np.store]) := by
  have hsel : sel = tp.map (·.1) := inv.selEq
  rw [setTarget_fresh (hsel ▸ fun hm => (List.nodup_append.1 hnd).2.2 _ hm _ (List.mem_cons_self ..) rfl)]
  refine ⟨List.forall_mem_append.2 ⟨inv.keyed, List.forall_mem_singleton.2 rfl⟩, ?_, List.append_cons .. ▸ hnd, ?_,
    List.forall_mem_append.2 ⟨inv.ok, List.forall_mem_singleton.2 hentry⟩,
    fun q hq => inv.todoSub q (List.mem_cons_of_mem _ hq)⟩
  · show sel ++ [np.store] = (tp ++ [(np.store, np)]).map (·.1)
    rw [List.map_append, ← hsel]
    rfl
  · simp only [List.map_append, List.map_cons, List.map_nil, inv.roles, hrole]

theorem scatterGroup_inv {o : Opts} {stores : List Store} {r : Region} (group : String) (ctx : Ctx) (sp : Bool)
    (g : Nat → Nat → Bool) {ps done later : List Peer} {acc : List (Nat × Peer) × List Nat}
    (inv : Inv o stores r done (ps ++ later) acc) :
    Inv o stores r (done ++ ps) later (scatterGroup true o stores r group ctx sp g ps acc) := by
  induction ps generalizing done acc with
  | nil => simpa [scatterGroup] using inv
  | cons p rest ih =>
    obtain ⟨tp, sel⟩ := acc
    rw [scatterGroup, List.append_cons]
    apply ih
    rcases selectStore_cases group p (candidates true o stores r p.store sel ctx sp g) ctx
      with h | ⟨st, hst, hne, h⟩ <;> rw [h]
    · exact inv.push rfl inv.nodup (Or.inl (inv.todoSub p (List.mem_cons_self ..)))
    · -- it moves: with the other peers' stores excluded the new store lies outside the region
      obtain ⟨s, hs, hid, hsel, hothers, _, hssf, _⟩ := mem_candidates hst
      have hout : st ∉ r.stores := fun hm => hne (hothers rfl hm)
      refine inv.push rfl (nodup_replace_middle inv.nodup hsel fun hm => ?_) (Or.inr ⟨hout, s, hs, hid, hssf⟩)
      obtain ⟨q, hq, he⟩ := List.mem_map.1 hm
      exact hout (List.mem_map.2 ⟨q, inv.todoSub q (List.mem_cons_of_mem _ hq), he⟩)

end PdModel.Scatter
