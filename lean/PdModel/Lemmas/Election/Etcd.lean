import PdModel.Model.Election
import PdModel.Prelude.ListFacts
/-! The store of the election model: what a transaction, a single operation, a grant and a revocation do to
    the keys, the live leases and the grant counter. -/
namespace PdModel.Election

theorem txn_single (e : Etcd) (cmps : List Cmp) (op : EOp) :
    e.txn cmps [op] [] =
      if cmps.all e.holds then (if e.opOk op then (e.apply1 op, .succeeded) else (e, .error))
      else (e, .failed) := by
  unfold Etcd.txn
  by_cases h : cmps.all e.holds = true <;> simp [h]

theorem runTxn_single (e : Etcd) (cmps : List Cmp) (op : EOp) (f : Fault) :
    runTxn e cmps [op] f =
      if f ≠ .errBefore ∧ cmps.all e.holds = true ∧ e.opOk op = true then
        (e.apply1 op, if f = .none then .ok else .err)
      else (e, if f = .none ∧ cmps.all e.holds = false then .conflict else .err) := by
  by_cases h1 : cmps.all e.holds = true <;> by_cases h2 : e.opOk op = true <;>
    cases f <;> simp [runTxn, txn_single, h1, h2]

theorem grant_live_le {e : Etcd} {j : Nat} (h : j ≤ e.granted) : e.grant.1.live j = e.live j := by
  have : (j == e.granted + 1) = false := beq_false_of_ne (Nat.ne_of_lt (Nat.lt_succ_of_le h))
  simp only [Etcd.grant, this, Bool.false_or]

theorem revoke_kv (e : Etcd) (id : Nat) (k : Key) :
    (e.revoke id).kv k =
      if (id != 0 && e.live id) = true then
        (match e.kv k with | some x => if x.lease == id then none else some x | none => none)
      else e.kv k := by
  unfold Etcd.revoke; split <;> rfl

theorem revoke_live (e : Etcd) (id j : Nat) :
    (e.revoke id).live j = if (id != 0 && e.live id) = true then (j != id && e.live j) else e.live j := by
  unfold Etcd.revoke; split <;> rfl

theorem revoke_live_ne {e : Etcd} {id j : Nat} (h : j ≠ id) : (e.revoke id).live j = e.live j := by
  rw [revoke_live]; split <;> simp [h]

theorem live_of_revoke_live {e : Etcd} {id j : Nat} (h : (e.revoke id).live j = true) : e.live j = true := by
  rw [revoke_live] at h
  split at h
  · exact (Bool.and_eq_true _ _ ▸ h).2
  · exact h

theorem revoke_kv_cases (e : Etcd) (id : Nat) (k : Key) :
    (e.revoke id).kv k = e.kv k ∨
      ((e.revoke id).kv k = none ∧ (e.kv k).map (·.lease) = some id ∧ e.live id = true ∧
        (e.revoke id).live id = false) := by
  rw [revoke_kv, revoke_live]
  split
  · next hc =>
    cases e.kv k with
    | none => exact .inl rfl
    | some y =>
      by_cases hy : y.lease = id
      · exact .inr ⟨by simp [hy], by simp [hy], (Bool.and_eq_true _ _ ▸ hc).2, by simp⟩
      · exact .inl (by simp [hy])
  · exact .inl rfl

@[simp] theorem revoke_granted (e : Etcd) (id : Nat) : (e.revoke id).granted = e.granted := by
  unfold Etcd.revoke; split <;> rfl

@[simp] theorem apply1_live (e : Etcd) (op : EOp) : (e.apply1 op).live = e.live := by
  cases op <;> rfl
@[simp] theorem apply1_granted (e : Etcd) (op : EOp) : (e.apply1 op).granted = e.granted := by
  cases op <;> rfl
theorem apply1_put_kv (e : Etcd) (k v l k') :
    (e.apply1 (.put k v l)).kv k' = if k' = k then some ⟨v, l⟩ else e.kv k' := rfl
theorem apply1_del_kv (e : Etcd) (k k') :
    (e.apply1 (.del k)).kv k' = if k' = k then none else e.kv k' := rfl

theorem apply1_kv_other (e : Etcd) (op : EOp) (k : Key) (h : op.key ≠ k) : (e.apply1 op).kv k = e.kv k := by
  cases op <;> exact if_neg (Ne.symm h)

/-- what every operation of its two branches keeps, a transaction keeps -/
theorem txn_inv (R : Etcd → Prop) (e : Etcd) (c t el) (h0 : R e)
    (hs : ∀ e' o, o ∈ t ++ el → R e' → R (e'.apply1 o)) : R (e.txn c t el).1 := by
  simp only [Etcd.txn]
  refine ite_ind (P := fun r : Etcd × TxnRes => R r.1) (fun _ => ?_) fun _ => h0
  refine foldl_inv R Etcd.apply1 _ e h0 fun e' o ho => hs e' o ?_
  split at ho
  · exact List.mem_append_left _ ho
  · exact List.mem_append_right _ ho

@[simp] theorem txn_live (e : Etcd) (c t el) : (e.txn c t el).1.live = e.live :=
  txn_inv (·.live = e.live) e c t el rfl fun e' o _ h => (apply1_live e' o).trans h

@[simp] theorem txn_granted (e : Etcd) (c t el) : (e.txn c t el).1.granted = e.granted :=
  txn_inv (·.granted = e.granted) e c t el rfl fun e' o _ h => (apply1_granted e' o).trans h

theorem txn_kv_of_not_mem (e : Etcd) (c t el) (k : Key) (h : ∀ o ∈ t ++ el, o.key ≠ k) :
    (e.txn c t el).1.kv k = e.kv k :=
  txn_inv (·.kv k = e.kv k) e c t el rfl fun e' o ho h' => (apply1_kv_other e' o k (h o ho)).trans h'

theorem holds_congr (e1 e2 : Etcd) (h : e1.kv = e2.kv) (c : Cmp) : e1.holds c = e2.holds c := by
  cases c <;> simp [Etcd.holds, h]

end PdModel.Election
