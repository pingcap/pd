import PdModel.Model.StoreSim
import PdModel.Lemmas.OpCtlRun
namespace PdModel.OpCtl
open PdModel.Steps PdModel.Spec

/-- the matrix extracted from operator/status.go is exactly the one the property states:
    created → {started, canceled, expired}, started → {success, canceled, replaced, timeout} -/
theorem validTrans_is_the_stated_matrix :
    PdModel.Generated.OpCtl.statusNames =
      ["CREATED", "STARTED", "SUCCESS", "CANCELED", "REPLACED", "EXPIRED", "TIMEOUT"] ∧
    ∀ a b : Status, canMove a b = C09.allowed a b :=
  ⟨rfl, canMove_eq_allowed⟩

/-- structure obligation of the status-matrix theorems: the model's `Op.to` is one atomic step
    "check `validTrans`, then move".  That is what the code does only if `OpStatusTracker.To`,
    `CheckExpired` and `CheckTimeout` hold the tracker's write lock for their whole body, decide inside
    it (through `toLocked`) and nothing but `toLocked` assigns the status.  Re-checked against the facts
    extracted from status_tracker.go on every run. -/
theorem status_moves_are_atomic_sections :
    PdModel.Generated.OpCtl.trackerToLocked = true ∧
    PdModel.Generated.OpCtl.trackerCheckExpiredLocked = true ∧
    PdModel.Generated.OpCtl.trackerCheckTimeoutLocked = true ∧
    PdModel.Generated.OpCtl.trackerToChecksUnderLock = true ∧
    PdModel.Generated.OpCtl.trackerExpireChecksUnderLock = true ∧
    PdModel.Generated.OpCtl.trackerTimeoutChecksUnderLock = true ∧
    PdModel.Generated.OpCtl.statusAssigners = ["toLocked"] :=
  ⟨rfl, rfl, rfl, rfl, rfl, rfl, rfl⟩

/-- a single `To` of the status tracker either leaves the status or moves along `validTrans` -/
theorem to_moves_along_validTrans (o : Op) (dst : Status) :
    (o.to dst).1.status = o.status ∨ C09.allowed o.status (o.to dst).1.status = true := by
  cases h : canMove o.status dst
  · left; rw [to_of_not_canMove h]
  · right; rw [(to_of_canMove h).1, ← canMove_eq_allowed]; exact h

/-- end statuses are final: no `To` leaves them -/
theorem end_status_is_final (o : Op) (dst : Status) (h : o.status.isEnd = true) :
    (o.to dst).1 = o := by
  rw [to_of_end h]

/-- in every run of the controller, from any state, every operator keeps its region, epoch, priority and
    steps, and its status at the end is reachable from its status at the beginning through the transitions
    created → {started, canceled, expired}, started → {success, canceled, replaced, timeout} only. -/
theorem status_moves_only_along_validTrans (c : Ctl) (evs : List Ev) (k : Nat) (o : Op)
    (h : c.getOp k = some o) : ∃ o', (runEv c evs).getOp k = some o' ∧ Rel o o' :=
  (keeps_runEv c evs).ops k o h

/-- an operator that has been cancelled or replaced is left alone by every participant of a race, whatever
    its kind, and each reports failure -/
theorem raceStep_of_lost {o : Op} (h : o.status = .canceled ∨ o.status = .replaced) (k : RaceKind) :
    raceStep o k = (o, false) := by
  have he : o.status.isEnd = true := by rcases h with h | h <;> rw [h] <;> rfl
  have hs : o.checkSuccess = (o, false) := by
    unfold Op.checkSuccess
    split
    · rw [to_of_end he]
      show (o, false || o.status == .success) = _
      rcases h with h | h <;> rw [h] <;> rfl
    · rfl
  cases k with
  | cancel => exact to_of_end he _
  | replace => exact to_of_end he _
  | finish => exact hs
  | timeout =>
    show o.checkTimeout = _
    unfold Op.checkTimeout
    rw [hs]; rcases h with h | h <;> rw [h] <;> rfl

theorem race_after_loss (o : Op) (ks : List RaceKind) (h : o.status = .canceled ∨ o.status = .replaced) :
    (raceRun o ks).1 = o ∧ ∀ b ∈ (raceRun o ks).2, b = false := by
  induction ks with
  | nil => exact ⟨rfl, fun _ hb => nomatch hb⟩
  | cons k rest ih =>
    simp only [raceRun, raceStep_of_lost h]
    exact ⟨ih.1, List.forall_mem_cons.2 ⟨rfl, ih.2⟩⟩

/-- when a `Cancel` or `Replace` call is the first to get at a STARTED operator, it wins and everything that
    comes after it – further `Cancel` / `Replace` calls, `CheckTimeout`, `CheckSuccess` – loses -/
theorem first_end_transition_wins (o : Op) (k : RaceKind) (ks : List RaceKind) (hs : o.status = .started)
    (hk : k = .cancel ∨ k = .replace) :
    (raceRun o (k :: ks)).2.head? = some true ∧ (∀ b ∈ (raceRun o (k :: ks)).2.tail, b = false) ∧
    (raceRun o (k :: ks)).1.status = (if k = .cancel then .canceled else .replaced) := by
  have hfirst : (raceStep o k).1.status = (if k = .cancel then .canceled else .replaced) ∧ (raceStep o k).2 = true := by
    rcases hk with e | e <;> subst e <;> exact to_of_canMove (by rw [hs]; rfl)
  obtain ⟨i1, i2⟩ := race_after_loss (raceStep o k).1 ks (by rw [hfirst.1]; rcases hk with e | e <;> subst e <;> simp)
  simp only [raceRun, List.head?_cons, List.tail_cons]
  exact ⟨by rw [hfirst.2], i2, by rw [i1]; exact hfirst.1⟩

/-- when `Cancel` / `Replace` calls compete for one STARTED operator and each `To` is an atomic section
    (`status_moves_are_atomic_sections`), then in every order in which they get through exactly the first one
    reports success, and the operator ends in that call's status. -/
theorem racing_end_transitions_one_winner (o : Op) (k : RaceKind) (ks : List RaceKind) (hs : o.status = .started)
    (hk : ∀ x ∈ k :: ks, x = .cancel ∨ x = .replace) :
    (raceRun o (k :: ks)).2.head? = some true ∧ (∀ b ∈ (raceRun o (k :: ks)).2.tail, b = false) ∧
    (raceRun o (k :: ks)).1.status = (if k = .cancel then .canceled else .replaced) :=
  first_end_transition_wins o k ks hs (hk k (List.mem_cons_self ..))

theorem Inv.one_per_region {c : Ctl} (hi : Inv c) {k1 k2 : Nat} {o1 o2 : Op}
    (h1 : c.getOp k1 = some o1) (h2 : c.getOp k2 = some o2)
    (s1 : o1.status = .started) (s2 : o2.status = .started) (hr : o1.region = o2.region) : k1 = k2 := by
  have a := hi k1 o1 h1 s1
  rw [hr, hi k2 o2 h2 s2] at a
  exact (Option.some.inj a).symm

/-- in every run from the empty controller, two STARTED operators never share a region – a STARTED operator
    is the one registered in the running map of its region (`Inv`, preserved by every event). -/
theorem one_operator_per_region (evs : List Ev) (k1 k2 : Nat) (o1 o2 : Op)
    (h1 : (runEv {} evs).getOp k1 = some o1) (h2 : (runEv {} evs).getOp k2 = some o2)
    (s1 : o1.status = .started) (s2 : o2.status = .started) (hr : o1.region = o2.region) : k1 = k2 :=
  (inv_runEv {} evs inv_init).one_per_region h1 h2 s1 s2 hr

/-- over any stretch of a history that starts with `Inv`: an operator that has left CREATED and is not the one
    registered for its region at the end has ended -/
theorem Keeps.ended_of_left {c c' : Ctl} (h : Keeps c c') (hi : Inv c) {k : Nat} {o : Op}
    (ho : c.getOp k = some o) (hst : o.status ≠ .created) (hleft : c'.runningOn o.region ≠ some k) :
    ∃ o', c'.getOp k = some o' ∧ o'.status.isEnd = true := by
  obtain ⟨o', ho', hrel⟩ := h.ops k o ho
  -- still STARTED would mean still registered
  exact ⟨o', ho', (reach_of_not_created hrel.status hst).resolve_left fun hs =>
    hleft (hrel.region ▸ h.inv hi k o' ho' hs)⟩

/-- from a state satisfying `Inv`: an operator that has been started and after an event is not the one
    registered for its region is, after the event, in an end status (and, by
    `status_moves_only_along_validTrans`, stays there). -/
theorem leaving_running_set_is_ended (c : Ctl) (hi : Inv c) (e : Ev) (k : Nat) (o : Op)
    (ho : c.getOp k = some o) (hst : o.status ≠ .created)
    (hleft : (stepEv c e).1.runningOn o.region ≠ some k) :
    ∃ o', (stepEv c e).1.getOp k = some o' ∧ o'.status.isEnd = true :=
  (keeps_stepEv c e).ended_of_left hi ho hst hleft

/-- the "and recorded" half of the clause `leaving_running_set_is_ended_and_recorded`, proved
    for the code shape shared by *every* place of the controller model that removes an operator from the
    running map (`removeOperatorLocked` succeeded → status move → `buryOperator`): whatever end move is
    attempted, afterwards the operator is ended, it is the record of its region, and nothing runs on the
    region.  `_partial`: the statement is per site; that a whole event leaves no other way out of the
    running map is checked by the monitor (`C09.left-running-set-not-recorded`), not proved. -/
theorem leaving_running_set_is_recorded_at_sites_partial (c : Ctl) (o : Op) (dst : Status)
    (hg : c.getOp o.id = some o) (hrm : (removeLocked c o).2 = true) :
    ∃ o', (bury ((removeLocked c o).1.setOp (o.to dst).1) o.id).getOp o.id = some o' ∧
      o'.status.isEnd = true ∧ o'.region = o.region ∧
      (bury ((removeLocked c o).1.setOp (o.to dst).1) o.id).recordOn o.region = some o.id ∧
      (bury ((removeLocked c o).1.setOp (o.to dst).1) o.id).runningOn o.region = none :=
  leave_site_recorded dst hg (removeLocked_snd hrm)

/-- `RemoveOperator` (admin removal, success, timeout and stale branches all call it): success means
    ended + recorded + region free. -/
theorem remove_operator_ends_and_records (c : Ctl) (id : Nat) (o : Op) (h : c.getOp id = some o)
    (hr : (removeOperator c id).2 = true) :
    ∃ o', (removeOperator c id).1.getOp id = some o' ∧ o'.status.isEnd = true ∧ o'.region = o.region ∧
      (removeOperator c id).1.recordOn o.region = some id ∧
      (removeOperator c id).1.runningOn o.region = none := by
  rw [removeOperator_eq h] at hr ⊢
  split at hr
  · next hrun =>
    rw [if_pos hrun]
    dsimp only
    exact leave_site_recorded .canceled h hrun
  · cases hr

/-- the `remove` event (admin `RemoveOperator` on the operator registered for its region), whole event: the
    operator is ended, it is the record of its region and the region is free afterwards. -/
theorem remove_event_ends_and_records (c : Ctl) (id : Nat) (o : Op) (h : c.getOp id = some o)
    (hrun : c.runningOn o.region = some id) :
    ∃ o', (stepEv c (.remove id)).1.getOp id = some o' ∧ o'.status.isEnd = true ∧ o'.region = o.region ∧
      (stepEv c (.remove id)).1.recordOn o.region = some id ∧
      (stepEv c (.remove id)).1.runningOn o.region = none :=
  remove_operator_ends_and_records c id o h (by rw [removeOperator_eq h, if_pos hrun])

/-- the operator displaced by a higher-priority one is ended and recorded before the new one starts -/
theorem replaced_operator_ends_and_is_recorded (c : Ctl) (region oldId : Nat) (old : Op)
    (hrun : c.runningOn region = some oldId) (hg : c.getOp oldId = some old) (hreg : old.region = region) :
    ∃ o', (replaceOld c region).getOp oldId = some o' ∧ o'.status.isEnd = true ∧ o'.region = region ∧
      (replaceOld c region).recordOn region = some oldId ∧
      (replaceOld c region).runningOn region = none := by
  subst hreg
  have : replaceOld c old.region = bury ((removeLocked c old).1.setOp (old.to .replaced).1) oldId := by
    unfold replaceOld; rw [hrun]; simp only; rw [hg]
  rw [this]
  exact leave_site_recorded .replaced hg hrun

/-- records only ever name ended operators of the right region: kept by `buryOperator` (the only writer
    of `records`) and by every step that leaves `records` alone (statuses only move along the matrix, and an
    ended operator cannot move). -/
theorem records_name_ended_operators (c : Ctl) (hi : RecInv c) :
    (∀ id, RecInv (bury c id)) ∧
    (∀ c', Le c c' → c'.records = c.records → RecInv c') :=
  ⟨fun id => (moves_bury c id).recInv hi, fun _ hle hrec => recInv_of_le hle hrec hi⟩

/-- in every run of the controller from the empty controller (from any state whose records are sound:
    `records_sound_from_any_state`) every record `region ↦ operator` names an existing
    operator of that region which is in an end status – so what `GetRecords` / `GetOperatorStatus` report about
    a finished operator is final.  `RecInv` is one of the things every controller function and every event
    keeps (`Moves`, `Keeps`). -/
theorem records_always_name_ended_operators (evs : List Ev) (r id : Nat)
    (h : (r, id) ∈ (runEv {} evs).records) :
    ∃ o, (runEv {} evs).getOp id = some o ∧ o.region = r ∧ o.status.isEnd = true :=
  (keeps_runEv {} evs).recInv recInv_empty r id h

theorem records_sound_from_any_state (c : Ctl) (hi : RecInv c) (evs : List Ev) : RecInv (runEv c evs) :=
  (keeps_runEv c evs).recInv hi

theorem RecInv.of_hasRec {c : Ctl} (hi : RecInv c) {r : Nat} (h : HasRec c r) :
    ∃ id o, (r, id) ∈ c.records ∧ c.getOp id = some o ∧ o.region = r ∧ o.status.isEnd = true := by
  obtain ⟨x, hx, hxr⟩ := List.any_eq_true.1 h
  have hmem : (r, x.2) ∈ c.records := by rw [← beq_iff_eq.1 hxr]; exact hx
  exact ⟨x.2, (hi r x.2 hmem).imp fun _ h => ⟨hmem, h⟩⟩

/-- once a region has a record (e.g. after any of the sites above) and the records are sound, then after
    any further events it still has one, and that record names an existing operator of the region in an end
    status.  (The model has no TTL: PD's record cache forgets an entry after ten minutes.) -/
theorem recorded_region_stays_recorded (c : Ctl) (hi : RecInv c) (r : Nat) (h : HasRec c r) (evs : List Ev) :
    ∃ id o, (r, id) ∈ (runEv c evs).records ∧ (runEv c evs).getOp id = some o ∧ o.region = r ∧
      o.status.isEnd = true :=
  ((keeps_runEv c evs).recInv hi).of_hasRec ((keeps_runEv c evs).hasRec r h)

/-- after the `remove` event of the operator registered for its region (which ends and records it at once:
    `remove_event_ends_and_records`) and any further events, the region still has a record naming an ended
    operator of that region – "ended and recorded" for this way out of the running set, over whole histories. -/
theorem removed_operator_stays_accounted_for (c : Ctl) (hi : RecInv c) (id : Nat) (o : Op)
    (h : c.getOp id = some o) (hrun : c.runningOn o.region = some id) (evs : List Ev) :
    ∃ k x, (o.region, k) ∈ (runEv c (.remove id :: evs)).records ∧
      (runEv c (.remove id :: evs)).getOp k = some x ∧ x.region = o.region ∧ x.status.isEnd = true := by
  obtain ⟨_, _, _, _, hrec, _⟩ := remove_event_ends_and_records c id o h hrun
  exact recorded_region_stays_recorded _ ((keeps_stepEv c (.remove id)).recInv hi) o.region
    (hasRec_of_recordOn hrec) evs

/-- non-vacuity: a running operator, removed -/
example :
    let o : Op := { (default : Op) with id := 7, region := 3, status := .started }
    let c : Ctl := { ops := [o], running := [(3, 7)] }
    (removeOperator c 7).2 = true ∧ (removeOperator c 7).1.recordOn 3 = some 7 ∧
      ((removeOperator c 7).1.getOp 7).map (·.status) = some .canceled := by decide

/-- what `admissible` asks of an operator (the limit on waiting operators left aside) -/
theorem admissible_spec {c : Ctl} {id : Nat} (h : admissible c id = true) :
    ∃ o v, c.getOp id = some o ∧ c.view o.region = some v ∧
      v.confVer = o.confVer ∧ v.version = o.version ∧ o.status = .created ∧
      (∀ oldId old, c.runningOn o.region = some oldId → c.getOp oldId = some old → old.level < o.level) := by
  revert h
  fun_cases admissible c id with
  | case1 => nofun
  | case2 => nofun
  | case3 o ho v hv =>
    intro h
    simp only [Bool.and_eq_true, beq_iff_eq, decide_eq_true_eq] at h
    obtain ⟨⟨⟨⟨hver, hcv⟩, hold⟩, hst⟩, _⟩ := h
    refine ⟨o, v, ho, hv, hcv, hver, hst, fun oldId old hr hg => ?_⟩
    simp only [hr, hg, decide_eq_true_eq] at hold
    exact hold

/-- when `checkAddOperator` lets operators through, each of them is in
    status CREATED, its region is cached, and its recorded epoch equals the cached region's epoch;
    an operator already running on the region has strictly lower priority. -/
theorem admit_only_equal_epoch (c : Ctl) (ids : List Nat) (h : (checkAdd c ids).2 = true) :
    ∀ id ∈ ids, ∃ o v, c.getOp id = some o ∧ c.view o.region = some v ∧
      v.confVer = o.confVer ∧ v.version = o.version ∧ o.status = .created ∧
      (∀ oldId old, c.runningOn o.region = some oldId → c.getOp oldId = some old → old.level < o.level) := by
  have hall : ids.all (admissible c) = true := by
    cases e : ids.all (admissible c)
    · unfold checkAdd at h; rw [e] at h; cases h
    · rfl
  exact fun id hid => admissible_spec (List.all_eq_true.1 hall id hid)

/-- every command `SendScheduleCommand`
    produces for a region view is addressed to that view's leader and carries that view's epoch. -/
theorem command_addressed_to_current_leader_with_current_epoch (v : View) (s : Step) :
    ∀ m ∈ sendCommand v s, m.region = v.id ∧ m.target = v.region.leader ∧ m.confVer = v.confVer ∧
      m.version = v.version ∧ v.region.leader ≠ 0 := by
  intro m hm
  unfold sendCommand at hm
  dsimp only at hm
  split at hm
  · cases hm
  · split at hm
    · cases hm
    · next hl =>
      simp only [List.mem_singleton] at hm
      subst hm
      exact ⟨rfl, rfl, rfl, rfl, by simpa using hl⟩

/-- **failed_precondition_cancelled** / **foreign_change_cancelled_next_heartbeat**: at a heartbeat,
    if the operator running on the region is still STARTED after `Check`, has a current step, and either
    that step's `CheckSafety` fails on the reported region or the region's conf version has advanced
    by more than the finished and current steps account for (or has gone backwards), then after the
    heartbeat the operator is CANCELED (for every waiting queue and every random choice). -/
theorem stale_operator_cancelled_at_heartbeat (c : Ctl) (v : View) (rs : List Nat) (id : Nat) (o : Op) (s : Step)
    (hrun : c.runningOn v.id = some id) (hop : c.getOp id = some o) (hreg : o.region = v.id)
    (hst : (o.check v).1.status = .started) (hstep : (o.check v).2 = some s)
    (hbad : checkSafety v.region s = false ∨ v.confVer < o.confVer ∨
            v.confVer - o.confVer > (o.check v).1.confVerChanged v.region) :
    ∃ o', (dispatch c v true rs).1.getOp id = some o' ∧ o'.status = .canceled := by
  have hc := (calm_check o v).rel
  generalize hch : o.check v = ch at hst hstep hbad hc
  obtain ⟨o1, step⟩ := ch
  simp only at hst hstep hbad hc
  subst hstep
  have hid : o1.id = id := hc.id.trans (getOp_some hop)
  have hg1 : (c.setOp o1).getOp id = some o1 := by rw [getOp_setOp_of hop hc.id, if_pos rfl]
  -- `Dispatch` reaches the stale check, which removes the operator registered for the region
  have hcs : checkStale (c.setOp o1) o1 s v =
      (bury ((removeLocked (c.setOp o1) o1).1.setOp (o1.to .canceled).1) id, true) := by
    rw [checkStale_eq, if_pos (hc.confVer ▸ hbad), hid, removeOperator_eq hg1,
      if_pos (by rw [runningOn_setOp, hc.region, hreg]; exact hrun)]
  have hd : (dispatch c v true rs).1 =
      (promote (bury ((removeLocked (c.setOp o1) o1).1.setOp (o1.to .canceled).1) id) rs).1 := by
    unfold dispatch
    rw [hrun]
    simp only [hop, hch, hst, hcs, if_true]
  -- the buried operator is CANCELED, and whatever is promoted afterwards leaves an ended operator alone
  have hto := to_of_canMove (o := o1) (dst := .canceled) (by rw [hst]; rfl)
  obtain ⟨o', ho', hrel⟩ := (moves_promote _ rs).le.some id _
    (by rw [getOp_leave .canceled hg1, if_pos rfl, buried_of_end (by rw [hto.1]; rfl)])
  exact ⟨o', hd ▸ ho', by rw [reach_from_end hrel.status (by rw [hto.1]; rfl), hto.1]⟩

open PdModel.StoreSim in
def f14Op : Op :=
  { id := 8, desc := 0, region := 2, confVer := 9, version := 8, level := 1, kindRegion := true, kindMerge := false,
    range0 := 0, steps := [.promoteLearner 5 205, .removePeer 5 205, .addLightLearner 6 506] }

def f14Sim0 : PdModel.StoreSim.Sim :=
  { id := 2, region := ⟨[⟨8, 208, .voter⟩, ⟨5, 205, .learner⟩], 8⟩, confVer := 9, version := 8 }

/-- only the operator's own commands, executed by the store between the heartbeats, change the region -/
def f14Run : Ctl × PdModel.StoreSim.Sim :=
  let c0 : Ctl := (stepEv (stepEv {} (.putRegion f14Sim0.view)).1 (.newOp f14Op)).1
  let (c1, m1) := stepEv c0 (.add [8])
  let s1 := m1.foldl PdModel.StoreSim.exec f14Sim0
  let (c2, m2) := stepEv c1 (.heartbeat s1.view [])
  let s2 := m2.foldl PdModel.StoreSim.exec s1
  let (c3, _) := stepEv c2 (.heartbeat s2.view [])
  (c3, s2)

/-- F21: the region changed only through the operator's own
    commands (conf version 9 → 11), yet at the second heartbeat the operator is CANCELED: the finished
    promote step no longer counts because its peer is gone. -/
theorem own_steps_stale_counterexample :
    f14Run.2.confVer = 11 ∧ f14Run.2.region.peers = [⟨8, 208, .voter⟩] ∧
    (f14Run.1.getOp 8).map (·.status) = some .canceled ∧ f14Run.1.runningOn 2 = none := by decide

/-! non-vacuity of `stale_operator_cancelled_at_heartbeat`: a foreign peer appears -/
example :
    let c0 : Ctl := (stepEv (stepEv {} (.putRegion f14Sim0.view)).1 (.newOp f14Op)).1
    let c1 := (stepEv c0 (.add [8])).1
    let v : View := { f14Sim0.view with region := ⟨f14Sim0.region.peers ++ [⟨3, 303, .learner⟩], 8⟩, confVer := 10 }
    ((stepEv c1 (.heartbeat v [])).1.getOp 8).map (·.status) = some .canceled := by decide

end PdModel.OpCtl
