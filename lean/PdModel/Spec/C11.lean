import PdModel.Spec.C10
/-
C11 – "Scatter and balance moves preserve a region's replica count and roles", stated over what an
operator of PD observes: the store records, the region, and the steps of an operator that region
scatter or a scheduler produced (record types and the region simulator are those of Spec/C10).

"Up store" = state Up and store heartbeats arriving: the last one is not older than the disconnect
threshold (20 s) – PD itself reports a store that missed its heartbeats as "Disconnected" and, later,
"Down", not as "Up" (server/api/store.go), and every peer-moving call site of the pinned code filters such
stores out.  Busy / throttled stores are still "up".  "Accepts leaders" = the store exists,
is Up, not down, leader transfer is not paused and it carries no reject-leader label.  Only for the
*forced* variant – grant-leader, whose target store is named by the administrator – it means: the store
exists and is not a tombstone.  Region scatter also builds its operator with a forced target leader (to
get past the leader schedule limit), but it picks that leader itself, so it is held to the full clause.
-/
namespace PdModel.Spec.C11
open PdModel.Spec.C10

structure Input where
  conf         : Conf
  stores       : List Store
  region       : Region
  /-- label property reject-leader -/
  rejectLeader : List (String × String) := []
  /-- the operator hands the leader to a store the administrator named (grant-leader) -/
  forced       : Bool := false
  deriving Repr, Inhabited

def upStore (x : Input) (id : Nat) : Bool :=
  match findStore x.stores id with
  | none => false
  | some s => s.isUp && s.notDown x.conf && s.connected x.conf

def acceptsLeader (x : Input) (id : Nat) : Bool :=
  match findStore x.stores id with
  | none => false
  | some s =>
    if x.forced then decide (s.state < 2)
    else s.isUp && s.notDown x.conf && !s.pauseLeader && !(s.labels.any (fun kv => x.rejectLeader.contains kv))

/-- one transfer step, judged in the region as it is when the step runs -/
def transferOK (x : Input) (r : Region) (t : Nat) : Bool :=
  (match r.storePeer t with
   | some p => !p.isLearner
   | none => false) &&
  acceptsLeader x t && r.leaderStore != t

/-- all transfer steps of the operator, each in the state its predecessors produce -/
def transfersOK (x : Input) : Region → List Step → Bool
  | _, [] => true
  | r, .transfer t :: rest => transferOK x r t && transfersOK x (applyStep r (.transfer t)) rest
  | r, s :: rest => transfersOK x (applyStep r s) rest

/-- **the property** for one operator -/
structure Holds (x : Input) (steps : List Step) : Prop where
  /-- same number of voters and of learners afterwards -/
  voters   : (applySteps x.region steps).voters.length = x.region.voters.length
  learners : (applySteps x.region steps).learners.length = x.region.learners.length
  /-- at most one peer per store afterwards (if that was so before) -/
  distinct : x.region.stores.Nodup → (applySteps x.region steps).stores.Nodup
  /-- peers are created only on up stores that hold no peer of the region, never on a store the
      same operator removes a peer from -/
  targets  : ∀ t ∈ addedStores steps,
              upStore x t = true ∧ x.region.stores.contains t = false ∧ (removedStores steps).contains t = false
  /-- the leader only moves to a voter on a store that accepts leaders, and never to where it is -/
  leaders  : transfersOK x x.region steps = true

def checkCounts (x : Input) (steps : List Step) : Bool :=
  decide ((applySteps x.region steps).voters.length = x.region.voters.length) &&
  decide ((applySteps x.region steps).learners.length = x.region.learners.length)

def checkDistinct (x : Input) (steps : List Step) : Bool :=
  !(decide x.region.stores.Nodup) || decide (applySteps x.region steps).stores.Nodup

def checkTargets (x : Input) (steps : List Step) : Bool :=
  (addedStores steps).all (fun t =>
    upStore x t && !(x.region.stores.contains t) && !((removedStores steps).contains t))

/-- executable checker used as the monitor -/
def check (x : Input) (steps : List Step) : Bool :=
  checkCounts x steps && checkDistinct x steps && checkTargets x steps && transfersOK x x.region steps

theorem check_iff (x : Input) (steps : List Step) : check x steps = true ↔ Holds x steps := by
  simp only [check, checkCounts, checkDistinct, checkTargets, Bool.and_eq_true, decide_eq_true_eq, or_eq_true_imp,
    Bool.not_eq_false', Bool.not_eq_true', List.all_eq_true]
  constructor
  · rintro ⟨⟨⟨⟨h1, h2⟩, h3⟩, h4⟩, h5⟩
    exact ⟨h1, h2, h3, fun t ht => and_assoc.1 (h4 t ht), h5⟩
  · rintro ⟨h1, h2, h3, h4, h5⟩
    exact ⟨⟨⟨⟨h1, h2⟩, h3⟩, fun t ht => and_assoc.2 (h4 t ht)⟩, h5⟩

end PdModel.Spec.C11
