import PdModel.Lemmas.Election
import PdModel.Generated.Election
/-!
C03 – property theorems.  Quantifiers: every state or every op history (any number of contenders for any
number of leaderships, any interleaving of their calls, any clock readings, any fault flags, failing
Grant / Revoke requests), no bound on the length of the history.
-/
namespace PdModel.Election
open PdModel.Spec

/-- (a) for the transaction of a parked campaign -/
theorem campaign_iff_absent (s : St) (i : Nat) (c : Cont) (l : Lease) (extra : List Cmp) (f : Fault) (rv : Bool)
    (hc : s.conts[i]? = some c) (hp : c.pending = some extra) (hl : c.lease = some l) :
    let r := step s (.on i (.finish f rv))
    (r.2 = .ok ↔ f = .none ∧ s.etcd.kv (.leader c.key) = none ∧ extra.all s.etcd.holds = true ∧
        (l.id = 0 ∨ s.etcd.live l.id = true)) ∧
    (r.2 = .ok → r.1.etcd.kv (.leader c.key) = some ⟨c.value, l.id⟩) ∧
    (r.2 ≠ .ok → rv = true → l.id ≠ 0 →
        r.1.etcd.kv (.leader c.key) = s.etcd.kv (.leader c.key) ∨
        (s.etcd.kv (.leader c.key)).map (·.lease) = some l.id) := by
  intro r
  have e : step0 s (.on i (.finish f rv)) = _ := step0_on s i c _ hc
  have e2 : loc ⟨s.etcd, s.stamp, c⟩ (.finish f rv) = campaignTxn ⟨s.etcd, s.stamp, c⟩ l extra f rv := by
    simp [loc, finishStep, hp, hl]
  simp only [r, step_snd, step_etcd, e, e2]
  exact campaignTxn_spec ⟨s.etcd, s.stamp, c⟩ l extra f rv hl

/-- (a) for a whole `Campaign` call whose Grant succeeds: the lease is then fresh and live -/
theorem campaign_whole_iff_absent (s : St) (i : Nat) (c : Cont) (ttl : Nat) (extra : List Cmp) (f : Fault) (rv : Bool)
    (hc : s.conts[i]? = some c) (hp : c.pending = none) (hcl : c.closing = none) (httl : ttl ≤ maxLeaseTTL) :
    let r := step s (.on i (.campaign ttl extra f rv))
    (r.2 = .ok ↔ f = .none ∧ s.etcd.kv (.leader c.key) = none ∧ extra.all s.etcd.holds = true) ∧
    (r.2 = .ok → r.1.etcd.kv (.leader c.key) = some ⟨c.member, s.etcd.granted + 1⟩) := by
  intro r
  have e : step0 s (.on i (.campaign ttl extra f rv)) = _ := step0_on s i c _ hc
  have ht : ¬ ttl > maxLeaseTTL := Nat.not_lt.2 httl
  have hx1 := grantStep_parked ⟨s.etcd, s.stamp, c⟩ ttl extra ht
  have e2 : loc ⟨s.etcd, s.stamp, c⟩ (.campaign ttl extra f rv) =
      campaignTxn (grantStep ⟨s.etcd, s.stamp, c⟩ ttl extra).1
        { id := s.etcd.granted + 1, ttl := ttl, expire := .at (c.clock + ttl) } extra f rv := by
    rw [loc_campaign, if_neg (by simp [hp, hcl]), if_neg ht]
  obtain ⟨h1, h2, -⟩ :=
    campaignTxn_spec (grantStep ⟨s.etcd, s.stamp, c⟩ ttl extra).1 _ extra f rv (by rw [hx1])
  simp only [r, step_snd, step_etcd, e, e2]
  rw [hx1] at h1 h2 ⊢
  have hall : extra.all (Etcd.holds s.etcd.grant.1) = extra.all s.etcd.holds := by
    congr 1
  simp only [hall] at h1
  exact ⟨h1.trans (by simp [Etcd.grant]), h2⟩

/-- (c) – a guarded write (time window, id window, member priority,
    dc-location, encryption keys) reports success iff no fault was injected, the writer's comparison
    value is the value of the leader record, and the writer attempted it at all -/
theorem guarded_write_iff_owner (s : St) (i : Nat) (c : Cont) (w : WKind) (f : Fault)
    (hc : s.conts[i]? = some c) (hp : c.pending = none) :
    (step s (.on i (.write w f))).2 = .ok ↔
      f = .none ∧ owns ⟨s.etcd, s.stamp, c⟩ w = true ∧ ¬ (w = .encRotate ∧ c.check = false) := by
  have e : (loc ⟨s.etcd, s.stamp, c⟩ (.write w f)) = writeStep ⟨s.etcd, s.stamp, c⟩ w f := by
    simp only [loc, hp, Option.isSome_none, Bool.false_eq_true, if_false]
  rw [step_snd, step0_on s i c _ hc, e]
  exact writeStep_ok_iff _ w f

/-- (c) – a guarded write by a contender whose comparison value is not the
    value of the leader record (for whatever reason: never campaigned, lost the record to expiry,
    deletion or another holder) leaves the whole state unchanged and does not report success, under
    every fault flag -/
theorem rejected_write_unchanged (s : St) (i : Nat) (c : Cont) (w : WKind) (f : Fault)
    (hc : s.conts[i]? = some c) (hown : owns ⟨s.etcd, s.stamp, c⟩ w = false) :
    (step s (.on i (.write w f))).1 = s ∧ (step s (.on i (.write w f))).2 ≠ .ok := by
  have key : (loc ⟨s.etcd, s.stamp, c⟩ (.write w f)).1 = ⟨s.etcd, s.stamp, c⟩ ∧
      (loc ⟨s.etcd, s.stamp, c⟩ (.write w f)).2 ≠ .ok := by
    simp only [loc]
    split
    · exact ⟨rfl, nofun⟩
    · exact ⟨(writeStep_rejected _ w f hown).1, (writeStep_rejected _ w f hown).2.1⟩
  exact ⟨step_on_unchanged s i c _ hc key.1, by rw [step_snd, step0_on s i c _ hc]; exact key.2⟩

set_option linter.unusedVariables false in
/-- corollary for the two windows: a member that does not own the
    leader record cannot move the stored time window or id window -/
theorem cannot_extend_lost_window (s : St) (i : Nat) (c : Cont) (w : WKind) (f : Fault)
    (hc : s.conts[i]? = some c) (hw : w = .tsSync ∨ w = .idRebase)
    (hown : owns ⟨s.etcd, s.stamp, c⟩ w = false) :
    let s' := (step s (.on i (.write w f))).1
    s'.etcd.kv (.ts c.key) = s.etcd.kv (.ts c.key) ∧ s'.etcd.kv (.allocId c.key) = s.etcd.kv (.allocId c.key) := by
  intro s'
  have := (rejected_write_unchanged s i c w f hc hown).1
  simp only [s', this, and_self]

/-- the same for `Alloc`: a member that does not own the leader record and whose in-memory
    id window is used up hands out no id, and nothing changes – neither the stored window nor its memory
    (the memory is published only after the guarded transaction succeeded), under every fault flag -/
theorem idalloc_rejected (s : St) (i : Nat) (c : Cont) (f : Fault)
    (hc : s.conts[i]? = some c) (hmem : c.idBase = c.idEnd)
    (hown : owns ⟨s.etcd, s.stamp, c⟩ .idRebase = false) :
    (step s (.on i (.idalloc f))).1 = s ∧ ∀ n, (step s (.on i (.idalloc f))).2 ≠ .gotId n := by
  have key : (loc ⟨s.etcd, s.stamp, c⟩ (.idalloc f)).1 = ⟨s.etcd, s.stamp, c⟩ ∧
      ∀ n, (loc ⟨s.etcd, s.stamp, c⟩ (.idalloc f)).2 ≠ .gotId n := by
    simp only [loc]
    split
    · exact ⟨rfl, nofun⟩
    · obtain ⟨h1, h2, h3⟩ := writeStep_rejected ⟨s.etcd, s.stamp, c⟩ .idRebase f hown
      rw [if_pos (by simp [hmem])]
      split
      · next h => rw [h] at h2; exact absurd rfl h2
      · exact ⟨h1, h3⟩
  exact ⟨step_on_unchanged s i c _ hc key.1, by rw [step_snd, step0_on s i c _ hc]; exact key.2⟩

/-- after `Reset` (also while it is still waiting inside `lease.Close` for the
    Revoke request or its answer: `gresetl`), a step-down, a successful `DeleteLeaderKey` or a
    `CheckLeader` that deleted the member's own record, `Check()` is false, hence no timestamp is
    granted and `IsLeader` is false; for every state in which no campaign of the contender is parked,
    every clock -/
theorem resigned_serves_nothing (s : St) (i : Nat) (c : Cont) (a : LOp) (hc : s.conts[i]? = some c)
    (hp : c.pending = none)
    (ha : (∃ rv, a = .resetl rv) ∨ (∃ pre leader, a = .gresetl pre leader ∧ c.closing = none) ∨
          (∃ rv, a = .stepdown rv) ∨
          (∃ f rv, a = .delkey f rv ∧ (step s (.on i a)).2 = .ok) ∨
          (a = .observe ∧ (step s (.on i a)).2 = .deleted)) :
    ∀ c', (step0 s (.on i a)).1.conts[i]? = some c' →
      c'.check = false ∧ c'.tsoServes = false ∧ c'.isLeader = false := by
  intro c' hc'
  obtain rfl := step0_on_self s i c c' a hc hc'
  have hb : ¬ (⟨s.etcd, s.stamp, c⟩ : Loc).c.pending.isSome = true := by simp [hp]
  have hck : (loc ⟨s.etcd, s.stamp, c⟩ a).1.c.check = false := by
    rcases ha with ⟨rv, rfl⟩ | ⟨pre, leader, rfl, hcl⟩ | ⟨rv, rfl⟩ | ⟨f, rv, rfl, hok⟩ | ⟨rfl, hok⟩
    · simp only [loc, if_neg hb]; exact resetStep_check _ _
    · simp only [loc, hp, hcl, Option.isSome_none, Bool.or_self, Bool.false_eq_true, if_false]
      cases c.lease <;> rfl
    · simp only [loc, if_neg hb]; exact resetStep_check _ _
    · rw [step_snd, step0_on s i c _ hc, loc_delkey, if_neg hb] at hok
      rw [loc_delkey, if_neg hb]
      cases f
      · exact resetStep_check _ _
      · cases hok
      · cases hok
    · rw [step_snd, step0_on s i c _ hc] at hok
      revert hok
      simp only [loc]
      split
      · nofun
      · split
        · nofun
        · split
          · exact fun _ => resetStep_check _ _
          · nofun
  simp [Cont.tsoServes, Cont.isLeader, hck]

/-- contender `i` is the holder of its leadership: the record is attached to its lease -/
def Holder (s : St) (i : Nat) : Prop :=
  ∃ c e, s.conts[i]? = some c ∧ lid c ≠ 0 ∧ s.etcd.kv (.leader c.key) = some e ∧ e.lease = lid c

def keyOfCont (s : St) (i : Nat) : Option Nat := (s.conts[i]?).map (·.key)

/-- where lease ids are handed out once, a leadership has at most one holder -/
theorem Inv0.single_holder {s : St} (inv : Inv0 s) (i j : Nat)
    (hi : Holder s i) (hj : Holder s j) (hk : keyOfCont s i = keyOfCont s j) : i = j := by
  obtain ⟨ci, ei, hci, hli, hei, hlei⟩ := hi
  obtain ⟨cj, ej, hcj, hlj, hej, hlej⟩ := hj
  simp only [keyOfCont, hci, hcj, Option.map_some, Option.some.injEq] at hk
  by_cases h : i = j
  · exact h
  · rw [hk] at hei
    cases hei.symm.trans hej
    exact absurd (hlei.symm.trans hlej) (inv.uniq i j ci cj h hci hcj hli)

/-- in every reachable state (any number of contenders, any op history, any faults,
    any clocks) two holders of the same leadership are the same contender -/
theorem single_holder (ops : List Op) (i j : Nat) :
    let s := run init ops
    Holder s i → Holder s j → keyOfCont s i = keyOfCont s j → i = j :=
  (inv0_run init inv0_init ops).single_holder i j

theorem Inv0.singleHolder_snap {s : St} (inv : Inv0 s) : (snapOf s).SingleHolder := by
  intro l
  apply filter_length_le_one
  intro i j a b hij ha hb hpa hpb
  simp only [snapOf, List.getElem?_map, Option.map_eq_some_iff] at ha hb
  obtain ⟨ci, hci, rfl⟩ := ha
  obtain ⟨cj, hcj, rfl⟩ := hb
  simp only [Bool.and_eq_true, decide_eq_true_eq] at hpa hpb
  obtain ⟨hni, hri⟩ := (holder_viewOf s ci (List.mem_of_getElem? hci)).1 hpa.2
  obtain ⟨_, hrj⟩ := (holder_viewOf s cj (List.mem_of_getElem? hcj)).1 hpb.2
  rw [show ci.key = cj.key from hpa.1.trans hpb.1.symm, hrj] at hri
  exact inv.uniq i j ci cj (by omega) hci hcj hni (congrArg Entry.lease (Option.some.inj hri)).symm

/-- `single_holder` in the vocabulary of the specification -/
theorem single_holder_spec (ops : List Op) : (snapOf (run init ops)).SingleHolder :=
  (inv0_run init inv0_init ops).singleHolder_snap

/-- the step-down of the leader loop (ResetLeader ; ResetAllocatorGroup) leaves the
    contender resigned, unannounced and without timestamp memory: `Spec.C03.SteppedDown` -/
theorem stepdown_clears (s : St) (i : Nat) (c : Cont) (rv : Bool) (hc : s.conts[i]? = some c)
    (hp : c.pending = none) (hm : c.member ≠ 0) :
    ∀ c', (step0 s (.on i (.stepdown rv))).1.conts[i]? = some c' → C03.SteppedDown (viewOf c') := by
  intro c' hc'
  obtain rfl := step0_on_self s i c c' _ hc hc'
  have hb : ¬ (⟨s.etcd, s.stamp, c⟩ : Loc).c.pending.isSome = true := by simp [hp]
  simp only [loc, if_neg hb]
  refine ⟨resetStep_check _ _, ?_, ?_⟩ <;> simp only [resetStep, closeLease_c, viewOf]
  exact beq_false_of_ne (Ne.symm hm)

theorem InvF.serving_is_holder {s : St} (inv : InvF s) (i : Nat) (c : Cont) (hc : s.conts[i]? = some c)
    (hs : c.tsoServes = true ∨ c.isLeader = true) :
    ∃ l, c.lease = some l ∧ l.id ≠ 0 ∧ s.etcd.live l.id = true ∧
      s.etcd.kv (.leader c.key) = some ⟨c.member, l.id⟩ := by
  have hlf := inv.lf i c hc
  simp only [Cont.tsoServes, Cont.isLeader, Bool.and_eq_true, beq_iff_eq] at hs
  have hck : c.check = true := hs.elim (·.1) (·.1)
  obtain ⟨l, hl, hne, _, hr⟩ := hlf.won (hlf.serve (hs.imp (·.2) (·.2)) hck)
  have hlive : s.etcd.live l.id = true := hlf.live_of_check hl hne hck
  exact ⟨l, hl, hne, hlive, hr hlive⟩

/-- in every state reached by a faithful history, a contender that grants
    timestamps or answers `IsLeader = true` owns a live lease and the leader record of its leadership
    carries exactly its value and that lease -/
theorem serving_is_holder (ops : List Op) (hf : faithfulRun init ops = true) (i : Nat) (c : Cont)
    (hc : (run init ops).conts[i]? = some c) (hs : c.tsoServes = true ∨ c.isLeader = true) :
    ∃ l, c.lease = some l ∧ l.id ≠ 0 ∧ (run init ops).etcd.live l.id = true ∧
      (run init ops).etcd.kv (.leader c.key) = some ⟨c.member, l.id⟩ :=
  (invF_run init invF_init ops hf).serving_is_holder i c hc hs

theorem InvF.dead_lease_serves_nothing {s : St} (inv : InvF s) (i : Nat) (c : Cont) (hc : s.conts[i]? = some c) :
    (∀ l, c.lease = some l → l.id ≠ 0 → s.etcd.live l.id = false → c.check = false) ∧
    ((∀ l, c.lease = some l → l.id = 0 ∨ s.etcd.live l.id = false) →
        c.tsoServes = false ∧ c.isLeader = false) := by
  constructor
  · intro l hl hne hdead
    cases hck : c.check with
    | false => rfl
    | true =>
      have := (inv.lf i c hc).live_of_check hl hne hck
      rw [this] at hdead; cases hdead
  · intro hno
    have key : ¬ (c.tsoServes = true ∨ c.isLeader = true) := by
      intro hs
      obtain ⟨l, hl, hne, hlive, _⟩ := inv.serving_is_holder i c hc hs
      rcases hno l hl with h | h
      · exact hne h
      · rw [hlive] at h; cases h
    exact ⟨Bool.eq_false_iff.2 fun h => key (.inl h), Bool.eq_false_iff.2 fun h => key (.inr h)⟩

/-- in every state reached by a faithful history, a contender
    whose lease is gone on the etcd side (expired, revoked, resigned, lost with a crash) has
    `Check() = false`; and a contender without a live lease – including the one whose `Grant` failed and
    whose `Check()` is therefore true (observation F13) – grants no timestamp and answers `IsLeader = false` -/
theorem expired_or_resigned_serves_nothing (ops : List Op) (hf : faithfulRun init ops = true) (i : Nat)
    (c : Cont) (hc : (run init ops).conts[i]? = some c) :
    (∀ l, c.lease = some l → l.id ≠ 0 → (run init ops).etcd.live l.id = false → c.check = false) ∧
    ((∀ l, c.lease = some l → l.id = 0 ∨ (run init ops).etcd.live l.id = false) →
        c.tsoServes = false ∧ c.isLeader = false) :=
  (invF_run init invF_init ops hf).dead_lease_serves_nothing i c hc

theorem InvF.single_server {s : St} (inv : InvF s) (i j : Nat) (ci cj : Cont)
    (hi : s.conts[i]? = some ci) (hj : s.conts[j]? = some cj) (hk : ci.key = cj.key)
    (hsi : ci.tsoServes = true ∨ ci.isLeader = true) (hsj : cj.tsoServes = true ∨ cj.isLeader = true) :
    i = j := by
  obtain ⟨li, hli, hni, _, hri⟩ := inv.serving_is_holder i ci hi hsi
  obtain ⟨lj, hlj, hnj, _, hrj⟩ := inv.serving_is_holder j cj hj hsj
  refine inv.inv0.single_holder i j ⟨ci, _, hi, ?_, hri, (lid_of_some hli).symm⟩
    ⟨cj, _, hj, ?_, hrj, (lid_of_some hlj).symm⟩ (by simp [keyOfCont, hi, hj, hk])
  · rw [lid_of_some hli]; exact hni
  · rw [lid_of_some hlj]; exact hnj

/-- in a faithful history at most one contender per leadership serves at any instant -/
theorem single_server (ops : List Op) (hf : faithfulRun init ops = true) (i j : Nat) (ci cj : Cont)
    (hi : (run init ops).conts[i]? = some ci) (hj : (run init ops).conts[j]? = some cj)
    (hk : ci.key = cj.key)
    (hsi : ci.tsoServes = true ∨ ci.isLeader = true) (hsj : cj.tsoServes = true ∨ cj.isLeader = true) :
    i = j :=
  (invF_run init invF_init ops hf).single_server i j ci cj hi hj hk hsi hsj

theorem InvF.servingIsHolder_snap {s : St} (inv : InvF s) : (snapOf s).ServingIsHolder := by
  intro v hv
  simp only [snapOf, List.mem_map] at hv
  obtain ⟨c, hc, rfl⟩ := hv
  obtain ⟨i, hi⟩ := List.getElem?_of_mem hc
  constructor
  · intro hs
    -- by the definition of `viewOf`, what the view serves is what the contender serves
    have hs' : c.isLeader = true ∨ c.tsoServes = true :=
      Bool.or_eq_true_iff.1 (hs : (c.isLeader || c.tsoServes) = true)
    obtain ⟨l, hl, hne, _, hr⟩ := inv.serving_is_holder i c hi hs'.symm
    rw [holder_viewOf s c hc, lid_of_some hl]
    exact ⟨hne, hr⟩
  · intro hck hne
    rw [lid_viewOf] at hne ⊢
    cases hl : c.lease with
    | none => simp [lid, hl] at hne
    | some l =>
      have hid : lid c = l.id := lid_of_some hl
      rw [hid] at hne ⊢
      have hlive := (inv.lf i c hi).live_of_check hl hne hck
      have hle := hid ▸ inv.inv0.le i c hi
      simp only [snapOf, List.mem_filter, List.mem_range]
      exact ⟨by omega, hlive⟩

/-- `serving_is_holder` in the vocabulary of the specification -/
theorem serving_is_holder_spec (ops : List Op) (hf : faithfulRun init ops = true) :
    (snapOf (run init ops)).ServingIsHolder :=
  (invF_run init invF_init ops hf).servingIsHolder_snap

/-! ### non-vacuity: a concrete faithful history (two contenders, a won and a lost campaign, service,
    a rejected write, local expiry, lease loss, step-down, take-over) and observation F13 -/

def outs : St → List Op → List Out
  | _, [] => []
  | s, op :: ops => (step s op).2 :: outs (step s op).1 ops

def demoOps : List Op :=
  [.new 0 1, .new 0 2,
   .on 0 (.campaign 60 [] .none true), .on 1 (.campaign 60 [] .none true),
   .on 0 .keep, .on 0 (.write .tsSync .none), .on 0 .enable, .on 0 .tso, .on 0 .isleader,
   .on 1 (.write .idRebase .none), .on 1 (.write (.prioPut 1 5) .errAfter), .on 1 .tso,
   .on 0 (.clock 61), .on 0 .tso, .on 0 .isleader, .expire 1, .on 0 (.write .tsSync .none),
   .on 0 (.stepdown true), .on 1 .observe, .on 1 (.gcampaign 60 []), .on 1 (.finish .none true),
   .on 1 (.write .tsSync .none), .on 1 .tso]

example : faithfulRun init demoOps = true := by decide

example : outs init demoOps =
    [.ok, .ok, .ok, .conflict, .ok, .ok, .ok, .served, .bool true, .conflict, .err, .refused,
     .ok, .refused, .bool false, .ok, .conflict, .ok, .noLeader, .parked, .ok, .ok, .served] := by decide

/-- observation F13: after a failed `Grant`, `Check()` is true although there is no lease
    (harmless: see `expired_or_resigned_serves_nothing`) -/
example : ((run init [.new 0 1, .on 0 (.campaign (maxLeaseTTL + 1) [] .none true)]).conts.map (·.check)) = [true] := by
  decide

/-! ### structure obligations: what the model assumes about the shape of the Go code, re-extracted from the
    source by factgen on every run (a dropped comparison, a removed guard or a re-ordered step-down makes
    the corresponding `decide` fail) -/

section
open PdModel.Generated.Election

/-- `Leadership.Campaign` is: remember the value, Grant, one transaction `If extra ∧ CreateRevision(leaderKey) = 0 Then Put(leaderKey, value, lease)`, Close on error or conflict -/
theorem campaign_structure :
    campaignRequiresAbsent = true ∧
    campaignPutsValueWithLease = true ∧
    campaignKeepsExtraCmps = true ∧
    campaignGrantThenTxn = true ∧
    campaignClosesOnError = true ∧
    campaignClosesOnConflict = true ∧
    campaignLeaderUsesMemberValue = true ∧
    allocatorCampaignUsesMemberValue = true := by decide

/-- the lease view: Check, IsExpired (false when never stored: F13), Close (zero time, then Revoke), the clock is read before the Grant / KeepAliveOnce request, Reset closes, DeleteLeaderKey resets after a successful delete -/
theorem lease_structure :
    checkIsLeaseNotExpired = true ∧
    isExpiredFalseWhenUnset = true ∧
    isExpiredIsNowAfter = true ∧
    closeExpiresThenRevokes = true ∧
    grantClockBeforeRequest = true ∧
    keepAliveClockBeforeRequest = true ∧
    keepAliveStoresLaterExpiry = true ∧
    resetClosesLease = true ∧
    deleteThenReset = true := by decide

/-- every leader-guarded write goes through the comparison with the leader record: LeaderTxn adds `Value(leaderKey) = leaderValue`; time window, member priority (set / delete), dc-location, encryption keys use LeaderTxn; the id window compares `Value(<root>/leader)` with the member value; the time window and the in-memory id window are published only after the transaction succeeded -/
theorem guarded_write_structure :
    leaderTxnAddsLeaderCmp = true ∧
    leaderCmpIsValueEq = true ∧
    saveTimestampGuarded = true ∧
    saveTimestampPersistsBeforePublishing = true ∧
    setPriorityGuarded = true ∧
    deletePriorityGuarded = true ∧
    deleteDCLocationGuarded = true ∧
    idRebaseGuarded = true ∧
    idRebaseLeaderPath = true ∧
    idRebasePersistsBeforePublishing = true ∧
    saveKeysGuarded = true := by decide

/-- the service paths refuse when `Check()` / `IsLeader()` is false: GenerateTSO (global and local) checks first, getTS re-checks after generating, resetUserTimestamp checks, rotateKeyIfNeeded checks, validateRequest requires IsLeader, AllocID validates before allocating, the region-heartbeat stream validates every received message (before the stream re-bind block) and the store heartbeat validates before it is handled, IsLeader = Check ∧ cache -/
theorem service_guard_structure :
    isLeaderIsCheckAndCache = true ∧
    getTSRechecksLeadership = true ∧
    resetUserTimestampChecksLeadership = true ∧
    globalGenerateChecksLeadershipFirst = true ∧
    localGenerateChecksLeadershipFirst = true ∧
    rotateChecksLeadershipFirst = true ∧
    validateRequestRequiresLeader = true ∧
    allocIDValidatesFirst = true ∧
    dcLocationInfoRequiresLeader = true ∧
    regionHeartbeatValidatesEveryMessage = true ∧
    storeHeartbeatValidatesFirst = true := by decide

/-- the call order assumed of the leader loop (`Spec.C03.Act`): keep-alive, TSO initialisation and EnableLeader only after a successful CampaignLeader; the step-down cancels the keep-alive, resets the leadership, unsets the leader cache and resets the TSO memory; CheckLeader deletes the record only when it names the member itself; WatchLeader sets, watches, unsets -/
theorem leader_loop_structure :
    leaderLoopOrder = true ∧
    stepDownCancelsThenResets = true ∧
    stepDownResetsTSO = true ∧
    leaderLoopStepsDownOnExpiry = true ∧
    resetLeaderResetsAndUnsets = true ∧
    resetGroupResetsAllocatorAndLeadership = true ∧
    checkLeaderDeletesOnlyOwnRecord = true ∧
    watchLeaderSetsWatchesUnsets = true := by decide

end

/-- the id-window step of the model is the constant of server/id/id.go -/
theorem allocStep_extracted : allocStep = PdModel.Generated.Election.allocStep := by decide

end PdModel.Election
