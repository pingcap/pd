import PdModel.Model.DrAutoSync
import PdModel.Spec.C19
/-!
The recovery scan of the DR auto-sync model: the cursor invariant `Inv` and the one form (`Advance`)
in which every part of the scan changes the state; the ordered region cache (`CacheOk`), on which the
fuel of the scan loop suffices and a complete chain of recovered regions is scanned to the end.
-/
namespace PdModel.DrAutoSync
open PdModel.Spec

def toReport (r : Region) : C19.Report :=
  { start := r.start, end_ := r.end_, integrity := r.st == .integrity, sid := r.sid }

theorem scan_sublist (rs : List Region) (key limit : Nat) : (scan rs key limit).Sublist rs := by
  unfold scan
  split
  · exact (List.take_sublist _ _).trans List.filter_sublist
  · exact List.filter_sublist

/-- `Chain a l e`: the regions `l` lie end to start, from key `a` up to key `e` (`l` empty: `a = e`) -/
def Chain : Nat → List Region → Nat → Prop
  | cur, [], e => cur = e
  | cur, r :: rs, e => r.start = cur ∧ Chain r.end_ rs e

theorem chain_split (a : Nat) (l1 l2 : List Region) (e : Nat) :
    Chain a (l1 ++ l2) e ↔ ∃ m, Chain a l1 m ∧ Chain m l2 e := by
  induction l1 generalizing a with
  | nil => simp [Chain]
  | cons x xs ih =>
    simp only [List.cons_append, Chain, ih]
    constructor
    · rintro ⟨h, m, h1, h2⟩; exact ⟨m, ⟨h, h1⟩, h2⟩
    · rintro ⟨m, ⟨h, h1⟩, h2⟩; exact ⟨h, m, h1, h2⟩

theorem chain_covers {a : Nat} {l : List Region} {e : Nat} (h : Chain a l e) (hne : l ≠ []) (k : Nat) (hak : a ≤ k)
    (hke : e = 0 ∨ k < e) : ∃ r ∈ l, r.start ≤ k ∧ (r.end_ = 0 ∨ k < r.end_) := by
  induction l generalizing a with
  | nil => exact absurd rfl hne
  | cons x xs ih =>
    obtain ⟨rfl, hxs⟩ := h
    by_cases hk : x.end_ = 0 ∨ k < x.end_
    · exact ⟨x, List.mem_cons_self, hak, hk⟩
    · have hne' : xs ≠ [] := by
        rintro rfl; exact hk ((show x.end_ = e from hxs) ▸ hke)
      obtain ⟨r, hr, h12⟩ := ih hxs hne' (Nat.le_of_not_lt fun h => hk (.inr h))
      exact ⟨r, List.mem_cons_of_mem _ hr, h12⟩

structure Inv (s : St) : Prop where
  count : s.recCount = s.passed.length
  chain : Chain 0 s.passed s.recKey
  ok    : ∀ r ∈ s.passed, s.dr.state = .syncRecover → r.st = .integrity ∧ r.sid = s.dr.id
  plog  : ∀ r ∈ s.passed, r ∈ s.log
  rlog  : ∀ r ∈ s.regions, r ∈ s.log

theorem Inv.fresh {s : St} (hc : s.recCount = 0) (hk : s.recKey = 0) (hp : s.passed = [])
    (hr : ∀ r ∈ s.regions, r ∈ s.log) : Inv s :=
  ⟨by rw [hc, hp]; rfl, by rw [hp, hk]; rfl, fun _ h => absurd (hp ▸ h) List.not_mem_nil,
    fun _ h => absurd (hp ▸ h) List.not_mem_nil, hr⟩

/-- `t` is `s` with the recovery cursor moved over `more`: a chain of regions of the cache, starting at
    the cursor, each of which reports integrity under the current state id.  Every part of the scan
    changes the state in this way, and it is all the cursor invariant needs to know about the scan. -/
structure Advance (s t : St) (more : List Region) : Prop where
  dr      : t.dr = s.dr
  regions : t.regions = s.regions
  log     : t.log = s.log
  batch   : t.batch = s.batch
  passed  : t.passed = s.passed ++ more
  count   : t.recCount = s.recCount + more.length
  chain   : Chain s.recKey more t.recKey
  ok      : ∀ r ∈ more, r ∈ s.regions ∧ r.st = .integrity ∧ r.sid = s.dr.id

/-- the fields `Advance` speaks of -/
def St.cursor (s : St) := (s.dr, s.regions, s.log, s.batch, s.passed, s.recCount, s.recKey)

theorem Advance.of_cursor {s t : St} (h : t.cursor = s.cursor) : Advance s t [] := by
  simp only [St.cursor, Prod.mk.injEq] at h
  obtain ⟨h1, h2, h3, h4, h5, h6, h7⟩ := h
  exact ⟨h1, h2, h3, h4, by rw [h5, List.append_nil], h6, h7.symm, nofun⟩

theorem Advance.refl (s : St) : Advance s s [] := .of_cursor rfl

theorem Advance.trans {s t u : St} {m1 m2 : List Region} (h1 : Advance s t m1) (h2 : Advance t u m2) :
    Advance s u (m1 ++ m2) where
  dr := h2.dr.trans h1.dr
  regions := h2.regions.trans h1.regions
  log := h2.log.trans h1.log
  batch := h2.batch.trans h1.batch
  passed := by rw [h2.passed, h1.passed, List.append_assoc]
  count := by rw [h2.count, h1.count, List.length_append, Nat.add_assoc]
  chain := (chain_split _ _ _ _).2 ⟨_, h1.chain, h2.chain⟩
  ok := fun r hr => (List.mem_append.1 hr).elim (h1.ok r) fun h => by
    have := h2.ok r h; rwa [h1.regions, h1.dr] at this

theorem Inv.advance {s t : St} {more : List Region} (h : Inv s) (a : Advance s t more) : Inv t where
  count := by rw [a.count, a.passed, List.length_append, h.count]
  chain := by rw [a.passed]; exact (chain_split _ _ _ _).2 ⟨_, h.chain, a.chain⟩
  ok := fun r hr hst => by
    rw [a.dr] at hst ⊢; rw [a.passed] at hr
    exact (List.mem_append.1 hr).elim (fun h' => h.ok r h' hst) fun h' => (a.ok r h').2
  plog := fun r hr => by
    rw [a.log]; rw [a.passed] at hr
    exact (List.mem_append.1 hr).elim (h.plog r) fun h' => h.rlog r (a.ok r h').1
  rlog := by rw [a.regions, a.log]; exact h.rlog

theorem walkBatch_advance (s : St) (rs : List Region) (hrs : ∀ r ∈ rs, r ∈ s.regions) :
    ∃ more, Advance s (walkBatch s rs).1 more ∧ ((walkBatch s rs).2 = none → more = rs) := by
  fun_induction walkBatch s rs with
  | case1 s => exact ⟨[], .refl s, fun _ => rfl⟩
  | case2 s r rs hrec ih =>
    simp only [regionRecovered, Bool.and_eq_true, beq_iff_eq] at hrec
    obtain ⟨more, ha, hn⟩ := ih fun x hx => hrs x (List.mem_cons_of_mem _ hx)
    have h1 : Advance s { s with recKey := r.end_, recCount := s.recCount + 1, passed := s.passed ++ [r] } [r] :=
      ⟨rfl, rfl, rfl, rfl, rfl, rfl, ⟨hrec.1.1.symm, rfl⟩, fun x hx => by
        rw [List.mem_singleton] at hx; subst hx; exact ⟨hrs _ List.mem_cons_self, hrec.2, hrec.1.2⟩⟩
    exact ⟨r :: more, h1.trans ha, fun h => by rw [hn h]⟩
  | case3 s r rs hrec => exact ⟨[], .refl s, fun h => absurd h (Option.some_ne_none _)⟩

theorem sample_advance (s : St) (rest : List Region) : Advance s (sample s rest).1 [] := .of_cursor rfl

theorem estimate_advance (s : St) : Advance s (estimate s).1 [] := by
  unfold estimate; split <;> exact .of_cursor rfl

theorem updateLoop_advance (fuel : Nat) (s : St) : ∃ more, Advance s (updateLoop fuel s).1 more := by
  fun_induction updateLoop fuel s with
  | case1 s => exact ⟨[], .of_cursor rfl⟩
  | case2 fuel s hc rs e he => exact ⟨[], .refl s⟩
  | case3 fuel s hc rs e he w hw r ih =>
    obtain ⟨m1, h1, _⟩ := walkBatch_advance s _ (scan_sublist s.regions s.recKey s.batch).subset
    obtain ⟨m2, h2⟩ := ih
    exact ⟨_, h1.trans h2⟩
  | case4 fuel s hc rs e he w rest hw r =>
    obtain ⟨m1, h1, _⟩ := walkBatch_advance s _ (scan_sublist s.regions s.recKey s.batch).subset
    exact ⟨_, h1.trans (sample_advance w.1 rest)⟩
  | case5 fuel s hc => exact ⟨[], .refl s⟩

theorem scanned_advance (s : St) : ∃ more, Advance s (scanned s) more := by
  obtain ⟨m, h⟩ := updateLoop_advance (s.regions.length + 2) s
  exact ⟨_, h.trans (estimate_advance _)⟩

theorem finished_iff (s : St) : finished s = true ↔ s.recKey = 0 ∧ 0 < s.recCount := by
  simp only [finished, Bool.and_eq_true, beq_iff_eq, decide_eq_true_eq]

theorem inv_finished_covered (s : St) (h : Inv s) (hf : finished s = true) (hst : s.dr.state = .syncRecover) :
    s.passed ≠ [] ∧ Chain 0 s.passed 0 ∧ (∀ r ∈ s.passed, r.st = .integrity ∧ r.sid = s.dr.id ∧ r ∈ s.log) ∧
    C19.Covered (s.log.map toReport) s.dr.id := by
  rw [finished_iff] at hf
  have hne : s.passed ≠ [] := fun hnil => Nat.ne_of_gt hf.2 (h.count.trans (congrArg List.length hnil))
  have hch : Chain 0 s.passed 0 := hf.1 ▸ h.chain
  refine ⟨hne, hch, fun r hr => ⟨(h.ok r hr hst).1, (h.ok r hr hst).2, h.plog r hr⟩, ?_⟩
  intro k
  obtain ⟨r, hr, h1, h2⟩ := chain_covers hch hne k (Nat.zero_le k) (Or.inl rfl)
  refine ⟨toReport r, List.mem_map.2 ⟨r, h.plog r hr, rfl⟩, ?_⟩
  obtain ⟨hi, hs⟩ := h.ok r hr hst
  simp [C19.Report.Covers, toReport, hi, hs, h1, h2]

/-- a region report is well-formed: non-empty range -/
def Region.wf (r : Region) : Prop := r.start < r.end_ ∨ r.end_ = 0

def Before (a b : Region) : Prop := a.end_ ≠ 0 ∧ a.end_ ≤ b.start

/-- the region cache: ordered by key, non-overlapping, non-empty ranges -/
def CacheOk (rs : List Region) : Prop := rs.Pairwise Before ∧ ∀ r ∈ rs, r.wf

theorem not_overlaps {n x : Region} (h : overlaps n x = false) : Before x n ∨ Before n x := by
  simp only [overlaps, keyBelowEnd, Bool.and_eq_false_iff, Bool.or_eq_false_iff, decide_eq_false_iff_not,
    beq_eq_false_iff_ne, ne_eq] at h
  rcases h with ⟨_, h1, h2⟩ | ⟨h1, h2⟩
  · left; exact ⟨h1, by omega⟩
  · right; exact ⟨h1, by omega⟩

theorem insertSorted_mem {r x : Region} {l : List Region} (hx : x ∈ insertSorted r l) : x = r ∨ x ∈ l := by
  induction l with
  | nil => exact Or.inl (List.mem_singleton.1 hx)
  | cons y ys ih =>
    simp only [insertSorted] at hx
    split at hx
    · exact List.mem_cons.1 hx
    · rcases List.mem_cons.1 hx with rfl | hx
      · exact Or.inr List.mem_cons_self
      · exact (ih hx).imp_right (List.mem_cons_of_mem _)

theorem putRegion_mem {rs : List Region} {r x : Region} (hx : x ∈ putRegion rs r) : x = r ∨ x ∈ rs :=
  (insertSorted_mem hx).imp_right fun h => (List.mem_filter.1 h).1

theorem Before.start_lt {a b : Region} (h : Before a b) (ha : a.wf) : a.start < b.start := by
  unfold Before at h; unfold Region.wf at ha; omega

theorem insertSorted_ok (r : Region) (l : List Region) (hr : r.wf) (hl : CacheOk l)
    (hd : ∀ x ∈ l, Before x r ∨ Before r x) : CacheOk (insertSorted r l) := by
  induction l with
  | nil => exact ⟨List.pairwise_singleton _ _, fun x hx => by rw [List.mem_singleton.1 hx]; exact hr⟩
  | cons x xs ih =>
    obtain ⟨hp, hwf⟩ := hl
    rw [List.pairwise_cons] at hp
    have hwx : x.wf := hwf x List.mem_cons_self
    simp only [insertSorted]
    split
    · next hle =>
      -- r goes first: it cannot lie behind a region that starts at or behind its start
      refine ⟨List.pairwise_cons.2 ⟨fun y hy => (hd y hy).resolve_left fun h => ?_, List.pairwise_cons.2 hp⟩,
        fun y hy => (List.mem_cons.1 hy).elim (· ▸ hr) (hwf y)⟩
      have hyr := h.start_lt (hwf y hy)
      rcases List.mem_cons.1 hy with rfl | hy
      · omega
      · have := (hp.1 y hy).start_lt hwx; omega
    · next hlt =>
      have ih' := ih ⟨hp.2, fun y hy => hwf y (List.mem_cons_of_mem _ hy)⟩ fun y hy => hd y (List.mem_cons_of_mem _ hy)
      refine ⟨List.pairwise_cons.2 ⟨fun z hz => ?_, ih'.1⟩, fun y hy => (List.mem_cons.1 hy).elim (· ▸ hwx) (ih'.2 y)⟩
      rcases insertSorted_mem hz with rfl | hz
      · exact (hd x List.mem_cons_self).resolve_right fun h => hlt (Nat.le_of_lt (h.start_lt hr))
      · exact hp.1 z hz

theorem cacheOk_sublist {l' l : List Region} (hs : l'.Sublist l) (h : CacheOk l) : CacheOk l' :=
  ⟨h.1.sublist hs, fun r hr => h.2 r (hs.subset hr)⟩

theorem cacheOk_putRegion (rs : List Region) (r : Region) (hr : r.wf) (h : CacheOk rs) : CacheOk (putRegion rs r) := by
  refine insertSorted_ok r _ hr (cacheOk_sublist List.filter_sublist h) fun x hx => ?_
  have := (List.mem_filter.1 hx).2
  simp only [Bool.and_eq_true, Bool.not_eq_true'] at this
  exact not_overlaps this.2

theorem cacheOk_fill (n : Nat) (st : RState) (sid : Nat) : CacheOk (fillRegions n st sid) := by
  unfold fillRegions
  refine ⟨List.pairwise_map.2 (List.pairwise_lt_range.imp_of_mem ?_), fun r hr => ?_⟩
  · intro a b _ hb hab
    have hn : a + 1 ≠ n := Nat.ne_of_lt (Nat.lt_of_le_of_lt hab (List.mem_range.1 hb))
    simp only [Before, fillRegion, if_neg hn]
    exact ⟨Nat.mul_ne_zero (Nat.succ_ne_zero a) (by decide), Nat.mul_le_mul_right 10 hab⟩
  · obtain ⟨i, _, rfl⟩ := List.mem_map.1 hr
    unfold Region.wf fillRegion
    by_cases h : i + 1 = n
    · exact .inr (if_pos h)
    · exact .inl (by rw [if_neg h]; exact Nat.mul_lt_mul_of_pos_right (Nat.lt_succ_self i) (by decide))

theorem cacheOk_append_left (l1 l2 : List Region) (h : CacheOk (l1 ++ l2)) : CacheOk l2 :=
  cacheOk_sublist (List.sublist_append_right l1 l2) h

theorem chain_end {a : Nat} {l : List Region} {e : Nat} (h : Chain a l e) (hne : l ≠ []) (hl : CacheOk l) :
    e = 0 ∨ a < e := by
  induction l generalizing a with
  | nil => exact absurd rfl hne
  | cons x xs ih =>
    obtain ⟨rfl, hxs⟩ := h
    have hw := hl.2 x List.mem_cons_self
    cases xs with
    | nil => exact (show x.end_ = e from hxs) ▸ hw.symm
    | cons y ys =>
      have hb := (List.pairwise_cons.1 hl.1).1 y List.mem_cons_self
      exact (ih hxs (List.cons_ne_nil _ _) (cacheOk_append_left [x] _ hl)).imp_right
        (Nat.lt_trans (hw.resolve_right hb.1))

/-- number of cached regions at or behind the cursor while the scan loop has to go on -/
def remaining (s : St) : Nat :=
  if s.recKey != 0 || s.recCount == 0 then (s.regions.filter (fun r => decide (s.recKey ≤ r.start))).length else 0

theorem filter_length_lt {α} (p q : α → Bool) (l : List α) (hpq : ∀ x, p x = true → q x = true)
    (hx : ∃ x ∈ l, q x = true ∧ p x = false) : (l.filter p).length < (l.filter q).length := by
  have : l.filter p = (l.filter q).filter p := by
    rw [List.filter_filter]
    refine List.filter_congr fun x _ => ?_
    cases h : p x
    · rfl
    · rw [hpq x h]; rfl
  rw [this]
  obtain ⟨x, hm, hq, hp⟩ := hx
  exact List.length_filter_lt_length_iff_exists.2 ⟨x, List.mem_filter.2 ⟨hm, hq⟩, by simp [hp]⟩

/-- the measure falls when the cursor leaves the cached region `r0` it stood at, forward or to the end of the key space -/
theorem remaining_lt {s t : St} (hreg : t.regions = s.regions) (hcond : (s.recKey != 0 || s.recCount == 0) = true)
    {r0 : Region} (hr0 : r0 ∈ s.regions) (hstart : r0.start = s.recKey)
    (hmove : (t.recKey = 0 ∧ 0 < t.recCount) ∨ s.recKey < t.recKey) : remaining t < remaining s := by
  have hrem : remaining s = (s.regions.filter (fun r => decide (s.recKey ≤ r.start))).length := if_pos hcond
  rw [hrem]
  unfold remaining
  split
  · next hcond1 =>
    have hk : s.recKey < t.recKey := hmove.resolve_left fun h => by
      rw [h.1] at hcond1
      simp only [bne_self_eq_false, Bool.false_or, beq_iff_eq] at hcond1
      exact Nat.ne_of_gt h.2 hcond1
    rw [hreg]
    refine filter_length_lt _ _ _ (fun x hx => ?_) ⟨r0, hr0, by simp [hstart], by simp [hstart, hk]⟩
    simp only [decide_eq_true_eq] at hx ⊢
    exact Nat.le_trans (Nat.le_of_lt hk) hx
  · exact List.length_pos_of_mem (List.mem_filter.2 ⟨hr0, by simp [hstart]⟩)

theorem walkBatch_exhausted (s : St) (rs : List Region) : (walkBatch s rs).1.exhausted = s.exhausted := by
  fun_induction walkBatch s rs with
  | case1 s => rfl
  | case2 s r rs _ ih => exact ih
  | case3 s r rs _ => rfl

theorem sample_exhausted (s : St) (rest : List Region) : (sample s rest).1.exhausted = s.exhausted := rfl

theorem updateLoop_fuel (fuel : Nat) (s : St) (hc : CacheOk s.regions) (hf : remaining s < fuel) :
    (updateLoop fuel s).1.exhausted = s.exhausted := by
  fun_induction updateLoop fuel s with
  | case1 s => exact absurd hf (Nat.not_lt_zero _)
  | case2 fuel s hcond rs e he => rfl
  | case3 fuel s hcond rs e hne w hnone r ih =>
    -- the whole batch was passed: the cursor has left the region it stood at
    have hsub : rs.Sublist s.regions := scan_sublist _ _ _
    obtain ⟨more, ha, hall⟩ := walkBatch_advance s rs hsub.subset
    obtain rfl := hall hnone
    obtain ⟨r0, rest, hrs⟩ := List.exists_cons_of_ne_nil (l := rs) fun h => hne (by rw [h]; rfl)
    have hend := chain_end ha.chain (hrs ▸ List.cons_ne_nil _ _) (cacheOk_sublist hsub hc)
    have hstart : r0.start = s.recKey := by have := ha.chain; rw [hrs] at this; exact this.1
    have hcount : 0 < w.1.recCount := by rw [ha.count, hrs]; exact Nat.add_pos_right _ (Nat.succ_pos _)
    have hdec : remaining w.1 < remaining s := remaining_lt ha.regions hcond (hsub.subset (hrs ▸ List.mem_cons_self)) hstart
      (hend.imp_left fun h => ⟨h, hcount⟩)
    exact (ih (ha.regions ▸ hc) (Nat.lt_of_lt_of_le hdec (Nat.le_of_lt_succ hf))).trans (walkBatch_exhausted _ _)
  | case4 fuel s hcond rs e he w rest hw r => exact (sample_exhausted _ _).trans (walkBatch_exhausted _ _)
  | case5 fuel s hcond => rfl

theorem remaining_le (s : St) : remaining s ≤ s.regions.length := by
  unfold remaining; split
  · exact List.length_filter_le _ _
  · exact Nat.zero_le _

structure Good (s : St) : Prop where
  cache : CacheOk s.regions
  fuel  : s.exhausted = false

theorem estimate_exhausted (s : St) : (estimate s).1.exhausted = s.exhausted := by
  unfold estimate; split <;> rfl

theorem good_scanned (s : St) (h : Good s) : Good (scanned s) := by
  obtain ⟨_, a⟩ := scanned_advance s
  refine ⟨by rw [a.regions]; exact h.cache, (estimate_exhausted _).trans ?_⟩
  exact (updateLoop_fuel _ s h.cache (Nat.lt_succ_of_le (Nat.le_succ_of_le (remaining_le s)))).trans h.fuel

theorem walkBatch_chain (s : St) {l : List Region} {m : Nat} (hch : Chain s.recKey l m)
    (hall : ∀ r ∈ l, r.st = .integrity ∧ r.sid = s.dr.id) :
    (walkBatch s l).2 = none ∧ (walkBatch s l).1.recKey = m ∧ (walkBatch s l).1.recCount = s.recCount + l.length := by
  fun_induction walkBatch s l with
  | case1 s => exact ⟨rfl, hch, rfl⟩
  | case2 s r rs _ ih =>
    obtain ⟨h1, h2, h3⟩ := ih hch.2 fun x hx => hall x (List.mem_cons_of_mem _ hx)
    exact ⟨h1, h2, by rw [h3, List.length_cons]; exact (Nat.add_right_comm _ 1 _).trans (Nat.add_assoc _ _ 1)⟩
  | case3 s r rs hrec =>
    have hr := hall r List.mem_cons_self
    exact absurd (by simp [regionRecovered, hch.1, hr.1, hr.2]) hrec

theorem scan_at (pre : List Region) (r : Region) (t : List Region) (limit : Nat) (hl : 0 < limit)
    (hc : CacheOk (pre ++ r :: t)) : scan (pre ++ r :: t) r.start limit = (r :: t).take limit := by
  have hpw := List.pairwise_append.1 hc.1
  have hw := hc.2 r (List.mem_append_right _ List.mem_cons_self)
  have h1 : pre.filter (fun x => decide (r.start ≤ x.start) || keyBelowEnd r.start x.end_) = [] := by
    refine List.filter_eq_nil_iff.2 fun x hx => ?_
    have hb := hpw.2.2 x hx r List.mem_cons_self
    simp [keyBelowEnd, hb.1, hb.2, hb.start_lt (hc.2 x (List.mem_append_left _ hx))]
  have h2 : (r :: t).filter (fun x => decide (r.start ≤ x.start) || keyBelowEnd r.start x.end_) = r :: t := by
    refine List.filter_eq_self.2 fun x hx => ?_
    rcases List.mem_cons.1 hx with rfl | hx
    · simp
    · simp [Nat.le_of_lt (((List.pairwise_cons.1 hpw.2.1).1 x hx).start_lt hw)]
  unfold scan
  rw [if_pos hl, List.filter_append, h1, h2]; rfl

/-- `suf` is the part of the cache at and behind the cursor; when it is empty the cursor is at the end already -/
theorem loop_completes (fuel : Nat) (s : St) (pre suf : List Region) (hreg : s.regions = pre ++ suf)
    (hc : CacheOk s.regions) (hch : Chain s.recKey suf 0)
    (hall : ∀ r ∈ suf, r.st = .integrity ∧ r.sid = s.dr.id) (hcnt : suf = [] → 0 < s.recCount)
    (hb : 0 < s.batch) (hfuel : suf.length < fuel) : finished (updateLoop fuel s).1 = true := by
  induction fuel generalizing s pre suf with
  | zero => exact absurd hfuel (Nat.not_lt_zero _)
  | succ fuel ih =>
    by_cases hgo : (s.recKey != 0 || s.recCount == 0) = true
    · cases suf with
      | nil =>
        rw [show s.recKey = 0 from hch] at hgo
        exact absurd (by simpa using hgo) (Nat.ne_of_gt (hcnt rfl))
      | cons h0 t =>
        rw [hreg] at hc
        obtain ⟨n, hn⟩ := Nat.exists_eq_succ_of_ne_zero (Nat.ne_of_gt hb)
        -- the scan at the cursor returns the first batch of the suffix, which is passed completely
        have hscan : scan s.regions s.recKey s.batch = h0 :: t.take n := by
          rw [hreg, ← (show h0.start = s.recKey from hch.1), hn]; exact scan_at pre h0 t _ (Nat.succ_pos n) hc
        have hsplit : h0 :: t = (h0 :: t.take n) ++ t.drop n := by rw [List.cons_append, List.take_append_drop]
        obtain ⟨m, hm1, hm2⟩ := (chain_split s.recKey _ _ 0).1 (hsplit ▸ hch)
        have hsub : ∀ r ∈ h0 :: t.take n, r ∈ h0 :: t := fun r hr => hsplit ▸ List.mem_append_left _ hr
        obtain ⟨w1, w2, w3⟩ := walkBatch_chain s hm1 fun r hr => hall r (hsub r hr)
        obtain ⟨_, a, _⟩ := walkBatch_advance s (h0 :: t.take n) fun r hr => by
          rw [hreg]; exact List.mem_append_right _ (hsub r hr)
        simp only [updateLoop, hgo, if_true, hscan, List.isEmpty_cons, Bool.false_eq_true, if_false, w1]
        refine ih (walkBatch s (h0 :: t.take n)).1 (pre ++ (h0 :: t.take n)) (t.drop n) ?_ ?_ (w2 ▸ hm2)
          (fun r hr => a.dr ▸ hall r (List.mem_cons_of_mem _ (List.mem_of_mem_drop hr)))
          (fun _ => by rw [w3]; exact Nat.add_pos_right _ (Nat.succ_pos _)) (by rw [a.batch]; exact hb) ?_
        · rw [a.regions, hreg, List.append_assoc, ← hsplit]
        · rw [a.regions, hreg]; exact hc
        · exact Nat.lt_of_le_of_lt (List.drop_sublist n t).length_le (Nat.lt_of_succ_lt_succ hfuel)
    · -- the loop stops only with the cursor at the end and something passed, whatever lies behind it in the cache
      rw [updateLoop, if_neg hgo]
      simpa [finished_iff, Nat.pos_iff_ne_zero] using hgo

end PdModel.DrAutoSync
