import PdModel.Model.GcSafePoint
import PdModel.Lemmas.GcSafePoint
import PdModel.Lemmas.GcService
import PdModel.Spec.C15
import PdModel.Generated.GcSafePoint
/-!
Cluster safe point.  Quantifiers: every number of update and read requests with arbitrary values, every
interleaving of their storage accesses and mutex acquisitions (a history is an arbitrary list of
micro-steps), every storage failure (error with or without effect), no bound on the length.

Service safe points.  Quantifiers: every stored table (also tables no sequence of requests produces: legacy
records, missing or finite gc_worker), every request, every time the server may read from the TSO, every
failing storage write, except where a statement has `0` for `failAt` (the code ignores the error of the pruning
`Remove`, so an expired record may be left).
-/
namespace PdModel.GcSafePoint
open PdModel.Spec

/-- C15, cluster safe point.  With the load-compare-save of `UpdateGCSafePoint` inside one critical
    section: in every history the stored safe point never decreases and every response (of an update or
    of a read) is at least every value acknowledged before that request began. -/
theorem cluster_safepoint_monotone (ops : List COp) : C15.Holds (events (cinit true) ops) :=
  C15_holds_from inv_init ops

/-- the handler in the tree is the atomic one (regenerated from server/grpc_service.go on every run:
    `Lock(); defer Unlock()` precede both `LoadGCSafePoint` and `SaveGCSafePoint`) -/
theorem handler_is_atomic : PdModel.Generated.GcSafePoint.updateIsAtomic = true := by decide

theorem cluster_safepoint_monotone_extracted (ops : List COp) :
    C15.Holds (events (cinit PdModel.Generated.GcSafePoint.updateIsAtomic) ops) := by
  rw [handler_is_atomic]; exact cluster_safepoint_monotone ops

theorem inv_reachable (ops : List COp) : Inv (crun (cinit true) ops) :=
  inv_crun inv_init ops

/-- no micro-step of a reachable state lowers the stored safe point, and nothing acknowledged exceeds it -/
theorem stored_never_decreases (ops : List COp) (op : COp) :
    (crun (cinit true) ops).stored ≤ (cstep (crun (cinit true) ops) op).1.stored ∧
    (crun (cinit true) ops).maxAck ≤ (crun (cinit true) ops).stored :=
  ⟨(cstep_ok (inv_reachable ops) op).stored, (inv_reachable ops).ackLe⟩

/-- for the handler without the critical section (`atomic = false`): two requests 10 and 20 both load 0,
    20 is saved and acknowledged, then 10 is saved -/
def raceWitness : List COp :=
  [.begin 10, .begin 20, .load 0 .none, .load 1 .none, .save 1 .none, .save 0 .none, .get]

/-- without the critical section the property fails: on `raceWitness` the stored value drops from 20 to 10 and
    the final read answers 10 after 20 was acknowledged -/
theorem cluster_safepoint_counterexample : ¬ C15.Holds (events (cinit false) raceWitness) := by
  rw [← C15.check_iff]
  decide

/-- the same history is harmless for the atomic handler (the second request waits for the mutex) -/
example : C15.check (events (cinit true) raceWitness) {} = true := by decide

example : events (cinit false) raceWitness =
    [.begin 0, .stored 0, .begin 2, .stored 0, .stored 0, .stored 0, .resp 2 20, .stored 20,
     .resp 0 10, .stored 10, .begin 1, .resp 1 10, .stored 10] := by decide

def toRec (e : Entry) : C15.Rec := ⟨e.id, e.sp, e.exp⟩

/-- what an observer records of one answered request -/
def obsOf (gc : String) (t : Table) (svc : String) (ttl : Int) (sp : Nat) (now : Int) (t' : Table)
    (msp : Nat) : C15.Obs :=
  { gcWorker := gc, svc := svc, ttl := ttl, sp := sp, now := now, minSp := msp,
    before := t.map toRec, after := t'.map toRec }

variable (gc : String) (t : Table) (svc : String) (ttl : Int) (sp : Nat) (now : Int) (failAt : Nat)
variable (t' : Table) (mid : String) (mttl : Int) (msp : Nat)

/-- Whatever write fails: the reported minimum is not above the safe point of any
    record left that is live (not expired, or gc_worker's). -/
theorem min_not_above_live (hnow : now ≤ maxI64)
    (h : usp gc t svc ttl sp now failAt = (t', .ok mid mttl msp)) :
    ∀ x ∈ t', (x.id = gc ∨ now ≤ x.exp) → msp ≤ x.sp :=
  (usp_good hnow h).below

/-- Whatever write fails: after an answered request gc_worker's
    record exists and never expires. -/
theorem gc_worker_always_present_infinite (hnow : now ≤ maxI64)
    (h : usp gc t svc ttl sp now failAt = (t', .ok mid mttl msp)) :
    ∃ x ∈ t', x.id = gc ∧ x.exp = maxI64 :=
  (usp_good hnow h).worker

/-- (1) When no storage write fails, no expired record is left;
    (2) whatever write fails, after a request with ttl ≤ 0 the service has no record. -/
theorem expired_or_nonpositive_ttl_gone (hnow : now ≤ maxI64)
    (h : usp gc t svc ttl sp now failAt = (t', .ok mid mttl msp)) :
    (failAt = 0 → ∀ x ∈ t', now ≤ x.exp) ∧ (ttl ≤ 0 → ∀ x ∈ t', x.id ≠ svc) := by
  refine ⟨(usp_good hnow h).pruned, fun h1 x hx => ?_⟩
  have pos : ¬ 0 < ttl := Int.not_lt.2 h1
  cases usp_ok hnow h with
  | removed h0 hgc hv hk =>
    rcases hk.frame x hx with h2 | h2
    · exact ((mem_tremove _ _ _).1 h2).2
    · exact h2 ▸ Ne.symm hgc
  | refused h0 hlt hk => exact absurd h0 pos
  | reloaded h0 hge hv hgc hk hk' => exact absurd h0 pos
  | saved h0 hge hv hgc hk => exact absurd h0 pos

/-- When no storage write fails: a registration below the safe points of all
    live records (and there is one) is not recorded; whatever record the service has afterwards stays above
    the refused value. -/
theorem below_min_not_recorded (hnow : now ≤ maxI64)
    (h : usp gc t svc ttl sp now 0 = (t', .ok mid mttl msp))
    (hpos : 0 < ttl) (hex : ∃ e ∈ t, e.id = gc ∨ now ≤ e.exp)
    (hall : ∀ e ∈ t, (e.id = gc ∨ now ≤ e.exp) → sp < e.sp) :
    (∀ x ∈ t', x.id = svc → sp < x.sp) ∧ sp < msp := by
  -- the minimum of the table as it was is the safe point of a live record, hence above `sp`
  have hmin : ∀ {t2 : Table} {m : Entry}, LoadMinOk gc now t 0 t2 m → sp < m.sp := fun hk => by
    obtain ⟨e, he, hc, hs⟩ := hk.attain hex
    exact hs ▸ hall e he hc
  cases usp_ok hnow h with
  | removed h0 hgc hv hk => exact absurd hpos (Int.not_lt.2 h0)
  | saved h0 hge hv hgc hk => exact absurd (hmin hk) (Nat.not_lt.2 hge)
  | reloaded h0 hge hv hgc hk hk' => exact absurd (hmin hk) (Nat.not_lt.2 hge)
  | refused h0 hlt hk =>
    -- without failing writes every record left is live, hence not below the minimum
    exact ⟨fun x hx _ => Nat.lt_of_lt_of_le hlt (hk.below x hx (Or.inr (hk.pruned rfl x hx))), hlt⟩

/-- An id that does not survive `path.Join` is never recorded: the only `ok`
    answers are refusals below the minimum, and every record left is an old one or gc_worker's. -/
theorem invalid_id_never_recorded (hnow : now ≤ maxI64) (hbad : validId svc = false)
    (h : usp gc t svc ttl sp now failAt = (t', .ok mid mttl msp)) :
    (0 < ttl ∧ sp < msp) ∧ ∀ x ∈ t', x ∈ t ∨ x.id = gc := by
  have bad : validId svc ≠ true := fun hv => Bool.false_ne_true (hbad.symm.trans hv)
  cases usp_ok hnow h with
  | removed h0 hgc hv hk => exact absurd hv bad
  | saved h0 hge hv hgc hk => exact absurd hv bad
  | reloaded h0 hge hv hgc hk hk' => exact absurd hv bad
  | refused h0 hlt hk => exact ⟨⟨h0, hlt⟩, hk.frame⟩

theorem exists_mem_map_toRec {l : Table} {P : C15.Rec → Prop} :
    (∃ r ∈ l.map toRec, P r) ↔ ∃ x ∈ l, P (toRec x) := by
  constructor
  · rintro ⟨_, hr, hp⟩
    obtain ⟨x, hx, rfl⟩ := List.mem_map.1 hr
    exact ⟨x, hx, hp⟩
  · rintro ⟨x, hx, hp⟩
    exact ⟨toRec x, List.mem_map.2 ⟨x, hx, rfl⟩, hp⟩

/-- C15, service safe points.  Every answered request of the model (no failing write) satisfies the
    observable specification. -/
theorem service_safepoints_hold (hnow : now ≤ maxI64)
    (h : usp gc t svc ttl sp now 0 = (t', .ok mid mttl msp)) :
    C15.SvcHolds (obsOf gc t svc ttl sp now t' msp) := by
  obtain ⟨hbelow, hpruned, hworker⟩ := usp_good hnow h
  simp only [C15.SvcHolds, C15.MinNotAboveLive, C15.BelowMinNotRecorded, C15.GcWorkerPresent, C15.ExpiredGone,
    obsOf, List.forall_mem_map, exists_mem_map_toRec]
  exact ⟨hbelow,
    fun hpos hex hall => (below_min_not_recorded gc t svc ttl sp now t' mid mttl msp hnow h hpos hex hall).1,
    hworker, hpruned rfl, (expired_or_nonpositive_ttl_gone gc t svc ttl sp now 0 t' mid mttl msp hnow h).2⟩

/-- gc_worker's registration is not removed by the storage-level removal that the HTTP API
    `DELETE /gc/safepoint/{service_id}` performs -/
theorem del_keeps_gc_worker (gc : String) (t : Table) (svc : String) :
    C15.GcWorkerKept gc (t.map toRec) ((del gc t svc).1.map toRec) := by
  simp only [C15.GcWorkerKept, exists_mem_map_toRec]
  rintro ⟨x, hx, hid⟩
  refine ⟨x, ?_, hid⟩
  unfold del
  by_cases hs : svc = gc
  · rw [if_pos hs]; exact hx
  · rw [if_neg hs]
    split
    · exact hx
    · exact (mem_tremove _ _ _).2 ⟨hx, fun e => hs (e.symm.trans hid)⟩

/-- nor is it removed by an answered registration request, whatever write fails -/
theorem usp_keeps_gc_worker (hnow : now ≤ maxI64)
    (h : usp gc t svc ttl sp now failAt = (t', .ok mid mttl msp)) :
    C15.GcWorkerKept gc (t.map toRec) (t'.map toRec) := by
  obtain ⟨x, hx, h1, _⟩ := (usp_good hnow h).worker
  exact fun _ => exists_mem_map_toRec.2 ⟨x, hx, h1⟩

/-- the cut of the handler at its own write (used to replay requests of different services that are in flight
    together) is the handler: with nothing in between, pre and post compose to `usp`.  Under
    `serviceSafePointLock` nothing can come in between. -/
theorem usp_split :
    usp gc t svc ttl sp now failAt =
      match uspPre gc t svc ttl sp now failAt with
      | .fin t' o => (t', o)
      | .save t2 w2 min e => uspPost gc t2 w2 min e now := by
  unfold usp uspPre
  cases uspRemove gc t svc ttl { failAt := failAt } with
  | error e => rfl
  | ok p =>
    dsimp only [uspLoad]
    cases loadMin gc now p.1 p.2 with
    | mk t2 r =>
      obtain ⟨w2, res⟩ := r
      cases res with
      | error e => rfl
      | ok min =>
        -- both sides test the same conditions in the same order; past them the record written has id `svc`
        dsimp only [uspSave]
        by_cases hc : ttl > 0 ∧ sp ≥ min.sp
        · rw [if_pos hc, if_pos hc]
          by_cases h1 : svc = ""
          · rw [if_pos h1, if_pos h1]
          · rw [if_neg h1, if_neg h1]
            by_cases h2 : svc = gc ∧ (newEntry svc ttl sp now).exp ≠ maxI64
            · rw [if_pos h2, if_pos h2]
            · rw [if_neg h2, if_neg h2]
              by_cases h3 : (!validId svc) = true
              · rw [if_pos h3, if_pos h3]
              · rw [if_neg h3, if_neg h3]; rfl
        · rw [if_neg hc, if_neg hc]; rfl

/-- structure obligation: UpdateServiceGCSafePoint holds `serviceSafePointLock` for its whole body (one
    request = one step of the model) -/
theorem service_update_is_one_section :
    PdModel.Generated.GcSafePoint.serviceUpdateIsOneSection = true := by decide

/-! Non-vacuity: a concrete history with a legacy (finite) gc_worker record, an expired record, a refused
    and an accepted registration, evaluated with the extracted gc_worker id. -/
def gcId : String := PdModel.Generated.GcSafePoint.gcWorkerId

def demoTable : Table := [⟨"a", 7, 90⟩, ⟨"b", 3, 120⟩, ⟨gcId, 5, 50⟩]

example : usp gcId demoTable "c" 10 4 100 0 =
    ([⟨"b", 3, 120⟩, ⟨"c", 4, 110⟩, ⟨gcId, 5, maxI64⟩], .ok "b" 20 3) := by decide

example : usp gcId demoTable "c" 10 2 100 0 =
    ([⟨"b", 3, 120⟩, ⟨gcId, 5, maxI64⟩], .ok "b" 20 3) := by decide

example : (usp gcId demoTable ".." 0 0 100 0).2 = .err .invalidId := by decide

end PdModel.GcSafePoint
