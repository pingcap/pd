import PdModel.Lemmas.TsoObs
import PdModel.Spec.C02
import PdModel.Prelude.ListFacts
/-! The inductive invariant of the TSO model: every step from a state satisfying it keeps the stored window
monotone, and every faithful step keeps the invariant.  The same case analysis (`step_ok`) says which steps log
and report a grant. -/
namespace PdModel.Tso
open PdModel.Spec

structure CfgOk (c : Cfg) : Prop where
  guard_ms : 1000000 ≤ c.guard
  save_gt  : c.guard < c.saveInterval
  sfx_lt   : c.suffix < 2 ^ c.bits

/-- the window a synchronisation loaded is at least the allocator's own stored window -/
def coversStored (stored last : Option Nat) : Prop := ∀ S, stored = some S → ∃ L, last = some L ∧ S ≤ L

theorem coversStored_optMax (a b : Option Nat) : coversStored a (optMax a b) := by
  intro S hS; subst hS
  cases b with
  | none => exact ⟨S, rfl, Nat.le_refl _⟩
  | some y => exact ⟨max S y, rfl, Nat.le_max_left _ _⟩

structure MemInv (s : St) (m : Nat) : Prop where
  l1 : (s.mems m).lease = true → m ≠ 0
  a  : ∀ p, (s.mems m).phys = some p → ∃ L, (s.mems m).lastSaved = some L ∧ p + s.cfg.guard < L
  b  : ∀ L, (s.mems m).lastSaved = some L → ∃ S, s.stored = some S ∧ L ≤ S
  -- a new leader's cached bound is the one of its previous term until its first synchronisation has saved
  c  : s.leader = m → m ≠ 0 →
        ((s.mems m).phys ≠ none ∨ ∃ n sv, (s.mems m).pend = some (.upd n sv)) →
        (s.mems m).lastSaved = s.stored
  d  : s.leader = m → m ≠ 0 → ∀ last now, (s.mems m).pend = some (.sync last now) → coversStored s.stored last
  p1 : ∀ next sv, (s.mems m).pend = some (.upd next sv) →
        (sv = none → ∃ L, (s.mems m).lastSaved = some L ∧ next + s.cfg.guard < L) ∧
        (∀ v, sv = some v → v = next + s.cfg.saveInterval ∧
            ∀ L, (s.mems m).lastSaved = some L → L ≤ next + s.cfg.guard) ∧
        (∀ p, (s.mems m).phys = some p → msOf p < msOf next) ∧
        ((s.mems m).lease = true → ∀ g ∈ s.grants, g.ms < msOf next)
  e  : (s.mems m).lease = true → ∀ p, (s.mems m).phys = some p →
        ∀ g ∈ s.grants, g.ms < msOf p ∨ (g.ms = msOf p ∧ g.hi ≤ (s.mems m).logical)

structure GrantsInv (s : St) : Prop where
  f : ∀ g ∈ s.grants, ∃ S, s.stored = some S ∧ g.ns + s.cfg.guard < S
  g : ∀ g ∈ s.grants, g.lo < g.hi ∧ g.hi * 2 ^ s.cfg.bits + s.cfg.suffix < s.cfg.maxLogical ∧ g.ms = msOf g.ns ∧
        ∃ B, g.bound = some B ∧ g.ns + s.cfg.guard < B
  o : s.grants.Pairwise (fun newer older => older.ms < newer.ms ∨ (older.ms = newer.ms ∧ older.hi ≤ newer.lo))

structure Inv (s : St) : Prop where
  mem : ∀ m, MemInv s m
  gr  : GrantsInv s
  /-- at most one member's lease check answers true (local expiry precedes server-side expiry) -/
  uniq : ∀ m m', (s.mems m).lease = true → (s.mems m').lease = true → m = m'

/-! `MemInv s m` depends on `s` only through the configuration, the stored window, the leading member, the grant log and
`s.mems m`, which after a step is an `if`.  `MemOk` is `MemInv` of the state that holds the record `x` for every
member: there `mems m` reduces to `x`, so the invariant of a changed record or under a changed shared part is a
structure update of the old one. -/

abbrev MemOk (cfg : Cfg) (stored : Option Nat) (leader : Nat) (grants : List Grant) (m : Nat) (x : Mem) : Prop :=
  MemInv { cfg := cfg, stored := stored, leader := leader, mems := fun _ => x, grants := grants } m

theorem MemInv.ok {s : St} {m : Nat} (h : MemInv s m) : MemOk s.cfg s.stored s.leader s.grants m (s.mems m) :=
  ⟨h.l1, h.a, h.b, h.c, h.d, h.p1, h.e⟩

theorem MemOk.inv {s : St} {m : Nat} {x : Mem} (hrec : s.mems m = x)
    (h : MemOk s.cfg s.stored s.leader s.grants m x) : MemInv s m := by
  subst hrec; exact ⟨h.l1, h.a, h.b, h.c, h.d, h.p1, h.e⟩

namespace MemOk
variable {cfg : Cfg} {st : Option Nat} {ld : Nat} {gs : List Grant} {m : Nat} {x : Mem}

theorem bump (h : MemOk cfg st ld gs m x) {l : Nat} (hl : x.logical ≤ l) :
    MemOk cfg st ld gs m { x with logical := l } :=
  { h with e := fun hle p hp g hg => (h.e hle p hp g hg).imp id fun ⟨h1, h2⟩ => ⟨h1, Nat.le_trans h2 hl⟩ }

theorem unlease (h : MemOk cfg st ld gs m x) : MemOk cfg st ld gs m { x with lease := false } :=
  { h with
    l1 := nofun
    p1 := fun next sv hp => let ⟨q1, q2, q3, _⟩ := h.p1 next sv hp; ⟨q1, q2, q3, nofun⟩
    e := nofun }

/-- What a member's invariant tolerates of a step it takes no part in: the window may grow, but not under a member
    that leads afterwards (only the leader's clauses compare the cached bound with it); the log may change only under a
    member without the lease (only the lease holder's clauses read it). -/
theorem frame (h : MemOk cfg st ld gs m x) {st' : Option Nat} {ld' : Nat} {gs' : List Grant}
    (hst : C02.optLe st st') (hld : ld' = m → m ≠ 0 → ld = m ∧ st' = st) (hgs : x.lease = true → gs' = gs) :
    MemOk cfg st' ld' gs' m x :=
  { h with
    b := fun L hL => C02.optLe_lower hst (h.b L hL)
    c := fun hl h0 hc => let ⟨e1, e2⟩ := hld hl h0; e2 ▸ h.c e1 h0 hc
    d := fun hl h0 => let ⟨e1, e2⟩ := hld hl h0; e2 ▸ h.d e1 h0
    p1 := fun next sv hp => let ⟨q1, q2, q3, q4⟩ := h.p1 next sv hp; ⟨q1, q2, q3, fun hl => hgs hl ▸ q4 hl⟩
    e := fun hl => hgs hl ▸ h.e hl }

theorem cons_grant (h : MemOk cfg st ld gs m x) (g0 : Grant)
    (hp1 : x.lease = true → ∀ next sv, x.pend = some (.upd next sv) → g0.ms < msOf next)
    (he : x.lease = true → ∀ p, x.phys = some p → g0.ms < msOf p ∨ (g0.ms = msOf p ∧ g0.hi ≤ x.logical)) :
    MemOk cfg st ld (g0 :: gs) m x :=
  { h with
    p1 := fun next sv hpd =>
      let ⟨q1, q2, q3, q4⟩ := h.p1 next sv hpd
      ⟨q1, q2, q3, fun hl => List.forall_mem_cons.2 ⟨hp1 hl next sv hpd, q4 hl⟩⟩
    e := fun hl p hp => List.forall_mem_cons.2 ⟨he hl p hp, h.e hl p hp⟩ }

end MemOk

theorem memOk_blank {cfg : Cfg} {st : Option Nat} {ld : Nat} {gs : List Grant} {m : Nat} {x : Mem}
    (hph : x.phys = none) (hpd : x.pend = none) (hl1 : x.lease = true → m ≠ 0)
    (hb : ∀ L, x.lastSaved = some L → ∃ S, st = some S ∧ L ≤ S) : MemOk cfg st ld gs m x where
  l1 := hl1
  a := fun _ hp => nomatch hph.symm.trans hp
  b := hb
  c := fun _ _ hc => by
    rcases hc with hc | ⟨_, _, hc⟩
    · exact absurd hph hc
    · exact nomatch hpd.symm.trans hc
  d := fun _ _ _ _ hp => nomatch hpd.symm.trans hp
  p1 := fun _ _ hp => nomatch hpd.symm.trans hp
  e := fun _ _ hp => nomatch hph.symm.trans hp

theorem memOk_published {cfg : Cfg} {st : Option Nat} {ld : Nat} {gs : List Grant} {m : Nat} {x : Mem} {n L : Nat}
    (hphys : x.phys = some n) (hls : x.lastSaved = some L) (hpend : x.pend = none)
    (hl1 : x.lease = true → m ≠ 0) (hnL : n + cfg.guard < L) (hS : ∃ S, st = some S ∧ L ≤ S)
    (hld : ld = m → m ≠ 0 → st = some L)
    (he : x.lease = true → ∀ g ∈ gs, g.ms < msOf n ∨ (g.ms = msOf n ∧ g.hi ≤ x.logical)) :
    MemOk cfg st ld gs m x where
  l1 := hl1
  a := fun p hp => by rw [hphys] at hp; cases hp; exact ⟨L, hls, hnL⟩
  b := fun L' hL' => by rw [hls] at hL'; cases hL'; exact hS
  c := fun hl h0 _ => by rw [hls, hld hl h0]
  d := fun _ _ _ _ hp => nomatch hpend.symm.trans hp
  p1 := fun _ _ hp => nomatch hpend.symm.trans hp
  e := fun hl p hp => by rw [hphys] at hp; cases hp; exact he hl

theorem inv_init (c : Cfg) : Inv (init c) :=
  ⟨fun _ => MemOk.inv rfl (memOk_blank rfl rfl (fun h => Bool.noConfusion h) fun _ h => by cases h),
    ⟨nofun, nofun, .nil⟩, fun _ _ h => Bool.noConfusion h⟩

/-- when only member `m` writes, only the invariant of `m` has to be re-established -/
theorem inv_update_member {s : St} (h : Inv s) (m : Nat) (y : Mem) (st' : Option Nat) (ld' : Nat)
    (hst : C02.optLe s.stored st') (hw : st' = s.stored ∨ s.leader = m)
    (hld : ld' = s.leader ∨ (ld' = 0 ∧ s.leader = m))
    (hlease : y.lease = true → (s.mems m).lease = true)
    (hm : MemOk s.cfg st' ld' s.grants m y) :
    Inv { s with stored := st', leader := ld', mems := fun i => if i = m then y else s.mems i } := by
  have hle : ∀ a, (if a = m then y else s.mems a).lease = true → (s.mems a).lease = true := by
    intro a ha
    split at ha
    · next e => rw [e]; exact hlease ha
    · exact ha
  refine ⟨fun i => ?_, ⟨fun g hg => C02.optLe_lower hst (h.gr.f g hg), h.gr.g, h.gr.o⟩,
    fun a b ha hb => h.uniq a b (hle a ha) (hle b hb)⟩
  by_cases hi : i = m
  · subst hi; exact hm.inv (if_pos rfl)
  · refine MemOk.inv (if_neg hi) ((h.mem i).ok.frame hst (fun hl h0 => ?_) fun _ => rfl)
    rcases hld with rfl | ⟨rfl, _⟩
    · exact ⟨hl, hw.resolve_right fun hlm => hi (hl.symm.trans hlm)⟩
    · exact absurd hl.symm h0

theorem inv_setMem {s : St} (h : Inv s) {m : Nat} {y : Mem}
    (hlease : y.lease = true → (s.mems m).lease = true) (hm : MemOk s.cfg s.stored s.leader s.grants m y) :
    Inv (s.setMem m y) :=
  inv_update_member h m y s.stored s.leader (C02.optLe_refl _) (.inl rfl) (.inl rfl) hlease hm

theorem inv_bumpLogical {s : St} (h : Inv s) {m l : Nat} (hl : (s.mems m).logical ≤ l) :
    Inv (s.setMem m { s.mems m with logical := l }) :=
  inv_setMem h id ((h.mem m).ok.bump hl)

/-- Stepping down (`ResetAllocatorGroup`) restores the invariant even if the member's last save was applied
    without being acknowledged: its memory and pending call, which alone rely on the cached bound, are gone. -/
theorem inv_stepDown {s : St} (h : Inv s) {m : Nat} {st' : Option Nat} (hst : C02.optLe s.stored st')
    (hw : st' = s.stored ∨ s.leader = m) : Inv (stepDown { s with stored := st' } m) :=
  inv_update_member h m { s.mems m with phys := none, logical := 0, pend := none, lease := false } st'
    (if s.leader = m then 0 else s.leader) hst hw
    (by split
        · next e => exact .inr ⟨rfl, e⟩
        · exact .inl rfl) nofun
    (memOk_blank rfl rfl nofun fun L hL => C02.optLe_lower hst ((h.mem m).b L hL))

theorem inv_resign {s : St} (h : Inv s) : Inv (step s .resign).1 :=
  ⟨fun i => ((h.mem i).ok.unlease.frame (C02.optLe_refl _) (fun hl h0 => absurd hl.symm h0) fun _ => rfl).inv rfl,
    ⟨h.gr.f, h.gr.g, h.gr.o⟩, nofun⟩

theorem inv_dropKey {s : St} (h : Inv s) : Inv (step s .dropKey).1 :=
  ⟨fun i => ((h.mem i).ok.frame (C02.optLe_refl _) (fun hl h0 => absurd hl.symm h0) fun _ => rfl).inv rfl,
    ⟨h.gr.f, h.gr.g, h.gr.o⟩, h.uniq⟩

theorem inv_lead {s : St} (h : Inv s) {m : Nat} (hm0 : m ≠ 0) :
    Inv { s with leader := m,
                 mems := fun i => if i = m then
                     { ({ s.mems i with lease := false } : Mem) with
                       lease := true, phys := none, logical := 0, pend := none }
                   else { s.mems i with lease := false } } := by
  refine ⟨fun i => ?_, ⟨h.gr.f, h.gr.g, h.gr.o⟩, ?_⟩
  · by_cases hi : i = m
    · subst hi; exact MemOk.inv (if_pos rfl) (memOk_blank rfl rfl (fun _ => hm0) (h.mem i).b)
    · exact MemOk.inv (if_neg hi)
        ((h.mem i).ok.unlease.frame (C02.optLe_refl _) (fun hl _ => absurd hl.symm hi) fun _ => rfl)
  · have : ∀ a, (if a = m then ({ s.mems a with lease := true, phys := none, logical := 0, pend := none } : Mem)
        else { s.mems a with lease := false }).lease = true → a = m := by
      intro a ha
      split at ha
      · assumption
      · cases ha
    exact fun a b ha hb => (this a ha).trans (this b hb).symm

theorem inv_ext {s : St} (h : Inv s) {v : Nat} : Inv (step s (.extWin v)).1 :=
  ⟨fun m => (h.mem m).ok.inv rfl, ⟨h.gr.f, h.gr.g, h.gr.o⟩, h.uniq⟩

theorem inv_grant {s : St} (h : Inv s) {m l count p : Nat} (hc : 0 < count)
    (hlease : (s.mems m).lease = true) (hp : (s.mems m).phys = some p) (hl : (s.mems m).logical ≤ l)
    (hov : (l + count) * 2 ^ s.cfg.bits + s.cfg.suffix < s.cfg.maxLogical) :
    Inv (granted s m l count p).1 := by
  have hm := h.mem m
  obtain ⟨L, hL, hpL⟩ := hm.a p hp
  obtain ⟨S, hS, hLS⟩ := hm.b L hL
  refine ⟨fun i => ?_, ⟨?_, ?_, ?_⟩, (inv_bumpLogical h (Nat.le_trans hl (Nat.le_add_right l count))).uniq⟩
  · by_cases hi : i = m
    · subst hi
      refine MemOk.inv (if_pos rfl) ((hm.ok.bump (Nat.le_trans hl (Nat.le_add_right l count))).cons_grant _
        (fun _ next sv hpd => (hm.p1 next sv hpd).2.2.1 p hp) fun _ q hq => ?_)
      rw [hp] at hq; cases hq; exact .inr ⟨rfl, Nat.le_refl _⟩
    · exact MemOk.inv (if_neg hi) ((h.mem i).ok.frame (st' := s.stored) (ld' := s.leader) (C02.optLe_refl _)
        (fun hl _ => ⟨hl, rfl⟩) fun hli => absurd (h.uniq i m hli hlease) hi)
  · exact List.forall_mem_cons.2 ⟨⟨S, hS, Nat.lt_of_lt_of_le hpL hLS⟩, h.gr.f⟩
  · exact List.forall_mem_cons.2
      ⟨⟨Nat.lt_add_of_pos_right hc, hov, rfl, S, hS, Nat.lt_of_lt_of_le hpL hLS⟩, h.gr.g⟩
  · refine List.pairwise_cons.2 ⟨fun g hg => ?_, h.gr.o⟩
    exact (hm.e hlease p hp g hg).imp id fun ⟨h1, h2⟩ => ⟨h1, Nat.le_trans h2 hl⟩

def storedLe (s s' : St) : Prop := C02.optLe s.stored s'.stored

theorem storedLe_of_eq {s s' : St} (h : s'.stored = s.stored) : storedLe s s' := by
  unfold storedLe; rw [h]; exact C02.optLe_refl _

theorem saveThen_storedLe {s : St} {m sv : Nat} {f : Fault} {g : Mem → Mem} {fin : St → St}
    (hmono : s.leader = m → m ≠ 0 → ∀ S, s.stored = some S → S ≤ sv)
    (hfin : ∀ t, (fin t).stored = t.stored) : storedLe s (saveThen s m sv f g fin).1 := by
  unfold storedLe
  rcases saveThen_cases s m sv f g fin with ⟨hl, h0, e⟩ | ⟨o, _, _, ⟨hl, h0, _, e⟩ | e⟩ <;> rw [e]
  · exact C02.optLe_some (hmono hl h0)
  · show C02.optLe _ (fin _).stored; rw [hfin]; exact C02.optLe_some (hmono hl h0)
  · show C02.optLe _ (fin _).stored; rw [hfin]; exact C02.optLe_refl _

theorem inv_saveThen {s : St} (h : Inv s) {m sv : Nat} {f : Fault} {g : Mem → Mem} {fin : St → St}
    (hmono : s.leader = m → m ≠ 0 → ∀ S, s.stored = some S → S ≤ sv)
    (hlease : ∀ x, (g x).lease = true → x.lease = true)
    (hok : s.leader = m → m ≠ 0 →
      MemOk s.cfg (some sv) s.leader s.grants m (g { s.mems m with lastSaved := some sv }))
    (hfin : ∀ st', C02.optLe s.stored st' → st' = s.stored ∨ (s.leader = m ∧ f = .errAfter) →
      Inv (fin { s with stored := st' })) :
    Inv (saveThen s m sv f g fin).1 := by
  rcases saveThen_cases s m sv f g fin with ⟨hl, h0, e⟩ | ⟨o, _, _, ⟨hl, h0, hf, e⟩ | e⟩ <;> rw [e]
  · exact inv_update_member h m _ (some sv) s.leader (C02.optLe_some (hmono hl h0)) (.inr hl) (.inl rfl)
      (hlease _) (hok hl h0)
  · exact hfin (some sv) (C02.optLe_some (hmono hl h0)) (.inr ⟨hl, hf⟩)
  · exact hfin s.stored (C02.optLe_refl _) (.inl rfl)

/-- The tail UpdateTimestamp and SyncTimestamp share: save `sv`, then `setTSOPhysical next`; step down on an error.
    Where the memory is already ahead of `next` it stays, below the old window and so below `sv`. -/
theorem savePublish_storedLe_inv {s : St} (h : Inv s) {m sv next : Nat} {f : Fault}
    (hmono : s.leader = m → m ≠ 0 → ∀ S, s.stored = some S → S ≤ sv) (hsv : next + s.cfg.guard < sv)
    (hgr : s.leader = m → m ≠ 0 → (s.mems m).lease = true → ∀ g ∈ s.grants, g.ms < msOf next) :
    let r := saveThen s m sv f (fun x => setPhys { x with pend := none } next) fun t => stepDown t m
    storedLe s r.1 ∧ Inv r.1 := by
  have hm := h.mem m
  refine ⟨saveThen_storedLe hmono fun _ => rfl, inv_saveThen h hmono (fun x hx => by rwa [setPhys_lease] at hx)
    (fun hl h0 => ?_) fun _ hst hw => inv_stepDown h hst (hw.imp_right And.left)⟩
  show MemOk _ _ _ _ _ (setPhys _ _)
  rcases setPhys_cases { s.mems m with lastSaved := some sv, pend := none } next
    with ⟨_, e⟩ | ⟨q, hq, _, e⟩ <;> rw [e]
  · exact memOk_published rfl rfl rfl hm.l1 hsv ⟨_, rfl, Nat.le_refl _⟩ (fun _ _ => rfl)
      fun hle g hg => .inl (hgr hl h0 hle g hg)
  · obtain ⟨L, hL, hqL⟩ := hm.a q hq
    obtain ⟨S, hS, hLS⟩ := hm.b L hL
    exact memOk_published hq rfl rfl hm.l1 (Nat.lt_of_lt_of_le hqL (Nat.le_trans hLS (hmono hl h0 S hS)))
      ⟨_, rfl, Nat.le_refl _⟩ (fun _ _ => rfl) fun hle => hm.e hle q hq

/-- what is known about a decided-but-unfinished UpdateTimestamp of member `m` -/
structure UpdOk (s : St) (m next : Nat) (save : Option Nat) : Prop where
  u1 : save = none → ∃ L, (s.mems m).lastSaved = some L ∧ next + s.cfg.guard < L
  u2 : ∀ v, save = some v → v = next + s.cfg.saveInterval ∧
        ∀ L, (s.mems m).lastSaved = some L → L ≤ next + s.cfg.guard
  u3 : ∀ p, (s.mems m).phys = some p → msOf p < msOf next
  u4 : (s.mems m).lease = true → ∀ g ∈ s.grants, g.ms < msOf next
  u5 : s.leader = m → m ≠ 0 → (s.mems m).lastSaved = s.stored

/-- when the update's transaction commits, the member is the leader, so its cached bound is the stored one -/
theorem UpdOk.le_save {s : St} {m next sv : Nat} (hu : UpdOk s m next (some sv)) (hc : CfgOk s.cfg)
    (hl : s.leader = m) (h0 : m ≠ 0) (S : Nat) (hS : s.stored = some S) : S ≤ sv := by
  obtain ⟨rfl, hle⟩ := hu.u2 _ rfl
  have := hle S ((hu.u5 hl h0).trans hS); have := hc.save_gt; omega

theorem updOk_of_pend {s : St} (h : Inv s) {m next : Nat} {save : Option Nat}
    (hp : (s.mems m).pend = some (.upd next save)) : UpdOk s m next save := by
  obtain ⟨q1, q2, q3, q4⟩ := (h.mem m).p1 next save hp
  exact ⟨q1, q2, q3, q4, fun hl h0 => (h.mem m).c hl h0 (Or.inr ⟨next, save, hp⟩)⟩

theorem updOk_of_decide {s : St} (h : Inv s) (hc : CfgOk s.cfg) {m now next : Nat} {save : Option Nat}
    (hd : updDecide s.cfg (s.mems m) now = some (next, save)) : UpdOk s m next save := by
  obtain ⟨p, hp, hn, rfl⟩ := updDecide_some hd
  have hm := h.mem m
  have hms : msOf p < msOf next := msOf_lt_of_add (by have := hc.guard_ms; omega)
  refine ⟨fun hsn => ?_, fun v hv => ?_, fun q hq => by rw [hp] at hq; cases hq; exact hms, fun hl' g hgm => ?_,
    fun hl' h0 => hm.c hl' h0 (.inl (by rw [hp]; nofun))⟩
  · split at hsn
    · cases hsn
    · next hns => exact needSave_false (Bool.eq_false_iff.2 hns)
  · split at hv
    · next hns => cases hv; exact ⟨rfl, needSave_true hns⟩
    · cases hv
  · have := hm.e hl' p hp g hgm; omega

theorem updFinish_storedLe_inv {s : St} (h : Inv s) (hc : CfgOk s.cfg) {m next : Nat} {save : Option Nat}
    {f : Fault} (hu : UpdOk s m next save) :
    storedLe s (updFinish s m next save f).1 ∧ Inv (updFinish s m next save f).1 := by
  cases save with
  | none =>
    have hm := h.mem m
    obtain ⟨L, hL, hlt⟩ := hu.u1 rfl
    refine ⟨storedLe_of_eq rfl, ?_⟩
    show Inv (s.setMem m (setPhys { s.mems m with pend := none } next))
    rw [setPhys_forward]
    · exact inv_setMem h id (memOk_published rfl hL rfl hm.l1 hlt (hm.b L hL)
        (fun hl h0 => (hu.u5 hl h0).symm.trans hL) fun hl g hg => .inl (hu.u4 hl g hg))
    · exact hu.u3
  | some sv =>
    obtain ⟨rfl, _⟩ := hu.u2 _ rfl
    rw [updFinish_some]
    exact savePublish_storedLe_inv h (hu.le_save hc) (Nat.add_lt_add_left hc.save_gt _) fun _ _ => hu.u4

theorem syncNext_above {c : Cfg} {stored last : Option Nat} (hlast : coversStored stored last) (now S : Nat)
    (hS : stored = some S) : S + c.guard ≤ syncNext c last now := by
  obtain ⟨L, rfl, hSL⟩ := hlast S hS
  have := syncNext_ge c L now; omega

theorem syncFinish_storedLe_inv {s : St} (h : Inv s) (hc : CfgOk s.cfg) {m : Nat} {last : Option Nat} {now : Nat}
    {f : Fault} (hlast : s.leader = m → m ≠ 0 → coversStored s.stored last) :
    storedLe s (syncFinish s m last now f).1 ∧ Inv (syncFinish s m last now f).1 := by
  rw [syncFinish_eq]
  have hsg := hc.save_gt
  have hgm := hc.guard_ms
  have hmono : s.leader = m → m ≠ 0 → ∀ S, s.stored = some S → S + s.cfg.guard ≤ syncNext s.cfg last now :=
    fun hl h0 => syncNext_above (hlast hl h0) now
  generalize syncNext s.cfg last now = next at hmono
  refine savePublish_storedLe_inv h (fun hl h0 S hS => by have := hmono hl h0 S hS; omega)
    (Nat.add_lt_add_left hsg _) fun hl h0 _ g hg => ?_
  -- every earlier grant is below the old window, hence more than a millisecond below `next`
  obtain ⟨S, hS, hlt⟩ := h.gr.f g hg
  have := hmono hl h0 S hS
  rw [(h.gr.g g hg).2.2.1]; exact msOf_lt_of_add (by omega)

theorem Inv.le_save_of_needSave {s : St} (h : Inv s) (hc : CfgOk s.cfg) {m p n : Nat}
    (hp : (s.mems m).phys = some p) (hns : needSave (s.mems m).lastSaved (n + s.cfg.guard) = true)
    (hl : s.leader = m) (h0 : m ≠ 0) (S : Nat) (hS : s.stored = some S) : S ≤ n + s.cfg.saveInterval := by
  have hC := (h.mem m).c hl h0 (.inl (by rw [hp]; nofun))
  have := needSave_true hns S (hC.trans hS); have := hc.save_gt; omega

theorem resetUser_storedLe_inv {s : St} (h : Inv s) (hc : CfgOk s.cfg) {m tms tlog : Nat} {ig : Bool} {f : Fault} :
    storedLe s (resetUser s m tms tlog ig f).1 ∧
      ((s.mems m).pend = none → f ≠ .errAfter → Inv (resetUser s m tms tlog ig f).1) := by
  rcases resetUser_cases s m tms tlog ig f with ⟨o, _, e⟩ | ⟨p, hlease, hp, hgt, e⟩ <;> rw [e]
  · exact ⟨storedLe_of_eq rfl, fun _ _ => h⟩
  have hm := h.mem m
  have hE : ∀ g ∈ s.grants, g.ms < msOf (tms * 1000000) ∨ (g.ms = msOf (tms * 1000000) ∧ g.hi ≤ tlog) := by
    intro g hg
    rw [msOf_mul]
    have := hm.e hlease p hp g hg; omega
  split
  · next hns =>
    have hmono := h.le_save_of_needSave hc hp hns
    refine ⟨saveThen_storedLe hmono fun _ => rfl, fun hpend hf => inv_saveThen h hmono (fun _ hx => hx)
      (fun _ _ => memOk_published rfl rfl hpend hm.l1 (Nat.add_lt_add_left hc.save_gt _) ⟨_, rfl, Nat.le_refl _⟩
        (fun _ _ => rfl) fun _ => hE) fun st' _ hst => ?_⟩
    -- an applied save reported as failed would leave the cached bound stale: excluded by hypothesis
    rcases hst with rfl | hst
    · exact h
    · exact absurd hst.2 hf
  · next hns =>
    obtain ⟨l, hl, hlt⟩ := needSave_false (Bool.eq_false_iff.2 hns)
    exact ⟨storedLe_of_eq rfl, fun hpend _ => inv_setMem h id (memOk_published rfl hl hpend hm.l1 hlt (hm.b l hl)
      (fun hl' h0 => (hm.c hl' h0 (.inl (by rw [hp]; nofun))).symm.trans hl) fun _ => hE)⟩

/-- every operation but the fault pattern the full theorems exclude: a SetTSO whose window save reports an error
    although it was applied (see `stored_window_counterexample_errAfter` in Props/C02) -/
def Op.faithful : Op → Prop
  | .setTS _ _ _ _ f => f ≠ .errAfter
  | _ => True

instance : DecidablePred Op.faithful := fun op => by
  cases op <;> unfold Op.faithful <;> infer_instance

/-- What every step satisfies: it is a successful timestamp request or quiet; from a state satisfying the invariant it
    keeps the stored window monotone and, if faithful, the invariant. -/
structure StepOk (s : St) (op : Op) (r : St × Out) : Prop where
  obs  : Quiet s r ∨ ∃ m count p l, (op = .getTS m count ∨ op = .tryTS m count) ∧ r = granted s m l count p
  next : Inv s → CfgOk s.cfg → storedLe s r.1 ∧ (op.faithful → Inv r.1)

namespace StepOk
variable {s : St} {op : Op} {r : St × Out}

theorem writes (hq : Quiet s r) (hn : Inv s → CfgOk s.cfg → storedLe s r.1 ∧ Inv r.1) : StepOk s op r :=
  ⟨.inl hq, fun h hc => (hn h hc).imp_right fun h' _ => h'⟩

theorem keep (hq : Quiet s r) (e : r.1.stored = s.stored) (hi : Inv s → CfgOk s.cfg → Inv r.1) : StepOk s op r :=
  writes hq fun h hc => ⟨storedLe_of_eq e, hi h hc⟩

theorem refuse {o : Out} (ho : o.isTs = false) : StepOk s op (s, o) := keep ⟨rfl, rfl, ho⟩ rfl fun h _ => h

theorem loop {m count : Nat} (fuel : Nat) (hop : op = .getTS m count ∨ op = .tryTS m count) (hc0 : count ≠ 0) :
    StepOk s op (getTSLoop s m count fuel) := by
  obtain ⟨l, hl, ⟨o, ho, e⟩ | ⟨p, hlease, hp, hov, e⟩⟩ := getTSLoop_cases s m count fuel <;> rw [e]
  · exact keep ⟨rfl, rfl, ho⟩ rfl fun h _ => inv_bumpLogical h hl
  · exact ⟨.inr ⟨m, count, p, l, hop, rfl⟩, fun h _ =>
      ⟨storedLe_of_eq rfl, fun _ => inv_grant h (Nat.pos_of_ne_zero hc0) hlease hp hl hov⟩⟩

end StepOk

theorem step_ok (s : St) (op : Op) : StepOk s op (step s op) := by
  cases op with
  | lead m =>
    simp only [step]
    split
    · exact .refuse rfl
    · next hm0 => exact .keep ⟨rfl, rfl, rfl⟩ rfl fun h _ => inv_lead h hm0
  | expire m => exact .keep ⟨rfl, rfl, rfl⟩ rfl fun h _ => inv_setMem h nofun (h.mem m).ok.unlease
  | resign => exact .keep ⟨rfl, rfl, rfl⟩ rfl fun h _ => inv_resign h
  | dropKey => exact .keep ⟨rfl, rfl, rfl⟩ rfl fun h _ => inv_dropKey h
  | extWin v => exact .keep ⟨rfl, rfl, rfl⟩ rfl fun h _ => inv_ext h
  | getTS m count =>
    simp only [step, getTS]
    split
    · exact .refuse rfl
    split
    · exact .refuse rfl
    · next hc0 => exact .loop _ (.inl rfl) hc0
  | tryTS m count =>
    simp only [step]
    split
    · exact .refuse rfl
    · next hc0 => exact .loop 1 (.inr rfl) hc0
  | update m now f =>
    simp only [step]
    split
    · exact .refuse rfl
    split
    · exact .refuse rfl
    split
    · exact .refuse rfl
    split
    · exact .refuse rfl
    · next next save hd =>
      exact .writes (updFinish_quiet ..) fun h hc => updFinish_storedLe_inv h hc (updOk_of_decide h hc hd)
  | gupdate m now =>
    simp only [step]
    split
    · exact .refuse rfl
    split
    · exact .refuse rfl
    split
    · exact .refuse rfl
    split
    · exact .refuse rfl
    · next next hd =>
      exact .writes (updFinish_quiet ..) fun h hc => updFinish_storedLe_inv h hc (updOk_of_decide h hc hd)
    · next next sv hd =>
      refine .keep ⟨rfl, rfl, rfl⟩ rfl fun h hc => ?_
      have hu := updOk_of_decide h hc hd
      exact inv_setMem h id { (h.mem m).ok with
        c := fun hl h0 _ => hu.u5 hl h0
        d := fun _ _ _ _ => nofun
        p1 := fun _ _ hp => by cases hp; exact ⟨nofun, hu.u2, hu.u3, hu.u4⟩ }
  | sync m now f =>
    simp only [step]
    split
    · exact .refuse rfl
    · exact .writes (syncFinish_quiet ..) fun h hc =>
        syncFinish_storedLe_inv h hc fun _ _ => coversStored_optMax _ _
  | gsync m now =>
    simp only [step]
    split
    · exact .refuse rfl
    · exact .keep ⟨rfl, rfl, rfl⟩ rfl fun h _ => inv_setMem h id { (h.mem m).ok with
        c := fun hl h0 hcnd => hcnd.elim (fun hph => (h.mem m).c hl h0 (.inl hph)) fun ⟨_, _, hp⟩ => nomatch hp
        d := fun _ _ _ _ hp => by cases hp; exact coversStored_optMax _ _
        p1 := fun _ _ => nofun }
  | finish m f =>
    simp only [step]
    split
    · exact .refuse rfl
    · next next save hp =>
      exact .writes (updFinish_quiet ..) fun h hc => updFinish_storedLe_inv h hc (updOk_of_pend h hp)
    · next last now hp =>
      exact .writes (syncFinish_quiet ..) fun h hc =>
        syncFinish_storedLe_inv h hc fun hl h0 => (h.mem m).d hl h0 last now hp
  | setTS m ms logical ig f =>
    simp only [step]
    split
    · exact .refuse rfl
    · next hp =>
      exact ⟨.inl (resetUser_quiet ..), fun h hc =>
        (resetUser_storedLe_inv h hc).imp_right fun h' => h' (Option.not_isSome_iff_eq_none.1 hp)⟩
  | resetMem m =>
    exact .keep ⟨rfl, rfl, rfl⟩ rfl fun h _ => inv_setMem h id { (h.mem m).ok with
      a := nofun
      c := fun hl h0 hcnd => hcnd.elim (fun hph => absurd rfl hph) fun hp => (h.mem m).c hl h0 (.inr hp)
      p1 := fun next sv hp => let ⟨q1, q2, _, q4⟩ := (h.mem m).p1 next sv hp; ⟨q1, q2, nofun, q4⟩
      e := fun _ => nofun }

theorem step_cfg (s : St) (op : Op) : (step s op).1.cfg = s.cfg := by
  rcases (step_ok s op).obs with h | ⟨_, _, _, _, _, h⟩
  · exact h.cfg
  · rw [h]; rfl

theorem inv_step {s : St} (h : Inv s) (hc : CfgOk s.cfg) {op : Op} (hf : op.faithful) : Inv (step s op).1 :=
  ((step_ok s op).next h hc).2 hf

theorem inv_run_from (s : St) (h : Inv s) (hc : CfgOk s.cfg) (ops : List Op) (hf : ∀ op ∈ ops, op.faithful) :
    Inv (run s ops) ∧ (run s ops).cfg = s.cfg :=
  foldl_inv (fun t => Inv t ∧ t.cfg = s.cfg) _ ops s ⟨h, rfl⟩ fun t op hop ⟨ht, e⟩ =>
    ⟨inv_step ht (e ▸ hc) (hf op hop), (step_cfg t op).trans e⟩

theorem inv_run (c : Cfg) (hc : CfgOk c) (ops : List Op) (hf : ∀ op ∈ ops, op.faithful) :
    Inv (run (init c) ops) ∧ (run (init c) ops).cfg = c :=
  inv_run_from (init c) (inv_init c) hc ops hf

end PdModel.Tso
