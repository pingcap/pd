import PdModel.Model.Steps
import PdModel.Prelude.ListFacts
/-!
C08 – "Generated operator steps are safe and reach the requested placement".

`SafePlan origin target steps`: execute the steps in order on the region (`Steps.apply` = what a
faithful store does); before every step
  * the step's own precondition (`CheckSafety`) holds,
  * the step does not remove or demote the peer that is leader at that moment, and a joint
    transition is only left while the leader is a voter that is not being demoted,
  * leadership is only transferred to an existing peer that is a voter and not being demoted,
and after every step
  * no store holds two peers,
  * the number of voters is at least min(voters of the origin, voters of the target)
    (inside a joint state both the outgoing and the incoming configuration are counted);
after the last step the peers and roles are exactly the requested ones, the leader is a voter (not
being demoted) and is the requested leader if one was requested.
-/
namespace PdModel.Spec.C08
open PdModel.Steps

/-- the requested placement: store ↦ role (voter / learner) and the requested leader store (0 = none) -/
structure Target where
  peers  : List (Nat × Role)
  leader : Nat
  deriving Repr, DecidableEq

/-- voters of the outgoing configuration -/
def oldVoters (r : Region) : Nat := r.peers.countP (fun p => p.role == .voter || p.role == .demoting)
/-- voters of the incoming configuration -/
def newVoters (r : Region) : Nat := r.peers.countP (fun p => p.role == .voter || p.role == .incoming)
def voterCount (r : Region) : Nat := min (oldVoters r) (newVoters r)
def targetVoters (t : Target) : Nat := t.peers.countP (fun x => x.2 != .learner)
def minVoters (o : Region) (t : Target) : Nat := min (voterCount o) (targetVoters t)

def onePerStore (r : Region) : Prop := (r.peers.map (·.store)).Nodup

instance (r : Region) : Decidable (onePerStore r) := by unfold onePerStore; infer_instance

/-- the peer on store `s` exists, is a voter of the incoming configuration and is not being demoted -/
def isFullVoter (r : Region) (s : Nat) : Bool :=
  match storePeer r s with
  | some p => p.role == .voter || p.role == .incoming
  | none => false

/-- the step does not remove / demote the current leader; leaving needs a non-demoting voter as leader -/
def leaderKept (r : Region) : Step → Bool
  | .removePeer s _ => s != r.leader
  | .demoteFollower s _ => s != r.leader
  | .leave _ _ => isFullVoter r r.leader
  | _ => true

def transferOk (r : Region) : Step → Bool
  | .transferLeader _ to => isFullVoter r to
  | _ => true

/-- a region state the property speaks about: one peer per store, no store id 0, the leader is one of
    the peers and is not a learner -/
def WellFormed (r : Region) : Prop :=
  onePerStore r ∧ (∀ p ∈ r.peers, p.store ≠ 0) ∧ ∃ p, storePeer r r.leader = some p ∧ p.role ≠ .learner

def wellFormed (r : Region) : Bool :=
  decide (onePerStore r) && r.peers.all (fun p => p.store != 0) &&
  (match storePeer r r.leader with | some p => p.role != .learner | none => false)

theorem wellFormed_iff (r : Region) : wellFormed r = true ↔ WellFormed r := by
  unfold wellFormed WellFormed
  cases storePeer r r.leader <;> simp [and_assoc]

structure StepOk (m : Nat) (r : Region) (s : Step) : Prop where
  precondition : checkSafety r s = true
  leader       : leaderKept r s = true
  transfer     : transferOk r s = true
  oneEach      : onePerStore (apply r s)
  voters       : m ≤ voterCount (apply r s)

/-- every step is fine in the state the previous steps produced -/
def StepsSafe (m : Nat) : Region → List Step → Prop
  | _, [] => True
  | r, s :: rest => StepOk m r s ∧ StepsSafe m (apply r s) rest

structure Final (t : Target) (r : Region) : Prop where
  peersRequested : ∀ p ∈ r.peers, (p.store, p.role) ∈ t.peers
  requestedPresent : ∀ x ∈ t.peers, ∃ p ∈ r.peers, p.store = x.1 ∧ p.role = x.2
  oneEach : onePerStore r
  leaderIsVoter : isFullVoter r r.leader = true
  leaderRequested : t.leader = 0 ∨ r.leader = t.leader

/-- **the property** -/
def SafePlan (origin : Region) (t : Target) (steps : List Step) : Prop :=
  StepsSafe (minVoters origin t) origin steps ∧ Final t (run origin steps)

inductive Violation where
  | precondition | leaderTouched | badTransfer | twoPeers | votersBelowMin
  | finalPeers | finalLeader
  deriving Repr, DecidableEq

def Violation.name : Violation → String
  | .precondition => "step-precondition-fails"
  | .leaderTouched => "leader-removed-or-demoted"
  | .badTransfer => "transfer-to-non-voter"
  | .twoPeers => "two-peers-on-one-store"
  | .votersBelowMin => "voters-below-min"
  | .finalPeers => "final-peers-differ"
  | .finalLeader => "final-leader-differs"

def stepViolation (m : Nat) (r : Region) (s : Step) : Option Violation :=
  if !checkSafety r s then some .precondition
  else if !leaderKept r s then some .leaderTouched
  else if !transferOk r s then some .badTransfer
  else if !decide (onePerStore (apply r s)) then some .twoPeers
  else if voterCount (apply r s) < m then some .votersBelowMin
  else none

theorem stepViolation_none (m : Nat) (r : Region) (s : Step) :
    stepViolation m r s = none ↔ StepOk m r s := by
  unfold stepViolation
  simp only [ite_some_eq_none, Bool.not_eq_true', Bool.not_eq_false, decide_eq_false_iff_not,
    Classical.not_not, Nat.not_lt, and_true]
  constructor
  · rintro ⟨a, b, c, d, e⟩
    exact ⟨a, b, c, d, e⟩
  · exact fun h => ⟨h.1, h.2, h.3, h.4, h.5⟩

def finalPeersOk (t : Target) (r : Region) : Bool :=
  r.peers.all (fun p => t.peers.contains (p.store, p.role)) &&
  t.peers.all (fun x => r.peers.any (fun p => p.store == x.1 && p.role == x.2)) &&
  decide (onePerStore r)

def finalLeaderOk (t : Target) (r : Region) : Bool :=
  isFullVoter r r.leader && (t.leader == 0 || r.leader == t.leader)

def finalViolation (t : Target) (r : Region) : Option Violation :=
  if !finalPeersOk t r then some .finalPeers
  else if !finalLeaderOk t r then some .finalLeader
  else none

theorem finalPeersOk_iff (t : Target) (r : Region) : finalPeersOk t r = true ↔
    (∀ p ∈ r.peers, (p.store, p.role) ∈ t.peers) ∧
    (∀ x ∈ t.peers, ∃ p ∈ r.peers, p.store = x.1 ∧ p.role = x.2) ∧ onePerStore r := by
  simp only [finalPeersOk, Bool.and_eq_true, List.all_eq_true, List.contains_iff_mem,
    List.any_eq_true, beq_iff_eq, decide_eq_true_eq, and_assoc]

theorem finalViolation_none (t : Target) (r : Region) : finalViolation t r = none ↔ Final t r := by
  unfold finalViolation
  simp only [ite_some_eq_none, Bool.not_eq_true', Bool.not_eq_false, and_true, finalPeersOk_iff, finalLeaderOk,
    Bool.and_eq_true, Bool.or_eq_true, beq_iff_eq]
  constructor
  · rintro ⟨⟨a, b, c⟩, d, e⟩
    exact ⟨a, b, c, d, e⟩
  · exact fun h => ⟨⟨h.1, h.2, h.3⟩, h.4, h.5⟩

/-- index of the first offending step (or `steps.length` for the final state) and what is wrong -/
def firstViolationFrom (m : Nat) (t : Target) : Nat → Region → List Step → Option (Nat × Violation)
  | i, r, [] => (finalViolation t r).map (fun v => (i, v))
  | i, r, s :: rest =>
    match stepViolation m r s with
    | some v => some (i, v)
    | none => firstViolationFrom m t (i + 1) (apply r s) rest

def firstViolation (origin : Region) (t : Target) (steps : List Step) : Option (Nat × Violation) :=
  firstViolationFrom (minVoters origin t) t 0 origin steps

def checkSafePlan (origin : Region) (t : Target) (steps : List Step) : Bool :=
  (firstViolation origin t steps).isNone

theorem firstViolationFrom_none (m : Nat) (t : Target) (i : Nat) (r : Region) (steps : List Step) :
    firstViolationFrom m t i r steps = none ↔ StepsSafe m r steps ∧ Final t (run r steps) := by
  induction steps generalizing i r with
  | nil => simp [firstViolationFrom, StepsSafe, run, finalViolation_none]
  | cons s rest ih =>
    simp only [firstViolationFrom, StepsSafe, run, List.foldl_cons]
    cases hv : stepViolation m r s with
    | some v =>
      have : ¬ StepOk m r s := fun h => by rw [(stepViolation_none m r s).2 h] at hv; cases hv
      simp [this]
    | none =>
      have := (stepViolation_none m r s).1 hv
      simp only [this, true_and]
      exact ih (i + 1) (apply r s)

theorem checkSafePlan_iff (origin : Region) (t : Target) (steps : List Step) :
    checkSafePlan origin t steps = true ↔ SafePlan origin t steps := by
  unfold checkSafePlan firstViolation SafePlan
  rw [Option.isNone_iff_eq_none]
  exact firstViolationFrom_none _ _ _ _ _

theorem stepsSafe_append (m : Nat) (r : Region) (a b : List Step) :
    StepsSafe m r (a ++ b) ↔ StepsSafe m r a ∧ StepsSafe m (run r a) b := by
  induction a generalizing r with
  | nil => simp [StepsSafe, run]
  | cons s rest ih => simp only [List.cons_append, StepsSafe, run, List.foldl_cons, ih, and_assoc]

end PdModel.Spec.C08
