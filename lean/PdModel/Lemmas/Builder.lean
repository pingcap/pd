import PdModel.Model.Builder
import PdModel.Spec.C08
import PdModel.Prelude.ListFacts
/-! Lemmas for C08: peersMap facts, counting voters, what the single steps do and when their
    `CheckSafety` holds, batches of adds and removes, and the builder states the theorems speak about. -/
namespace PdModel.Builder
open PdModel.Steps PdModel.Spec PdModel.Spec.C08

theorem foldl_keep {α β : Type} (l : List α) (init : β) : l.foldl (fun b _ => b) init = init := by
  induction l with
  | nil => rfl
  | cons _ _ ih => exact ih

theorem find?_congr' {α : Type} {p q : α → Bool} {l : List α} (h : ∀ a ∈ l, p a = q a) :
    l.find? p = l.find? q := by
  induction l with
  | nil => rfl
  | cons a rest ih =>
    simp only [List.find?_cons, h a (List.mem_cons_self ..)]
    rw [ih (fun b hb => h b (List.mem_cons_of_mem _ hb))]

theorem filterMap_eq_self {α : Type} {f : α → Option α} {l : List α} (h : ∀ a ∈ l, f a = some a) :
    l.filterMap f = l := by
  induction l with
  | nil => rfl
  | cons a rest ih =>
    rw [List.filterMap_cons, h a (List.mem_cons_self ..), ih fun b hb => h b (List.mem_cons_of_mem _ hb)]

theorem eq_of_mem_map {α β : Type} {f : α → β} {l : List α} (hn : (l.map f).Nodup) {a c : α}
    (ha : a ∈ l) (hc : c ∈ l) (e : f a = f c) : a = c := by
  induction l with
  | nil => cases ha
  | cons y ys ih =>
    simp only [List.map_cons, List.nodup_cons] at hn
    rcases List.mem_cons.1 ha with rfl | ha' <;> rcases List.mem_cons.1 hc with rfl | hc'
    · rfl
    · exact absurd (List.mem_map.2 ⟨c, hc', e.symm⟩) hn.1
    · exact absurd (List.mem_map.2 ⟨a, ha', e⟩) hn.1
    · exact ih hn.2 ha' hc'

theorem ok_of_guard {ε α : Type} {c : Prop} [Decidable c] {e : ε} {x : Except ε α} {b : α}
    (h : (if c then .error e else x) = .ok b) : ¬ c ∧ x = .ok b := by
  split at h
  · cases h
  · exact ⟨‹_›, h⟩

def stores (l : List Peer) : List Nat := l.map (·.store)

theorem mem_stores {l : List Peer} {s : Nat} : s ∈ stores l ↔ ∃ p ∈ l, p.store = s := by
  simp [stores]

theorem pmGet_some {l : List Peer} {s : Nat} {p : Peer} (h : pmGet l s = some p) :
    p ∈ l ∧ p.store = s := by
  unfold pmGet at h
  exact ⟨List.mem_of_find?_eq_some h, by simpa using List.find?_some h⟩

theorem pmGet_none {l : List Peer} {s : Nat} : pmGet l s = none ↔ s ∉ stores l := by
  unfold pmGet
  simp only [List.find?_eq_none, beq_iff_eq, mem_stores, not_exists, not_and]

theorem pmGet_of_mem {l : List Peer} {p : Peer} (hn : (stores l).Nodup) (hp : p ∈ l) :
    pmGet l p.store = some p := by
  cases hg : pmGet l p.store with
  | none => exact absurd (mem_stores.2 ⟨p, hp, rfl⟩) (pmGet_none.1 hg)
  | some q => rw [eq_of_mem_map hn (pmGet_some hg).1 hp (pmGet_some hg).2]

theorem eq_of_mem_store {l : List Peer} (hn : (stores l).Nodup) {p q : Peer} (hp : p ∈ l) (hq : q ∈ l)
    (e : p.store = q.store) : p = q :=
  eq_of_mem_map hn hp hq e

theorem pmHas_iff {l : List Peer} {s : Nat} : pmHas l s = true ↔ s ∈ stores l := by
  simp [pmHas, mem_stores]

theorem pmHas_false {l : List Peer} {s : Nat} : pmHas l s = false ↔ s ∉ stores l := by
  rw [← pmHas_iff]; simp

theorem pmSet_fresh {l : List Peer} {p : Peer} (h : p.store ∉ stores l) : pmSet l p = l ++ [p] := by
  unfold pmSet
  simp [pmHas_false.2 h]

theorem foldl_pmSet_fresh (l xs : List Peer) (hf : ∀ x ∈ xs, x.store ∉ stores l)
    (hn : (stores xs).Nodup) : xs.foldl pmSet l = l ++ xs := by
  induction xs generalizing l with
  | nil => simp
  | cons x rest ih =>
    simp only [stores, List.map_cons, List.nodup_cons] at hn
    simp only [List.foldl_cons]
    rw [pmSet_fresh (hf x (List.mem_cons_self ..))]
    rw [ih (l ++ [x]) ?_ hn.2]
    · simp
    · intro y hy
      simp only [stores, List.map_append, List.map_cons, List.map_nil, List.mem_append,
        List.mem_singleton, not_or]
      refine ⟨hf y (List.mem_cons_of_mem _ hy), ?_⟩
      intro e
      exact hn.1 (e ▸ List.mem_map.2 ⟨y, hy, rfl⟩)

theorem mem_pmSet {m : List Peer} {p q : Peer} (h : q ∈ pmSet m p) : q = p ∨ q ∈ m := by
  unfold pmSet at h
  split at h
  · obtain ⟨x, hx, e⟩ := List.mem_map.1 h
    split at e
    · left; exact e.symm
    · right; exact e ▸ hx
  · rcases List.mem_append.1 h with h | h
    · right; exact h
    · left; simpa using h

theorem stores_pmSet_of_has {m : List Peer} {p : Peer} (h : pmHas m p.store = true) :
    stores (pmSet m p) = stores m := by
  unfold pmSet
  simp only [h, if_true, stores, List.map_map]
  apply List.map_congr_left
  intro x _
  simp only [Function.comp]
  split
  · next e => simp at e; exact e.symm
  · rfl

theorem nodup_stores_snoc {l : List Peer} {p : Peer} (hn : (stores l).Nodup) (hf : p.store ∉ stores l) :
    (stores (l ++ [p])).Nodup := by
  simp only [stores, List.map_append, List.map_cons, List.map_nil]
  refine List.nodup_append.2 ⟨hn, by simp, fun x hx y hy e => hf ?_⟩
  rw [← List.mem_singleton.1 hy, ← e]; exact hx

theorem nodup_stores_filter {l : List Peer} (keep : Peer → Bool) (hn : (stores l).Nodup) :
    (stores (l.filter keep)).Nodup :=
  List.Nodup.sublist (List.Sublist.map _ List.filter_sublist) hn

theorem nodup_pmSet {m : List Peer} {p : Peer} (hn : (stores m).Nodup) : (stores (pmSet m p)).Nodup := by
  cases h : pmHas m p.store
  · rw [pmSet_fresh (pmHas_false.1 h)]; exact nodup_stores_snoc hn (pmHas_false.1 h)
  · rw [stores_pmSet_of_has h]; exact hn

theorem nodup_foldl_pmSet (m xs : List Peer) (hn : (stores m).Nodup) : (stores (xs.foldl pmSet m)).Nodup := by
  induction xs generalizing m with
  | nil => exact hn
  | cons x rest ih => exact ih _ (nodup_pmSet hn)

theorem mem_foldl_pmSet {m xs : List Peer} {q : Peer} (h : q ∈ xs.foldl pmSet m) : q ∈ m ∨ q ∈ xs := by
  induction xs generalizing m with
  | nil => left; exact h
  | cons x rest ih =>
    rcases ih h with h1 | h1
    · rcases mem_pmSet h1 with e | e
      · right; exact e ▸ List.mem_cons_self ..
      · left; exact e
    · right; exact List.mem_cons_of_mem _ h1

theorem pmGet_iff {l : List Peer} (hn : (stores l).Nodup) {s : Nat} {p : Peer} :
    pmGet l s = some p ↔ p ∈ l ∧ p.store = s := by
  constructor
  · exact pmGet_some
  · rintro ⟨hp, rfl⟩; exact pmGet_of_mem hn hp

theorem pmGet_map {f : Peer → Peer} (hf : ∀ p, (f p).store = p.store) (l : List Peer) (s : Nat) :
    pmGet (l.map f) s = (pmGet l s).map f := by
  unfold pmGet
  rw [List.find?_map]
  congr 1
  simp only [Function.comp_def, hf]

theorem stores_map {f : Peer → Peer} (hf : ∀ p, (f p).store = p.store) (l : List Peer) :
    stores (l.map f) = stores l := by
  simp [stores, List.map_map, Function.comp_def, hf]

theorem stores_filterMap_nodup (l : List Peer) (f : Peer → Option Peer)
    (hf : ∀ o n, f o = some n → n.store = o.store) (hn : (stores l).Nodup) :
    (stores (l.filterMap f)).Nodup := by
  induction l with
  | nil => simp [stores]
  | cons o rest ih =>
    simp only [stores, List.map_cons, List.nodup_cons] at hn
    simp only [List.filterMap_cons]
    cases hfo : f o with
    | none => exact ih hn.2
    | some n =>
      simp only [stores, List.map_cons, List.nodup_cons]
      refine ⟨?_, ih hn.2⟩
      intro hm
      obtain ⟨x, hx, e⟩ := List.mem_map.1 hm
      obtain ⟨y, hy, hfy⟩ := List.mem_filterMap.1 hx
      apply hn.1
      rw [← hf o n hfo, ← e, hf y x hfy]
      exact List.mem_map.2 ⟨y, hy, rfl⟩

theorem map_eq_mem {α β : Type} (f : α → β) (l l' : List α) (h : l'.map f = l.map f) :
    (∀ a ∈ l', ∃ n ∈ l, f n = f a) ∧ (∀ n ∈ l, ∃ a ∈ l', f a = f n) := by
  constructor
  · intro a ha
    have : f a ∈ l.map f := h ▸ List.mem_map.2 ⟨a, ha, rfl⟩
    obtain ⟨n, hn, e⟩ := List.mem_map.1 this
    exact ⟨n, hn, e⟩
  · intro n hn
    have : f n ∈ l'.map f := h ▸ List.mem_map.2 ⟨n, hn, rfl⟩
    obtain ⟨a, ha, e⟩ := List.mem_map.1 this
    exact ⟨a, ha, e⟩

theorem insertSorted_perm (x : Nat) (l : List Nat) : (insertSorted x l).Perm (x :: l) := by
  induction l with
  | nil => exact .refl _
  | cons y ys ih =>
    simp only [insertSorted]
    split
    · exact .refl _
    · exact (ih.cons y).trans (.swap x y ys)

theorem sortIds_perm (l : List Nat) : (sortIds l).Perm l := by
  induction l with
  | nil => exact .refl _
  | cons y ys ih => exact (insertSorted_perm y _).trans (ih.cons y)

theorem mem_sortIds {y : Nat} {l : List Nat} : y ∈ sortIds l ↔ y ∈ l := (sortIds_perm l).mem_iff

theorem nodup_sortIds {l : List Nat} (hn : l.Nodup) : (sortIds l).Nodup := (sortIds_perm l).nodup_iff.2 hn

theorem stores_filterMap_pmGet (l : List Peer) (ids : List Nat) (h : ∀ i ∈ ids, i ∈ stores l) :
    stores (ids.filterMap (pmGet l)) = ids := by
  induction ids with
  | nil => simp [stores]
  | cons i rest ih =>
    have hi := h i (List.mem_cons_self ..)
    cases hg : pmGet l i with
    | none => exact absurd hi (pmGet_none.1 hg)
    | some p =>
      simp only [List.filterMap_cons, hg, stores, List.map_cons]
      have := ih (fun j hj => h j (List.mem_cons_of_mem _ hj))
      simp only [stores] at this
      rw [this, (pmGet_some hg).2]

theorem stores_pmSorted (l : List Peer) : stores (pmSorted l) = sortIds (stores l) := by
  unfold pmSorted pmIds
  exact stores_filterMap_pmGet l _ (fun i hi => by rw [← stores] at hi; exact mem_sortIds.1 hi)

theorem nodup_pmSorted {l : List Peer} (hn : (stores l).Nodup) : (stores (pmSorted l)).Nodup := by
  rw [stores_pmSorted]; exact nodup_sortIds hn

theorem mem_pmSorted_mem {l : List Peer} {p : Peer} (h : p ∈ pmSorted l) : p ∈ l := by
  unfold pmSorted at h
  obtain ⟨i, _, hi⟩ := List.mem_filterMap.1 h
  exact (pmGet_some hi).1

theorem mem_pmSorted {l : List Peer} {p : Peer} (hn : (stores l).Nodup) : p ∈ pmSorted l ↔ p ∈ l := by
  refine ⟨mem_pmSorted_mem, fun h => ?_⟩
  unfold pmSorted
  refine List.mem_filterMap.2 ⟨p.store, ?_, pmGet_of_mem hn h⟩
  unfold pmIds
  exact mem_sortIds.2 (List.mem_map.2 ⟨p, h, rfl⟩)

theorem mem_pmIds {l : List Peer} {i : Nat} : i ∈ pmIds l ↔ i ∈ stores l := by
  unfold pmIds; exact mem_sortIds

theorem pmSorted_nil : pmSorted [] = [] := rfl

theorem pmSorted_single (x : Peer) : pmSorted [x] = [x] := by
  simp [pmSorted, pmIds, sortIds, insertSorted, pmGet]

theorem length_pmSorted (l : List Peer) : (pmSorted l).length = l.length := by
  have : (stores (pmSorted l)).length = (sortIds (stores l)).length := by rw [stores_pmSorted]
  simpa [stores, (sortIds_perm _).length_eq] using this

theorem storePeer_eq_pmGet (r : Region) (s : Nat) : storePeer r s = pmGet r.peers s := rfl

def plainRoles (l : List Peer) : Prop := ∀ p ∈ l, p.role = .voter ∨ p.role = .learner

def votersOf (l : List Peer) : Nat := l.countP (fun p => p.role == .voter)

def asLearner (p : Peer) : Peer := ⟨p.store, p.id, .learner⟩

theorem plain_counts {l : List Peer} (h : plainRoles l) (x : Nat) :
    oldVoters ⟨l, x⟩ = votersOf l ∧ newVoters ⟨l, x⟩ = votersOf l ∧ countJoint ⟨l, x⟩ = 0 := by
  refine ⟨?_, ?_, ?_⟩
  · exact List.countP_congr (fun p hp => by rcases h p hp with e | e <;> simp [e])
  · exact List.countP_congr (fun p hp => by rcases h p hp with e | e <;> simp [e])
  · simp only [countJoint, List.countP_eq_zero]
    intro p hp; rcases h p hp with e | e <;> simp [e, isJointRole]

theorem plain_voterCount {l : List Peer} (h : plainRoles l) (x : Nat) :
    voterCount ⟨l, x⟩ = votersOf l := by
  obtain ⟨a, b, _⟩ := plain_counts h x
  simp [voterCount, a, b]

theorem onePerStore_iff (r : Region) : onePerStore r ↔ (stores r.peers).Nodup := Iff.rfl

theorem votersOf_append (l l' : List Peer) : votersOf (l ++ l') = votersOf l + votersOf l' := by
  simp [votersOf, List.countP_append]

theorem countP_le_of_stores {l l' : List Peer} {p q : Peer → Bool} (hn : (stores l).Nodup)
    (h : ∀ a ∈ l, p a = true → ∃ b ∈ l', b.store = a.store ∧ q b = true) :
    l.countP p ≤ l'.countP q := by
  simp only [List.countP_eq_length_filter]
  have e : ∀ k : List Peer, k.length = (stores k).length := fun k => by simp [stores]
  rw [e, e]
  apply List.Nodup.length_le_of_subset (nodup_stores_filter _ hn)
  intro s hs
  obtain ⟨a, ha, rfl⟩ := mem_stores.1 hs
  obtain ⟨ha1, ha2⟩ := List.mem_filter.1 ha
  obtain ⟨b, hb, e1, e2⟩ := h a ha1 ha2
  exact mem_stores.2 ⟨b, List.mem_filter.2 ⟨hb, e2⟩, e1⟩

theorem setRole_fresh {l : List Peer} {s : Nat} (role : Role) (h : s ∉ stores l) : setRole l s role = l := by
  unfold setRole
  conv => rhs; rw [← List.map_id l]
  apply List.map_congr_left
  intro p hp
  have : p.store ≠ s := fun e => h (mem_stores.2 ⟨p, hp, e⟩)
  simp [this]

theorem stores_setRole (l : List Peer) (s : Nat) (role : Role) : stores (setRole l s role) = stores l := by
  unfold setRole
  apply stores_map
  intro p; split <;> rfl

theorem mem_setRole {l : List Peer} {s : Nat} {role : Role} {q : Peer} (h : q ∈ setRole l s role) :
    ∃ p ∈ l, q = (if p.store == s then { p with role := role } else p) := by
  unfold setRole at h
  obtain ⟨p, hp, e⟩ := List.mem_map.1 h
  exact ⟨p, hp, e.symm⟩

theorem pmSet_eq_setRole {l : List Peer} (hn : (stores l).Nodup) {p n : Peer} (hp : p ∈ l)
    (hs : n.store = p.store) (hid : n.id = p.id) : pmSet l n = setRole l n.store n.role := by
  have hhas : pmHas l n.store = true := pmHas_iff.2 (mem_stores.2 ⟨p, hp, hs.symm⟩)
  unfold pmSet setRole
  simp only [hhas, if_true]
  apply List.map_congr_left
  intro q hq
  by_cases e : q.store = n.store
  · cases eq_of_mem_store hn hq hp (e.trans hs)
    simp only [e, beq_self_eq_true, if_true]
    rw [← hid]
  · have : (q.store == n.store) = false := by simpa using e
    simp [this]

theorem votersOf_setRole_voter (l : List Peer) (s : Nat) : votersOf l ≤ votersOf (setRole l s .voter) := by
  unfold votersOf setRole
  rw [List.countP_map]
  apply List.countP_mono_left
  intro p _ hp
  simp only [Function.comp]
  split <;> simp_all

/-- changing or dropping the peer of one store costs at most one voter -/
theorem votersOf_le_succ (l : List Peer) (s : Nat) (f : Peer → Option Peer)
    (hf : ∀ p, p.store ≠ s → f p = some p) (hn : (stores l).Nodup) :
    votersOf l ≤ votersOf (l.filterMap f) + 1 := by
  induction l with
  | nil => exact Nat.zero_le _
  | cons p rest ih =>
    simp only [stores, List.map_cons, List.nodup_cons] at hn
    by_cases e : p.store = s
    · have hrest : rest.filterMap f = rest :=
        filterMap_eq_self fun q hq => hf q fun e' => hn.1 (e ▸ e' ▸ List.mem_map.2 ⟨q, hq, rfl⟩)
      rw [List.filterMap_cons]
      cases f p <;> simp only [hrest, votersOf, List.countP_cons] <;> split <;> omega
    · rw [List.filterMap_cons, hf p e]
      have := ih hn.2
      simp only [votersOf, List.countP_cons] at this ⊢
      omega

theorem votersOf_setRole_learner (l : List Peer) (s : Nat) (hn : (stores l).Nodup) :
    votersOf l ≤ votersOf (setRole l s .learner) + 1 := by
  have := votersOf_le_succ l s (fun p => some (if p.store == s then { p with role := Role.learner } else p))
    (fun p e => by rw [if_neg (by simpa using e)]) hn
  rwa [List.filterMap_eq_map'] at this

theorem votersOf_filter_store (l : List Peer) (s : Nat) (hn : (stores l).Nodup) :
    votersOf l ≤ votersOf (l.filter (fun p => p.store != s)) + 1 := by
  have := votersOf_le_succ l s (Option.guard (fun p => p.store != s))
    (fun p e => by simp [Option.guard, e]) hn
  rwa [List.filterMap_eq_filter] at this

theorem run_append (r : Region) (a b : List Step) : run r (a ++ b) = run (run r a) b := by
  simp [run, List.foldl_append]

/-- the batch `ss` is safe from `r` on and takes it to `r'`: how step lists are composed, on regions here
    and on builder states in `SInv` -/
def Leads (m : Nat) (r : Region) (ss : List Step) (r' : Region) : Prop := StepsSafe m r ss ∧ run r ss = r'

theorem Leads.nil {m : Nat} {r : Region} : Leads m r [] r := ⟨trivial, rfl⟩

theorem Leads.step {m : Nat} {r : Region} {s : Step} (h : StepOk m r s) : Leads m r [s] (apply r s) :=
  ⟨⟨h, trivial⟩, rfl⟩

theorem Leads.append {m : Nat} {r r' r'' : Region} {a b : List Step} (ha : Leads m r a r')
    (hb : Leads m r' b r'') : Leads m r (a ++ b) r'' :=
  ⟨(stepsSafe_append m r a b).2 ⟨ha.1, ha.2 ▸ hb.1⟩, by rw [run_append, ha.2, hb.2]⟩

/-- with `m` the minimum of origin and target this is `SafePlan` -/
theorem Leads.final {m : Nat} {r r' : Region} {ss : List Step} {t : Target} (h : Leads m r ss r')
    (hf : Final t r') : StepsSafe m r ss ∧ Final t (run r ss) :=
  ⟨h.1, h.2 ▸ hf⟩

theorem fullVoter_of_mem {r : Region} {p : Peer} (hn : (stores r.peers).Nodup) (hp : p ∈ r.peers)
    (hr : p.role = .voter ∨ p.role = .incoming) : isFullVoter r p.store = true := by
  unfold isFullVoter
  rw [storePeer_eq_pmGet, pmGet_of_mem hn hp]
  rcases hr with h | h <;> simp [h]

theorem fullVoter_of_voter {r : Region} {p : Peer} (hn : (stores r.peers).Nodup) (hp : p ∈ r.peers)
    (hr : p.role = .voter) : isFullVoter r p.store = true :=
  fullVoter_of_mem hn hp (Or.inl hr)

theorem voterCount_leader (l : List Peer) (x y : Nat) : voterCount ⟨l, x⟩ = voterCount ⟨l, y⟩ := rfl

theorem transfer_ok {m : Nat} {r : Region} (f t : Nat) (hfull : isFullVoter r t = true)
    (hn : onePerStore r) (hm : m ≤ voterCount r) : StepOk m r (.transferLeader f t) := by
  refine ⟨?_, rfl, hfull, hn, hm⟩
  unfold isFullVoter at hfull
  simp only [checkSafety]
  split at hfull
  · next p hp =>
    simp only [hp]
    simp only [Bool.or_eq_true, beq_iff_eq] at hfull
    rcases hfull with e | e <;> simp [e]
  · cases hfull

theorem addStep_asLearner (lw : Bool) (p : Peer) :
    addStep lw ⟨p.store, p.id, .learner⟩ = addStep lw p := rfl

theorem apply_addStep (lw : Bool) (a : Peer) (r : Region) :
    apply r (addStep lw a) = ⟨r.peers ++ [asLearner a], r.leader⟩ := by
  unfold addStep; split <;> rfl

theorem transferIf_safe {m : Nat} {r : Region} (t : Nat) (hfull : isFullVoter r t = true)
    (hn : onePerStore r) (hm : m ≤ voterCount r) :
    Leads m r (if r.leader != t then [.transferLeader r.leader t] else []) ⟨r.peers, t⟩ := by
  split
  · exact .step (transfer_ok _ _ hfull hn hm)
  · next e =>
    have : r.leader = t := by simpa using e
    exact this ▸ .nil

theorem voters_append_learner (l : List Peer) (x : Nat) (a : Peer) :
    voterCount ⟨l ++ [asLearner a], x⟩ = voterCount ⟨l, x⟩ := by
  simp [voterCount, oldVoters, newVoters, asLearner, List.countP_append]

theorem addStep_ok {m : Nat} {r : Region} (lw : Bool) {a : Peer} (hn : (stores r.peers).Nodup)
    (ha : a.store ∉ stores r.peers) (hm : m ≤ voterCount r) : StepOk m r (addStep lw a) := by
  have hnone : storePeer r a.store = none := pmGet_none.2 ha
  refine ⟨?_, ?_, ?_, ?_, ?_⟩
  · unfold addStep; split <;> simp [checkSafety, hnone]
  · unfold addStep; split <;> rfl
  · unfold addStep; split <;> rfl
  · rw [apply_addStep]; exact nodup_stores_snoc (p := asLearner a) hn ha
  · rw [apply_addStep, voters_append_learner]; exact hm

theorem adds_safe (m : Nat) (lw : Bool) (A : List Peer) (r : Region)
    (hn : (stores r.peers).Nodup) (hA : (stores A).Nodup)
    (hd : ∀ a ∈ A, a.store ∉ stores r.peers) (hm : m ≤ voterCount r) :
    Leads m r (A.map (addStep lw)) ⟨r.peers ++ A.map asLearner, r.leader⟩ := by
  induction A generalizing r with
  | nil => simpa using Leads.nil
  | cons a rest ih =>
    simp only [stores, List.map_cons, List.nodup_cons] at hA
    have ha := hd a (List.mem_cons_self ..)
    have hd' : ∀ b ∈ rest, b.store ∉ stores (r.peers ++ [asLearner a]) := by
      intro b hb
      simp only [stores, List.map_append, List.map_cons, List.map_nil, List.mem_append,
        List.mem_singleton, not_or]
      exact ⟨hd b (List.mem_cons_of_mem _ hb), fun e => hA.1 (e ▸ List.mem_map.2 ⟨b, hb, rfl⟩)⟩
    refine (Leads.step (addStep_ok lw hn ha hm)).append ?_
    rw [apply_addStep]
    simpa using ih ⟨r.peers ++ [asLearner a], r.leader⟩ (nodup_stores_snoc (p := asLearner a) hn ha) hA.2 hd'
      (by rw [voters_append_learner]; exact hm)

def rmStep (p : Peer) : Step := .removePeer p.store p.id

theorem rmStep_ok {m : Nat} {r : Region} {x : Peer} (hn : (stores r.peers).Nodup) (hplain : plainRoles r.peers)
    (hne : x.store ≠ r.leader) (hm : m ≤ votersOf (r.peers.filter (fun p => p.store != x.store))) :
    StepOk m r (rmStep x) := by
  refine ⟨by simpa [rmStep, checkSafety] using hne, by simpa [rmStep, leaderKept] using hne, rfl,
    nodup_stores_filter _ hn, ?_⟩
  show m ≤ voterCount ⟨r.peers.filter (fun p => p.store != x.store), r.leader⟩
  rw [plain_voterCount fun p hp => hplain p (List.mem_filter.1 hp).1]; exact hm

theorem removes_safe (m : Nat) (R : List Peer) (r : Region)
    (hn : (stores r.peers).Nodup) (hplain : plainRoles r.peers)
    (hR : ∀ x ∈ R, x.store ≠ r.leader ∧ ∀ p ∈ r.peers, p.store = x.store → p.role = .learner)
    (hm : m ≤ votersOf r.peers) :
    Leads m r (R.map rmStep) ⟨r.peers.filter (fun p => !(stores R).contains p.store), r.leader⟩ := by
  induction R generalizing r with
  | nil =>
    obtain ⟨l, x⟩ := r
    have e : l.filter (fun p => !(stores []).contains p.store) = l := List.filter_eq_self.2 fun _ _ => rfl
    exact e.symm ▸ Leads.nil
  | cons x rest ih =>
    obtain ⟨hx1, hx2⟩ := hR x (List.mem_cons_self ..)
    let r' : Region := ⟨r.peers.filter (fun p => p.store != x.store), r.leader⟩
    have hv : votersOf r'.peers = votersOf r.peers := by
      simp only [votersOf, r', List.countP_filter]
      apply List.countP_congr
      intro p hp
      simp only [Bool.and_eq_true, beq_iff_eq, bne_iff_ne, ne_eq]
      constructor
      · exact fun h => h.1
      · intro h
        refine ⟨h, fun e => ?_⟩
        rw [hx2 p hp e] at h; cases h
    have hR' : ∀ y ∈ rest, y.store ≠ r'.leader ∧ ∀ p ∈ r'.peers, p.store = y.store → p.role = .learner := by
      intro y hy
      obtain ⟨a, b⟩ := hR y (List.mem_cons_of_mem _ hy)
      exact ⟨a, fun p hp => b p (List.mem_filter.1 hp).1⟩
    have h := (Leads.step (rmStep_ok hn hplain hx1 (hv ▸ hm))).append
      (ih r' (nodup_stores_filter _ hn) (fun p hp => hplain p (List.mem_filter.1 hp).1) hR' (hv ▸ hm))
    have e : r'.peers.filter (fun p => !(stores rest).contains p.store) =
        r.peers.filter (fun p => !(stores (x :: rest)).contains p.store) := by
      simp only [r', List.filter_filter, stores, List.map_cons]
      apply List.filter_congr
      intro p _
      by_cases e : p.store = x.store <;> simp [e]
    exact e ▸ h

def inItems (l : List Item) (s : Nat) : Bool := l.any (fun it => it.store == s)

theorem inItems_iff {l : List Item} {s : Nat} : inItems l s = true ↔ ∃ it ∈ l, it.store = s := by
  simp [inItems]

def enterF (P D : List Item) (p : Peer) : Peer :=
  if inItems D p.store then { p with role := .demoting }
  else if inItems P p.store then { p with role := .incoming } else p

theorem enterF_store (P D : List Item) (p : Peer) : (enterF P D p).store = p.store := by
  unfold enterF; repeat' split
  all_goals rfl

theorem enterF_id (P D : List Item) (p : Peer) : (enterF P D p).id = p.id := by
  unfold enterF; repeat' split
  all_goals rfl

theorem apply_enter (r : Region) (P D : List Item) :
    apply r (.enter P D) = ⟨r.peers.map (enterF P D), r.leader⟩ := by
  simp only [apply, setRoles, List.map_map]
  congr 1
  apply List.map_congr_left
  intro p _
  simp only [Function.comp, enterF, inItems]
  by_cases hP : (P.any fun it => it.store == p.store) = true <;>
  by_cases hD : (D.any fun it => it.store == p.store) = true <;> simp [hP, hD]

def leaveF (p : Peer) : Peer := { p with role := leaveRole p.role }

theorem apply_leave (r : Region) (P D : List Item) :
    apply r (.leave P D) = ⟨r.peers.map leaveF, r.leader⟩ := rfl

theorem leaveF_store (p : Peer) : (leaveF p).store = p.store := rfl

theorem enterScan_plain (r : Region) (P D : List Item)
    (hP : ∀ it ∈ P, ∃ p, storePeer r it.store = some p ∧ p.id = it.id ∧ p.role = .learner)
    (hD : ∀ it ∈ D, ∃ p, storePeer r it.store = some p ∧ p.id = it.id ∧ p.role = .voter) :
    ∃ n, enterScan r P D = some (false, n) := by
  induction P with
  | nil =>
    induction D with
    | nil => exact ⟨false, by simp [enterScan]⟩
    | cons d ds ih =>
      obtain ⟨p, h1, h2, h3⟩ := hD d (List.mem_cons_self ..)
      obtain ⟨n, hn⟩ := ih (fun it hit => hD it (List.mem_cons_of_mem _ hit))
      refine ⟨true, ?_⟩
      simp [enterScan, h1, idOf, roleOf, h2, h3, hn]
  | cons q qs ih =>
    obtain ⟨p, h1, h2, h3⟩ := hP q (List.mem_cons_self ..)
    obtain ⟨n, hn⟩ := ih (fun it hit => hP it (List.mem_cons_of_mem _ hit))
    refine ⟨true, ?_⟩
    simp [enterScan, h1, idOf, roleOf, h2, h3, hn]

theorem leaveScan_joint (r : Region) (P D : List Item)
    (hP : ∀ it ∈ P, ∃ p, storePeer r it.store = some p ∧ p.id = it.id ∧ p.role = .incoming)
    (hD : ∀ it ∈ D, ∃ p, storePeer r it.store = some p ∧ p.id = it.id ∧ p.role = .demoting ∧
      it.store ≠ r.leader) :
    ∃ j, leaveScan r P D = some (j, false, false) := by
  induction P with
  | nil =>
    induction D with
    | nil => exact ⟨false, by simp [leaveScan]⟩
    | cons d ds ih =>
      obtain ⟨p, h1, h2, h3, h4⟩ := hD d (List.mem_cons_self ..)
      obtain ⟨n, hn⟩ := ih (fun it hit => hD it (List.mem_cons_of_mem _ hit))
      refine ⟨true, ?_⟩
      simp [leaveScan, h1, idOf, roleOf, h2, h3, hn, h4]
  | cons q qs ih =>
    obtain ⟨p, h1, h2, h3⟩ := hP q (List.mem_cons_self ..)
    obtain ⟨n, hn⟩ := ih (fun it hit => hP it (List.mem_cons_of_mem _ hit))
    refine ⟨true, ?_⟩
    simp [leaveScan, h1, idOf, roleOf, h2, h3, hn]

theorem checkSafety_enter (r : Region) (P D : List Item) (hj : countJoint r = 0)
    (hP : ∀ it ∈ P, ∃ p, storePeer r it.store = some p ∧ p.id = it.id ∧ p.role = .learner)
    (hD : ∀ it ∈ D, ∃ p, storePeer r it.store = some p ∧ p.id = it.id ∧ p.role = .voter) :
    checkSafety r (.enter P D) = true := by
  obtain ⟨n, hn⟩ := enterScan_plain r P D hP hD
  simp [checkSafety, hn, hj]

theorem checkSafety_leave (r : Region) (P D : List Item) (hj : countJoint r = P.length + D.length)
    (hP : ∀ it ∈ P, ∃ p, storePeer r it.store = some p ∧ p.id = it.id ∧ p.role = .incoming)
    (hD : ∀ it ∈ D, ∃ p, storePeer r it.store = some p ∧ p.id = it.id ∧ p.role = .demoting ∧
      it.store ≠ r.leader) :
    checkSafety r (.leave P D) = true := by
  obtain ⟨n, hn⟩ := leaveScan_joint r P D hP hD
  simp [checkSafety, hn, hj]

theorem countJoint_split (l : List Peer) (x : Nat) :
    countJoint ⟨l, x⟩ = (l.filter (fun p => p.role == .incoming)).length +
      (l.filter (fun p => p.role == .demoting)).length := by
  simp only [countJoint]
  induction l with
  | nil => rfl
  | cons p ps ih =>
    simp only [List.countP_cons, List.filter_cons, ih]
    cases hr : p.role <;> simp [isJointRole] <;> omega

theorem stores_toItems (l : List Peer) : (toItems l).map (·.store) = stores l := by
  simp [toItems, stores, List.map_map, Function.comp_def]

theorem mem_toItems_sorted {l : List Peer} {it : Item} (h : it ∈ toItems (pmSorted l)) :
    ∃ x ∈ l, it = ⟨x.store, x.id⟩ := by
  obtain ⟨x, hx, rfl⟩ := List.mem_map.1 h
  exact ⟨x, mem_pmSorted_mem hx, rfl⟩

theorem inItems_toItems_sorted (X : List Peer) (s : Nat) :
    inItems (toItems (pmSorted X)) s = true ↔ s ∈ stores X := by
  rw [inItems_iff, ← mem_sortIds, ← stores_pmSorted, ← stores_toItems, List.mem_map]

theorem plain_leave (l : List Peer) : plainRoles (l.map leaveF) := by
  intro q hq
  obtain ⟨p, _, rfl⟩ := List.mem_map.1 hq
  simp only [leaveF]
  cases p.role <;> simp [leaveRole]

theorem votersOf_leave (r : Region) : votersOf (r.peers.map leaveF) = newVoters r := by
  simp only [votersOf, newVoters, List.countP_map]
  apply List.countP_congr
  intro p _
  simp only [Function.comp, leaveF]
  cases p.role <;> simp [leaveRole]

/-- leaving ends in the incoming configuration, which `voterCount` (the min over both) already counted -/
theorem leave_stepOk {m : Nat} {r : Region} (P D : List Item) (hn : (stores r.peers).Nodup)
    (hc : checkSafety r (.leave P D) = true) (hk : isFullVoter r r.leader = true) (hm : m ≤ voterCount r) :
    StepOk m r (.leave P D) := by
  refine ⟨hc, hk, rfl, ?_, ?_⟩
  · rw [apply_leave, onePerStore_iff, stores_map leaveF_store]; exact hn
  · rw [apply_leave, plain_voterCount (plain_leave _), votersOf_leave]
    exact Nat.le_trans hm (Nat.min_le_right _ _)

def targetOfPeers (T : List Peer) (tl : Nat) : Target := ⟨T.map (fun p => (p.store, p.role)), tl⟩

theorem final_of_roles {cur T : List Peer} {t tl : Nat} (hn : (stores cur).Nodup)
    (h1 : ∀ q ∈ cur, ∃ n ∈ T, n.store = q.store ∧ n.role = q.role)
    (h2 : ∀ n ∈ T, ∃ q ∈ cur, q.store = n.store ∧ q.role = n.role)
    (ht : ∃ q ∈ cur, q.store = t ∧ q.role = .voter) (htl : tl = 0 ∨ t = tl) :
    Final (targetOfPeers T tl) ⟨cur, t⟩ := by
  obtain ⟨q, hq, hqs, hqr⟩ := ht
  refine ⟨fun p hp => ?_, fun x hx => ?_, hn, hqs ▸ fullVoter_of_voter (r := ⟨cur, t⟩) hn hq hqr, htl⟩
  · obtain ⟨n, hn', e1, e2⟩ := h1 p hp
    exact List.mem_map.2 ⟨n, hn', by rw [e1, e2]⟩
  · obtain ⟨n, hn', rfl⟩ := List.mem_map.1 hx
    exact h2 n hn'

/-- the target wants a voter on store `s` -/
def finV (T : List Peer) (s : Nat) : Bool := T.any (fun n => n.store == s && n.role == .voter)

theorem finV_iff {T : List Peer} {s : Nat} : finV T s = true ↔ ∃ n ∈ T, n.store = s ∧ n.role = .voter := by
  simp [finV]

theorem finV_of_mem {T : List Peer} (hn : (stores T).Nodup) {n : Peer} (h : n ∈ T) :
    finV T n.store = true ↔ n.role = .voter := by
  rw [finV_iff]
  constructor
  · rintro ⟨n', h', e, r⟩
    exact eq_of_mem_store hn h' h e ▸ r
  · intro r; exact ⟨n, h, rfl, r⟩

theorem finV_false_of_learner {T : List Peer} (hn : (stores T).Nodup) {n : Peer} (h : n ∈ T)
    (hr : n.role = .learner) : finV T n.store = false := by
  cases hf : finV T n.store
  · rfl
  · rw [(finV_of_mem hn h).1 hf] at hr; cases hr

theorem finV_false_of_not_mem {T : List Peer} {s : Nat} (h : s ∉ stores T) : finV T s = false := by
  cases hf : finV T s
  · rfl
  · obtain ⟨n, hn, e, _⟩ := finV_iff.1 hf
    exact absurd (mem_stores.2 ⟨n, hn, e⟩) h

/-- fields that neither `prepareBuild` nor the loops of `buildJoint` touch -/
structure Keeps (b b' : B) : Prop where
  c : b'.c = b.c
  originPeers : b'.originPeers = b.originPeers
  originLeader : b'.originLeader = b.originLeader
  targetPeers : b'.targetPeers = b.targetPeers
  lightWeight : b'.lightWeight = b.lightWeight

theorem Keeps.refl (b : B) : Keeps b b := ⟨rfl, rfl, rfl, rfl, rfl⟩

theorem Keeps.trans {a b c : B} (h1 : Keeps a b) (h2 : Keeps b c) : Keeps a c :=
  ⟨h2.c.trans h1.c, h2.originPeers.trans h1.originPeers, h2.originLeader.trans h1.originLeader,
   h2.targetPeers.trans h1.targetPeers, h2.lightWeight.trans h1.lightWeight⟩

/-- what the recording calls of the builder leave behind for a well-formed region -/
structure Recorded (b0 : B) : Prop where
  nodupO  : (stores b0.originPeers).Nodup
  plainO  : plainRoles b0.originPeers
  store0  : ∀ p ∈ b0.originPeers, p.store ≠ 0
  leader  : ∃ p ∈ b0.originPeers, p.store = b0.originLeader ∧ p.role = .voter
  nodupT  : (stores b0.targetPeers).Nodup
  plainT  : plainRoles b0.targetPeers
  noSteps : b0.steps = []
  demote  : b0.useJoint = true → b0.allowDemote = true

end PdModel.Builder
