import PdModel.Lemmas.StorageKV
/-! The region storage: leveldb content plus a pending batch.  Every operation is made of three steps (an entry is
    put into the batch, the batch is written out, an id is removed from both) and of changes to `cacheSize`, which
    only decides whether a save also flushes; the lemmas say what lookups in batch and leveldb return after each step. -/
namespace PdModel.StorageLoad
open PdModel.SyncRegion

variable {V : Type}

/-- the batch is a map: ids pairwise different -/
def BatchOk (b : List (Nat × Meta)) : Prop := b.Pairwise (fun a c => a.1 ≠ c.1)

/-- what a flush would make visible -/
def viewGet (s : RS) (id : Nat) : Option Meta := (kvLoad s.batch id).or (kvLoad s.ldb id)

inductive ROp where
  | save (m : Meta)
  | delete (id : Nat)
  | flush
  /-- `SaveRegion` while the leveldb write fails (an error is returned if this save fills the batch) -/
  | saveF (m : Meta)
  /-- a flush whose leveldb write fails -/
  | flushF

def ROp.id : ROp → Nat
  | .save m => m.id
  | .delete id => id
  | .flush => 0
  | .saveF m => m.id
  | .flushF => 0

def rstep (s : RS) : ROp → RS
  | .save m => s.save m
  | .delete id => s.delete id
  | .flush => s.flush
  | .saveF m => (s.saveFailed m).1
  | .flushF => s.flushFailed

def runRS (s : RS) (ops : List ROp) : RS := ops.foldl rstep s

/-- the saves and deletes the client has made: a save whose write-out failed counts, its region stays in the batch -/
def toKOps : List ROp → List (KOp Meta)
  | [] => []
  | .save m :: ops => .save m.id m :: toKOps ops
  | .delete id :: ops => .delete id :: toKOps ops
  | .flush :: ops => toKOps ops
  | .saveF m :: ops => .save m.id m :: toKOps ops
  | .flushF :: ops => toKOps ops

def ROp.touches (op : ROp) (j : Nat) : Prop :=
  match op with
  | .save m => m.id = j
  | .delete id => id = j
  | .flush => False
  | .saveF m => m.id = j
  | .flushF => False

structure RSInv (s : RS) : Prop where
  bok  : BatchOk s.batch
  bk   : ∀ e ∈ s.batch, e.1 ≤ maxU64
  lk   : ∀ e ∈ s.ldb, e.1 ≤ maxU64
  srt  : Sorted s.ldb

theorem rsinv_empty (bs : Nat) : RSInv { batchSize := bs } :=
  ⟨List.Pairwise.nil, List.forall_mem_nil _, List.forall_mem_nil _, List.Pairwise.nil⟩

theorem toKOps_cons (op : ROp) (ops : List ROp) : toKOps (op :: ops) = toKOps [op] ++ toKOps ops := by
  cases op <;> rfl

theorem kvLoad_batchPut (b : List (Nat × Meta)) (id : Nat) (m : Meta) (j : Nat) :
    kvLoad (batchPut b id m) j = if j = id then some m else kvLoad b j :=
  kvLoad_put b id m j

theorem batchOk_put (b : List (Nat × Meta)) (h : BatchOk b) (id : Nat) (m : Meta) : BatchOk (batchPut b id m) := by
  unfold BatchOk batchPut
  rw [List.pairwise_append]
  refine ⟨h.filter _, List.pairwise_singleton _ _, fun a ha c hc => ?_⟩
  rw [List.mem_singleton.1 hc]
  simpa using (List.mem_filter.1 ha).2

theorem batchPut_forall (P : Nat → Prop) {b : List (Nat × Meta)} {id : Nat} {m : Meta} (hb : ∀ e ∈ b, P e.1)
    (hid : P id) : ∀ e ∈ batchPut b id m, P e.1 := by
  intro e he
  rcases List.mem_append.1 he with h | h
  · exact hb e (List.mem_filter.1 h).1
  · rw [List.mem_singleton.1 h]; exact hid

/-- the step `SaveRegion` and its failing variant share: the entry goes into the batch, `cacheSize` becomes `c` -/
def RS.put (s : RS) (m : Meta) (c : Nat) : RS := { s with batch := batchPut s.batch m.id m, cacheSize := c }

/-- `t` is `s` after the client's saves and deletes `ks`, as far as lookups can tell.  `frame` is for
    `stop_keeps_flushed`: an id out of the batch that `ks` does not name does not depend on the batch. -/
structure Follows (s t : RS) (ks : List (KOp Meta)) : Prop where
  inv   : RSInv t
  view  : ∀ j, viewGet t j = ks.foldl (specStep j) (viewGet s j)
  frame : ∀ j, (∀ k ∈ ks, k.id ≠ j) → kvLoad s.batch j = none →
    kvLoad t.batch j = none ∧ kvLoad t.ldb j = kvLoad s.ldb j
  ids   : ∀ P : Nat → Prop, (∀ k ∈ ks, P k.id) → (∀ e ∈ s.batch, P e.1) → (∀ e ∈ s.ldb, P e.1) →
    (∀ e ∈ t.batch, P e.1) ∧ ∀ e ∈ t.ldb, P e.1

theorem Follows.refl {s : RS} (h : RSInv s) : Follows s s [] :=
  ⟨h, fun _ => rfl, fun _ _ hn => ⟨hn, rfl⟩, fun _ _ hb hl => ⟨hb, hl⟩⟩

theorem Follows.trans {s t u : RS} {ks ks' : List (KOp Meta)} (h1 : Follows s t ks) (h2 : Follows t u ks') :
    Follows s u (ks ++ ks') := by
  refine ⟨h2.inv, fun j => by rw [List.foldl_append, ← h1.view j]; exact h2.view j, fun j hj hn => ?_,
    fun P hk hb hl => ?_⟩
  · obtain ⟨hj1, hj2⟩ := List.forall_mem_append.1 hj
    obtain ⟨b1, l1⟩ := h1.frame j hj1 hn
    exact ⟨(h2.frame j hj2 b1).1, (h2.frame j hj2 b1).2.trans l1⟩
  · obtain ⟨hk1, hk2⟩ := List.forall_mem_append.1 hk
    obtain ⟨b1, l1⟩ := h1.ids P hk1 hb hl
    exact h2.ids P hk2 b1 l1

theorem follows_put {s : RS} (h : RSInv s) (m : Meta) (hid : m.id ≤ maxU64) (c : Nat) :
    Follows s (s.put m c) [.save m.id m] := by
  have hb : ∀ j, kvLoad (s.put m c).batch j = if j = m.id then some m else kvLoad s.batch j :=
    kvLoad_batchPut s.batch m.id m
  refine ⟨⟨batchOk_put _ h.bok _ _, batchPut_forall (· ≤ maxU64) h.bk hid, h.lk, h.srt⟩, fun j => ?_,
    fun j hj hn => ⟨?_, rfl⟩, fun P hk hb hl => ⟨batchPut_forall P hb (hk _ (List.mem_singleton_self _)), hl⟩⟩
  · show viewGet _ j = if j = m.id then some m else viewGet s j
    unfold viewGet
    rw [hb]
    split <;> rfl
  · have hne : m.id ≠ j := hj _ (List.mem_singleton_self _)
    rw [hb, if_neg (Ne.symm hne), hn]

theorem follows_delete {s : RS} (h : RSInv s) (id : Nat) : Follows s (s.delete id) [.delete id] := by
  have hb : ∀ j, kvLoad (s.delete id).batch j = if j = id then none else kvLoad s.batch j := kvLoad_kvRemove s.batch id
  have hl : ∀ j, kvLoad (s.delete id).ldb j = if j = id then none else kvLoad s.ldb j := kvLoad_kvRemove s.ldb id
  have hsub : ∀ (P : Nat → Prop) (kv : KV Meta), (∀ e ∈ kv, P e.1) → ∀ e ∈ kvRemove kv id, P e.1 :=
    fun P kv hk e he => hk e (List.mem_filter.1 he).1
  refine ⟨⟨h.bok.filter _, hsub (· ≤ maxU64) _ h.bk, hsub (· ≤ maxU64) _ h.lk, sorted_kvRemove _ h.srt id⟩, fun j => ?_, fun j hj hn => ?_,
    fun P _ hb hl => ⟨hsub P _ hb, hsub P _ hl⟩⟩
  · show viewGet _ j = if j = id then none else viewGet s j
    unfold viewGet
    rw [hb, hl]
    split <;> rfl
  · have hne : id ≠ j := hj _ (List.mem_singleton_self _)
    rw [hb, hl, if_neg (Ne.symm hne), if_neg (Ne.symm hne)]
    exact ⟨hn, rfl⟩

theorem flush_eq_runKV (b kv : KV V) :
    b.foldl (fun kv e => kvSave kv e.1 e.2) kv = runKV kv (b.map fun e => .save e.1 e.2) := by
  rw [runKV, List.foldl_map]
  rfl

theorem foldl_specStep_saves (b : KV V) (hb : b.Pairwise (fun a c => a.1 ≠ c.1)) (j : Nat) (acc : Option V) :
    (b.map fun e => KOp.save e.1 e.2).foldl (specStep j) acc = (kvLoad b j).or acc := by
  induction b generalizing acc with
  | nil => rfl
  | cons e b ih =>
    obtain ⟨hne, hb'⟩ := List.pairwise_cons.1 hb
    rw [List.map_cons, List.foldl_cons, ih hb', kvLoad_cons]
    by_cases hj : j = e.1
    · -- no later entry for `j`
      rw [kvLoad_eq_none fun x hx => hj ▸ (hne x hx).symm]
      simp [specStep, hj]
    · simp [specStep, hj]

theorem flush_forall (P : Nat → Prop) {s : RS} (hb : ∀ e ∈ s.batch, P e.1) (hl : ∀ e ∈ s.ldb, P e.1) :
    (∀ e ∈ s.flush.batch, P e.1) ∧ ∀ e ∈ s.flush.ldb, P e.1 := by
  unfold RS.flush
  rw [flush_eq_runKV]
  exact ⟨List.forall_mem_nil _, runKV_forall P _ _ (List.forall_mem_map.2 hb) hl⟩

theorem rsinv_flush {s : RS} (h : RSInv s) : RSInv s.flush ∧ ∀ j, kvLoad s.flush.ldb j = viewGet s j := by
  have hbk : ∀ op ∈ s.batch.map fun e => KOp.save e.1 e.2, op.id ≤ maxU64 := List.forall_mem_map.2 h.bk
  have := runKV_spec _ s.ldb hbk h.srt h.lk
  rw [← flush_eq_runKV] at this
  exact ⟨⟨List.Pairwise.nil, List.forall_mem_nil _, (flush_forall (· ≤ maxU64) h.bk h.lk).2, this.1⟩,
    fun j => (this.2 j).trans (foldl_specStep_saves _ h.bok j _)⟩

/-- leveldb shows the view, which for an id out of the batch is what leveldb had -/
theorem follows_flush {s : RS} (h : RSInv s) : Follows s s.flush [] :=
  ⟨(rsinv_flush h).1, (rsinv_flush h).2, fun j _ hn => ⟨rfl, ((rsinv_flush h).2 j).trans (by rw [viewGet, hn]; rfl)⟩,
    fun P _ => flush_forall P⟩

theorem rstep_save (s : RS) (m : Meta) :
    rstep s (.save m) =
      if s.cacheSize < s.batchSize - 1 then s.put m (s.cacheSize + 1) else (s.put m s.cacheSize).flush :=
  rfl

theorem rstep_saveF (s : RS) (m : Meta) :
    rstep s (.saveF m) = s.put m (if s.cacheSize < s.batchSize - 1 then s.cacheSize + 1 else s.cacheSize) := by
  show (s.saveFailed m).1 = _
  unfold RS.saveFailed
  split <;> rfl

theorem rstep_spec {s : RS} (h : RSInv s) (op : ROp) (hid : op.id ≤ maxU64) :
    Follows s (rstep s op) (toKOps [op]) := by
  cases op with
  | save m =>
    rw [rstep_save]
    split
    · exact follows_put h m hid _
    · exact (follows_put h m hid _).trans (follows_flush (follows_put h m hid _).inv)
  | delete id => exact follows_delete h id
  | flush => exact follows_flush h
  | saveF m =>
    rw [rstep_saveF]
    exact follows_put h m hid _
  | flushF => exact Follows.refl h

theorem runRS_spec (ops : List ROp) :
    ∀ s : RS, (∀ op ∈ ops, op.id ≤ maxU64) → RSInv s → Follows s (runRS s ops) (toKOps ops) := by
  induction ops with
  | nil => intro s _ h; exact Follows.refl h
  | cons op ops ih =>
    intro s hid h
    obtain ⟨hop, hid'⟩ := List.forall_mem_cons.1 hid
    rw [toKOps_cons]
    exact (rstep_spec h op hop).trans (ih (rstep s op) hid' (rstep_spec h op hop).inv)

theorem mem_toKOps {ops : List ROp} {k : KOp Meta} (hk : k ∈ toKOps ops) : ∃ op ∈ ops, op.id = k.id ∧ op.touches k.id := by
  induction ops with
  | nil => cases hk
  | cons op ops ih =>
    have tl : k ∈ toKOps ops → ∃ o ∈ op :: ops, o.id = k.id ∧ o.touches k.id :=
      fun hk => (ih hk).imp fun _ h => ⟨List.mem_cons_of_mem _ h.1, h.2⟩
    have hd : ∀ {k'}, k ∈ k' :: toKOps ops → op.id = k'.id → op.touches k'.id →
        ∃ o ∈ op :: ops, o.id = k.id ∧ o.touches k.id :=
      fun hk h1 h2 => (List.mem_cons.1 hk).elim (fun e => ⟨op, List.mem_cons_self .., e ▸ h1, e ▸ h2⟩) tl
    cases op with
    | save m => exact hd hk rfl rfl
    | delete id => exact hd hk rfl rfl
    | flush => exact tl hk
    | saveF m => exact hd hk rfl rfl
    | flushF => exact tl hk

end PdModel.StorageLoad
