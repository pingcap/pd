import PdModel.Lemmas.BuilderPrepare
import PdModel.Lemmas.BuilderExec
/-! The non-joint builder when at most one peer change is pending (the only way it runs while joint
    consensus is on): one plan, then the final leader transfer. -/
namespace PdModel.Builder
open PdModel.Steps PdModel.Spec PdModel.Spec.C08

theorem comparePlan_mem (b : B) (x y : Plan) : comparePlan b x y = x ∨ comparePlan b x y = y := by
  unfold comparePlan
  split
  · right; rfl
  · split
    · right; rfl
    · left; rfl

theorem planReplace_empty (b : B) (h1 : b.toDemote = [] ∨ b.toPromote = []) (h2 : b.toAdd = [] ∨ b.toRemove = []) :
    planReplace b = {} := by
  unfold planReplace
  rcases h1 with h1 | h1 <;> rcases h2 with h2 | h2 <;>
    simp only [h1, h2, pmSorted_nil, List.foldl_nil, foldl_keep, ite_self]

theorem planPromotePeer_empty {b : B} (h : b.toPromote = []) : planPromotePeer b = {} := by
  unfold planPromotePeer; rw [h]; rfl

theorem planDemotePeer_empty {b : B} (h : b.toDemote = []) : planDemotePeer b = {} := by
  unfold planDemotePeer; rw [h]; rfl

theorem planRemovePeer_empty {b : B} (h : b.toRemove = []) : planRemovePeer b = {} := by
  unfold planRemovePeer; rw [h]; rfl

theorem planAddPeer_empty {b : B} (h : b.toAdd = []) : planAddPeer b = {} := by
  unfold planAddPeer; rw [h]; rfl

/-- a leader the planners may pick: the store of a current peer that may lead -/
def LeaderCand (b : B) (L : Nat) : Prop :=
  L ∈ stores b.cur.peers ∧ allowLeaderOpt b (pmGet b.cur.peers L) = true

theorem leaderCand_voter {b : B} {L : Nat} (hplain : plainRoles b.cur.peers) (h : LeaderCand b L) :
    ∃ p ∈ b.cur.peers, p.store = L ∧ p.role = .voter := by
  obtain ⟨hin, ha⟩ := h
  cases hg : pmGet b.cur.peers L with
  | none => exact absurd hin (pmGet_none.1 hg)
  | some p =>
    rw [hg] at ha
    exact ⟨p, (pmGet_some hg).1, (pmGet_some hg).2,
      (hplain p (pmGet_some hg).1).resolve_right (allowLeader_role ha).1⟩

/-- the shape the three single-change planners share -/
theorem plan_fold_spec (b : B) (xs : List Peer) (ids : List Nat) (ok : Nat → Peer → Bool)
    (mk : Peer → Nat → Plan) :
    let p := xs.foldl (fun best x =>
      ids.foldl (fun best L => if ok L x then comparePlan b best (mk x L) else best) best) {}
    p = {} ∨ ∃ x ∈ xs, ∃ L ∈ ids, ok L x = true ∧ p = mk x L := by
  refine foldl_inv (fun p => p = {} ∨ ∃ x ∈ xs, ∃ L ∈ ids, ok L x = true ∧ p = mk x L) _ _ _
    (Or.inl rfl) (fun acc x hx hacc => ?_)
  refine foldl_inv (fun p => p = {} ∨ ∃ x ∈ xs, ∃ L ∈ ids, ok L x = true ∧ p = mk x L) _ _ _
    hacc (fun acc2 L hL hacc2 => ?_)
  split
  · next hc =>
    rcases comparePlan_mem b acc2 (mk x L) with e | e
    · rw [e]; exact hacc2
    · rw [e]; exact Or.inr ⟨x, hx, L, hL, hc, rfl⟩
  · exact hacc2

theorem planDemotePeer_spec (b : B) :
    planDemotePeer b = {} ∨ ∃ d ∈ pmSorted b.toDemote, ∃ L,
      planDemotePeer b = { demote := some d, leaderBeforeRemove := L } ∧ LeaderCand b L ∧ L ≠ d.store := by
  rcases plan_fold_spec b (pmSorted b.toDemote) (pmIds b.cur.peers)
    (fun L d => allowLeaderOpt b (pmGet b.cur.peers L) && L != d.store)
    (fun d L => { demote := some d, leaderBeforeRemove := L }) with e | ⟨d, hd, L, hL, hc, e⟩
  · exact Or.inl e
  · simp only [Bool.and_eq_true, bne_iff_ne, ne_eq] at hc
    exact Or.inr ⟨d, hd, L, e, ⟨mem_pmIds.1 hL, hc.1⟩, hc.2⟩

theorem planRemovePeer_spec (b : B) :
    planRemovePeer b = {} ∨ ∃ r ∈ pmSorted b.toRemove, ∃ L,
      planRemovePeer b = { remove := some r, leaderBeforeRemove := L } ∧ LeaderCand b L ∧ L ≠ r.store := by
  rcases plan_fold_spec b (pmSorted b.toRemove) (pmIds b.cur.peers)
    (fun L r => allowLeaderOpt b (pmGet b.cur.peers L) && L != r.store)
    (fun r L => { remove := some r, leaderBeforeRemove := L }) with e | ⟨r, hr, L, hL, hc, e⟩
  · exact Or.inl e
  · simp only [Bool.and_eq_true, bne_iff_ne, ne_eq] at hc
    exact Or.inr ⟨r, hr, L, e, ⟨mem_pmIds.1 hL, hc.1⟩, hc.2⟩

theorem planAddPeer_spec (b : B) :
    planAddPeer b = {} ∨ ∃ a ∈ pmSorted b.toAdd, ∃ L,
      planAddPeer b = { add := some a, leaderBeforeAdd := L } ∧ LeaderCand b L := by
  rcases plan_fold_spec b (pmSorted b.toAdd) (pmIds b.cur.peers)
    (fun L _ => allowLeaderOpt b (pmGet b.cur.peers L))
    (fun a L => { add := some a, leaderBeforeAdd := L }) with e | ⟨a, ha, L, hL, hc, e⟩
  · exact Or.inl e
  · exact Or.inr ⟨a, ha, L, e, mem_pmIds.1 hL, hc⟩

theorem peerPlan_eq (b : B) : peerPlan b =
    if !(planReplace b).isEmpty then planReplace b
    else if !(planPromotePeer b).isEmpty then planPromotePeer b
    else if !(planDemotePeer b).isEmpty then planDemotePeer b
    else if !(planRemovePeer b).isEmpty then planRemovePeer b
    else if !(planAddPeer b).isEmpty then planAddPeer b else {} := rfl

theorem plan_skip_empty (x : Plan) : (if !({} : Plan).isEmpty then {} else x) = x := rfl

theorem plan_of_nonempty {p q : Plan} (e : q = if !p.isEmpty then p else {}) (hne : q.isEmpty = false) :
    q = p := by
  cases hp : p.isEmpty
  · rw [e, hp]; rfl
  · rw [e, hp] at hne; cases hne

/-- a non-empty `peerPlan` that comes down to one planner, run on a single pending item `x`, is the
    plan for `x` -/
theorem plan_one {b : B} {q : Plan} {l : List Peer} {x : Peer} {C : Nat → Peer → Prop} {mk : Peer → Nat → Plan}
    (e : peerPlan b = if !q.isEmpty then q else {}) (hne : (peerPlan b).isEmpty = false) (hl : l = [x])
    (spec : q = {} ∨ ∃ y ∈ pmSorted l, ∃ L, q = mk y L ∧ C L y) : ∃ L, peerPlan b = mk x L ∧ C L x := by
  have e1 := plan_of_nonempty e hne
  rw [e1] at hne ⊢
  rcases spec with e' | ⟨y, hy, L, e', hL⟩
  · rw [e'] at hne; cases hne
  · rw [hl, pmSorted_single] at hy
    cases List.mem_singleton.1 hy
    exact ⟨L, e', hL⟩

/-- the leader transfer a plan asks for before its add or its remove, if any -/
def optTransfer (b : B) (L : Nat) : B :=
  if L != 0 && L != b.cur.leader then { execTransferLeader b L with kindLeader := true } else b

def optStep (g : B → Peer → B) (b : B) : Option Peer → B
  | some p => g b p
  | none => b

theorem execPlan_eq (b : B) (plan : Plan) :
    execPlan b plan =
      optStep (fun b p => { execRemovePeer b p with kindRegion := true })
        (optStep execDemoteFollower
          (optTransfer
            (optStep execPromoteLearner
              (optStep (fun b p => { execAddPeer b p with kindRegion := true })
                (optTransfer b plan.leaderBeforeAdd) plan.add)
              plan.promote)
            plan.leaderBeforeRemove)
          plan.demote)
        plan.remove := rfl

theorem optStep_frame {α : Type} (f : B → α) {g : B → Peer → B} (h : ∀ b p, f (g b p) = f b) (b : B)
    (o : Option Peer) : f (optStep g b o) = f b := by
  cases o
  · rfl
  · exact h b _

theorem execPlan_frame {α : Type} (f : B → α)
    (hT : ∀ b id, f { execTransferLeader b id with kindLeader := true } = f b)
    (hA : ∀ b p, f { execAddPeer b p with kindRegion := true } = f b)
    (hP : ∀ b p, f (execPromoteLearner b p) = f b) (hD : ∀ b p, f (execDemoteFollower b p) = f b)
    (hR : ∀ b p, f { execRemovePeer b p with kindRegion := true } = f b)
    (b : B) (plan : Plan) : f (execPlan b plan) = f b := by
  have hO : ∀ b L, f (optTransfer b L) = f b := by
    intro b L; unfold optTransfer; split
    · exact hT b L
    · rfl
  rw [execPlan_eq, optStep_frame f hR, optStep_frame f hD, hO, optStep_frame f hP, optStep_frame f hA, hO]

theorem execPlan_keeps (b : B) (plan : Plan) :
    (execPlan b plan).targetPeers = b.targetPeers ∧ (execPlan b plan).targetLeader = b.targetLeader :=
  Prod.mk.inj (execPlan_frame (fun b => (b.targetPeers, b.targetLeader)) (fun _ _ => rfl) (fun _ _ => rfl)
    (fun _ _ => rfl) (fun _ _ => rfl) (fun _ _ => rfl) b plan)

theorem sinv_optTransfer {r0 : Region} {m : Nat} {b : B} (h : SInv r0 m b) (L : Nat)
    (hv : L = 0 ∨ ∃ p ∈ b.cur.peers, p.store = L ∧ p.role = .voter) :
    SInv r0 m (optTransfer b L) ∧ (optTransfer b L).cur.peers = b.cur.peers ∧
      (L ≠ 0 → (optTransfer b L).cur.leader = L) := by
  unfold optTransfer
  split
  · next hc =>
    simp only [Bool.and_eq_true, bne_iff_ne, ne_eq] at hc
    exact ⟨sinv_congr (sinv_transfer h L (hv.resolve_left hc.1)) rfl rfl, rfl, fun _ => rfl⟩
  · next hc =>
    refine ⟨h, rfl, fun h0 => ?_⟩
    simp only [Bool.and_eq_true, bne_iff_ne, ne_eq, not_and, Classical.not_not] at hc
    exact (hc h0).symm

def roleAt (l : List Peer) (s : Nat) : Option Role := (pmGet l s).map (·.role)

def SameRoles (cur T : List Peer) : Prop := ∀ s, roleAt cur s = roleAt T s

theorem roleAt_of_mem {l : List Peer} (hn : (stores l).Nodup) {p : Peer} (hp : p ∈ l) :
    roleAt l p.store = some p.role := by
  unfold roleAt; rw [pmGet_of_mem hn hp]; rfl

theorem mem_of_roleAt {l : List Peer} {s : Nat} {r : Role} (h : roleAt l s = some r) :
    ∃ p ∈ l, p.store = s ∧ p.role = r := by
  unfold roleAt at h
  cases hg : pmGet l s with
  | none => rw [hg] at h; cases h
  | some p => rw [hg] at h; exact ⟨p, (pmGet_some hg).1, (pmGet_some hg).2, Option.some.inj h⟩

theorem roleAt_eq_none {l : List Peer} {s : Nat} : roleAt l s = none ↔ s ∉ stores l := by
  unfold roleAt; rw [Option.map_eq_none_iff, pmGet_none]

theorem roleAt_setRole (l : List Peer) (x : Nat) (r : Role) (s : Nat) :
    roleAt (setRole l x r) s = if s = x then (roleAt l x).map (fun _ => r) else roleAt l s := by
  unfold roleAt setRole
  rw [pmGet_map (fun p => by split <;> rfl)]
  split
  · next e =>
    subst e
    cases hg : pmGet l s with
    | none => rfl
    | some p => simp only [Option.map_some, (pmGet_some hg).2, beq_self_eq_true, if_true]
  · next e =>
    cases hg : pmGet l s with
    | none => rfl
    | some p => simp only [Option.map_some, (pmGet_some hg).2, beq_iff_eq, e, if_false]

theorem roleAt_snoc {l : List Peer} {a : Peer} (hf : a.store ∉ stores l) (s : Nat) :
    roleAt (l ++ [a]) s = if s = a.store then some a.role else roleAt l s := by
  unfold roleAt pmGet
  rw [List.find?_append]
  split
  · next e => subst e; rw [show l.find? _ = none from pmGet_none.2 hf]; simp
  · next e => simp [Ne.symm e]

theorem roleAt_erase (l : List Peer) (x s : Nat) :
    roleAt (l.filter (fun p => p.store != x)) s = if s = x then none else roleAt l s := by
  unfold roleAt pmGet
  rw [List.find?_filter]
  split
  · next e => subst e; simp
  · next e =>
    congr 1
    apply find?_congr'
    intro p _
    by_cases h : p.store = s <;> simp [h, e]

theorem SameRoles.sound {cur T : List Peer} (h : SameRoles cur T) (hn : (stores cur).Nodup) :
    ∀ q ∈ cur, ∃ n ∈ T, n.store = q.store ∧ n.role = q.role :=
  fun q hq => mem_of_roleAt ((h q.store).symm.trans (roleAt_of_mem hn hq))

theorem SameRoles.symm {cur T : List Peer} (h : SameRoles cur T) : SameRoles T cur := fun s => (h s).symm

theorem voters_le_of_sound {cur T : List Peer} (hn : (stores cur).Nodup)
    (h : ∀ q ∈ cur, ∃ n ∈ T, n.store = q.store ∧ n.role = q.role) : votersOf cur ≤ votersOf T :=
  countP_le_of_stores hn fun q hq hv => by
    obtain ⟨n, hn', e1, e2⟩ := h q hq
    exact ⟨n, hn', e1, by simpa [e2] using hv⟩

theorem SameRoles.voters {cur T : List Peer} (h : SameRoles cur T) (hn : (stores cur).Nodup)
    (hnT : (stores T).Nodup) : votersOf cur = votersOf T :=
  Nat.le_antisymm (voters_le_of_sound hn (h.sound hn)) (voters_le_of_sound hnT (h.symm.sound hnT))

/-- the end of `buildStepsWithoutJointConsensus`, after the plan loop -/
def finishNoJoint (b : B) : B :=
  let b := setTargetLeaderIfNotExist b
  if b.targetLeader != 0 && b.cur.leader != b.targetLeader && pmHas b.cur.peers b.targetLeader then
    { execTransferLeader b b.targetLeader with kindLeader := true } else b

theorem buildNoJoint_eq (b : B) :
    buildNoJoint b = (match planLoop (pendingCount b) b with
      | .error e => .error e
      | .ok b' => if (finishNoJoint b').steps.length == 0 then .error .noStep else .ok (finishNoJoint b')) := rfl

theorem finish_safe {r0 : Region} {m : Nat} {b : B} {T : List Peer} (tl : Nat)
    (h : SInv r0 m b) (hT : b.targetPeers = T) (hnT : (stores T).Nodup) (hpT : plainRoles T)
    (hM : SameRoles b.cur.peers T)
    (htl : b.targetLeader = tl) (htlv : tl = 0 ∨ ∃ n ∈ T, n.store = tl ∧ n.role = .voter) :
    StepsSafe m r0 (finishNoJoint b).steps ∧ Final (targetOfPeers T tl) (run r0 (finishNoJoint b).steps) := by
  subst hT htl
  obtain ⟨t, e, htT, hreq⟩ := setTarget_plain b hpT htlv
  have ht : t = 0 ∨ ∃ q ∈ b.cur.peers, q.store = t ∧ q.role = .voter :=
    htT.imp id fun ⟨n, hn, hns, hnr⟩ => by
      obtain ⟨q, hq, hqs, hqr⟩ := hM.symm.sound hnT n hn
      exact ⟨q, hq, hqs.trans hns, hqr.trans hnr⟩
  -- the chosen leader is 0 or a current peer, so the final transfer is the optional transfer of a plan
  have efin : finishNoJoint b = optTransfer { b with targetLeader := t } t := by
    unfold finishNoJoint optTransfer
    rw [e]
    rcases ht with e0 | ⟨q, hq, hqs, _⟩
    · subst e0; rfl
    · dsimp only
      rw [pmHas_iff.2 (mem_stores.2 ⟨q, hq, hqs⟩), Bool.and_true, bne_comm (a := b.cur.leader)]
  obtain ⟨hf, hpeers, hlead⟩ := sinv_optTransfer (sinv_congr (b' := { b with targetLeader := t }) h rfl rfl) t ht
  rw [efin]
  refine ⟨hf.safe, ?_⟩
  rw [hf.runEq]
  refine final_of_roles hf.nodup (fun q hq => hM.sound h.nodup q (hpeers ▸ hq)) (fun n hn => ?_) hf.leader ?_
  · obtain ⟨q, hq, e⟩ := hM.symm.sound hnT n hn
    exact ⟨q, hpeers ▸ hq, e⟩
  · rcases hreq with e' | e'
    · exact Or.inl e'
    · by_cases h0 : t = 0
      · exact Or.inl (e' ▸ h0)
      · exact Or.inr ((hlead h0).trans e')

/-- the result of one round of the loop, as far as the end of the build needs it -/
structure RoundOk (b0 : B) (b' : B) : Prop where
  inv : SInv ⟨b0.originPeers, b0.originLeader⟩
          (minVoters ⟨b0.originPeers, b0.originLeader⟩ (requestedTarget b0)) b'
  same : SameRoles b'.cur.peers b0.targetPeers

theorem min_le_target {b0 : B} (rec : Recorded b0) :
    minVoters ⟨b0.originPeers, b0.originLeader⟩ (requestedTarget b0) ≤ votersOf b0.targetPeers := by
  rw [minVoters_eq rec]
  exact Nat.min_le_right _ _

section
variable {b0 b1 : B} {nid : Nat} (rec : Recorded b0) (hp : Prepared b0 b1 nid)
include rec hp

theorem sinv_start : SInv ⟨b0.originPeers, b0.originLeader⟩
    (minVoters ⟨b0.originPeers, b0.originLeader⟩ (requestedTarget b0)) b1 := by
  refine ⟨by rw [hp.steps]; trivial, by rw [hp.steps, hp.cur]; rfl, by rw [hp.cur]; exact rec.nodupO,
    by rw [hp.cur]; exact rec.plainO, by rw [hp.cur]; exact rec.leader, ?_⟩
  rw [hp.cur, minVoters_eq rec]
  exact Nat.min_le_left _ _

theorem roles_agree (p n : Peer) (hpO : p ∈ b0.originPeers) (hn : n ∈ b0.targetPeers) (hs : n.store = p.store) :
    p.role = n.role ∨ (⟨p.store, p.id, .voter⟩ : Peer) ∈ b1.toPromote ∨
      (⟨p.store, p.id, .learner⟩ : Peer) ∈ b1.toDemote ∨ p ∈ b1.toRemove := by
  rw [hp.toPromote, hp.toDemote, hp.toRemove]
  rcases rec.plainO p hpO with hpr | hpr <;> rcases rec.plainT n hn with hnr | hnr
  · left; rw [hpr, hnr]
  · cases hd : b0.allowDemote
    · right; right; right
      exact (diff_remove_iff rec p).2 ⟨hpO, Or.inr ⟨hd, hpr, n, hn, hs, hnr⟩⟩
    · right; right; left
      exact (diff_demote_iff rec _).2 ⟨hd, p, hpO, hpr, ⟨n, hn, hs, hnr⟩, rfl⟩
  · right; left
    exact (diff_promote_iff rec _).2 ⟨p, hpO, hpr, finV_iff.2 ⟨n, hn, hs, hnr⟩, rfl⟩
  · left; rw [hpr, hnr]

theorem settled (s : Nat) (h : ∀ a ∈ b1.toAdd ++ b1.toRemove ++ b1.toPromote ++ b1.toDemote, a.store ≠ s) :
    roleAt b0.originPeers s = roleAt b0.targetPeers s := by
  have hA : ∀ a ∈ b1.toAdd, a.store ≠ s := fun a ha => h a (by simp [ha])
  have hR : ∀ a ∈ b1.toRemove, a.store ≠ s := fun a ha => h a (by simp [ha])
  have hP : ∀ a ∈ b1.toPromote, a.store ≠ s := fun a ha => h a (by simp [ha])
  have hD : ∀ a ∈ b1.toDemote, a.store ≠ s := fun a ha => h a (by simp [ha])
  obtain ⟨_, _, hadd⟩ := diff_add rec hp.toAdd
  unfold roleAt
  cases hO : pmGet b0.originPeers s with
  | none =>
    cases hT : pmGet b0.targetPeers s with
    | none => rfl
    | some n =>
      obtain ⟨hn, rfl⟩ := pmGet_some hT
      obtain ⟨a, ha, e, _⟩ := hadd n hn ((needAdd_iff rec n).2 (Or.inl (pmGet_none.1 hO)))
      exact absurd e (hA a ha)
  | some o =>
    obtain ⟨ho, rfl⟩ := pmGet_some hO
    cases hT : pmGet b0.targetPeers o.store with
    | none =>
      have := (diff_remove_iff rec o).2 ⟨ho, Or.inl (pmGet_none.1 hT)⟩
      rw [← hp.toRemove] at this
      exact absurd rfl (hR o this)
    | some n =>
      obtain ⟨hn, hns⟩ := pmGet_some hT
      rcases roles_agree rec hp o n ho hn hns with e | e | e | e
      · exact congrArg some e
      · exact (hP ⟨o.store, o.id, .voter⟩ e rfl).elim
      · exact (hD ⟨o.store, o.id, .learner⟩ e rfl).elim
      · exact (hR o e rfl).elim

theorem sameRoles_of_settled (x : Nat) {cur : List Peer} {v : Option Role}
    (h : ∀ a ∈ b1.toAdd ++ b1.toRemove ++ b1.toPromote ++ b1.toDemote, a.store = x)
    (hcur : ∀ s, roleAt cur s = if s = x then v else roleAt b0.originPeers s)
    (hx : v = roleAt b0.targetPeers x) : SameRoles cur b0.targetPeers := by
  intro s
  rw [hcur]
  split
  · next e => rw [e]; exact hx
  · next e => exact settled rec hp s fun a ha hs => e (hs ▸ h a ha)

theorem round_none (hA : b1.toAdd = []) (hR : b1.toRemove = []) (hP : b1.toPromote = []) (hD : b1.toDemote = []) :
    RoundOk b0 b1 := by
  refine ⟨sinv_start rec hp, fun s => ?_⟩
  rw [hp.cur]
  exact settled rec hp s (by simp [hA, hR, hP, hD])

theorem round_transfer {L : Nat} (hL : LeaderCand b1 L) :
    SInv ⟨b0.originPeers, b0.originLeader⟩ (minVoters ⟨b0.originPeers, b0.originLeader⟩ (requestedTarget b0))
      (optTransfer b1 L) ∧
    (optTransfer b1 L).cur.peers = b0.originPeers ∧ (optTransfer b1 L).cur.leader = L := by
  obtain ⟨p, hpm, hps, hpr⟩ := leaderCand_voter (b := b1) (by rw [hp.cur]; exact rec.plainO) hL
  obtain ⟨h1, h2, h3⟩ := sinv_optTransfer (sinv_start rec hp) L (Or.inr ⟨p, hpm, hps, hpr⟩)
  rw [hp.cur] at hpm h2
  exact ⟨h1, h2, h3 (hps ▸ rec.store0 p hpm)⟩

theorem round_promote (n0 : Peer) (hA : b1.toAdd = []) (hR : b1.toRemove = []) (hP : b1.toPromote = [n0])
    (hD : b1.toDemote = []) : RoundOk b0 (execPromoteLearner b1 n0) := by
  obtain ⟨o, ho, hol, hof, rfl⟩ := (diff_promote_iff rec n0).1 (by rw [← hp.toPromote, hP]; simp)
  obtain ⟨nv, hnv, hnvs, hnvr⟩ := finV_iff.1 hof
  have h0 := sinv_start rec hp
  have hcurp : b1.cur.peers = b0.originPeers := by rw [hp.cur]
  obtain ⟨hs, hset⟩ := sinv_setRole (b' := execPromoteLearner b1 ⟨o.store, o.id, .voter⟩) h0
    ⟨o.store, o.id, .voter⟩ (.promoteLearner o.store o.id)
    (Or.inl ⟨rfl, rfl⟩) ⟨o, by rw [hcurp]; exact ho, rfl, rfl⟩
    (Nat.le_trans h0.voters (votersOf_setRole_voter _ _)) rfl rfl
  refine ⟨hs, ?_⟩
  rw [hset, hcurp]
  refine sameRoles_of_settled rec hp o.store (by simp [hA, hR, hP, hD]) (roleAt_setRole _ _ _) ?_
  rw [roleAt_of_mem rec.nodupO ho, ← hnvs, roleAt_of_mem rec.nodupT hnv, hnvr]
  rfl

theorem round_add (a : Peer) {L : Nat} (hA : b1.toAdd = [a]) (hR : b1.toRemove = []) (hP : b1.toPromote = [])
    (hD : b1.toDemote = []) (hL : LeaderCand b1 L) :
    RoundOk b0 { execAddPeer (optTransfer b1 L) a with kindRegion := true } := by
  obtain ⟨_, hadd, _⟩ := diff_add rec hp.toAdd
  obtain ⟨na, hna, hnas, hnar, hneed⟩ := hadd a (by rw [hA]; simp)
  have hfresh : a.store ∉ stores b0.originPeers := by
    rcases (needAdd_iff rec na).1 hneed with h | ⟨hd, hl, o, ho, hos, hor⟩
    · rw [← hnas]; exact h
    · exfalso
      have := (diff_remove_iff rec o).2 ⟨ho, Or.inr ⟨hd, hor, na, hna, hos.symm, hl⟩⟩
      rw [← hp.toRemove, hR] at this; cases this
  obtain ⟨hT, hTp, _⟩ := round_transfer rec hp hL
  obtain ⟨s1, s2⟩ := sinv_add hT a (by rw [hTp]; exact hfresh) (hnar ▸ rec.plainT na hna)
  refine ⟨sinv_congr s1 rfl rfl, ?_⟩
  show SameRoles (execAddPeer (optTransfer b1 L) a).cur.peers b0.targetPeers
  rw [s2, hTp]
  refine sameRoles_of_settled rec hp a.store (by simp [hA, hR, hP, hD]) (roleAt_snoc hfresh) ?_
  rw [← hnas, roleAt_of_mem rec.nodupT hna, hnar]

theorem round_remove (x : Peer) {L : Nat} (hA : b1.toAdd = []) (hR : b1.toRemove = [x]) (hP : b1.toPromote = [])
    (hD : b1.toDemote = []) (hL : LeaderCand b1 L) (hLs : L ≠ x.store) :
    RoundOk b0 { execRemovePeer (optTransfer b1 L) x with kindRegion := true } := by
  obtain ⟨hxO, hxT⟩ := (diff_remove_iff rec x).1 (by rw [← hp.toRemove, hR]; simp)
  have hxT' : x.store ∉ stores b0.targetPeers := by
    rcases hxT with h | ⟨hd, hv, n, hn, hns, hnr⟩
    · exact h
    · exfalso
      obtain ⟨_, _, h3⟩ := diff_add rec hp.toAdd
      obtain ⟨a, ha, _⟩ := h3 n hn ((needAdd_iff rec n).2 (Or.inr ⟨hd, hnr, x, hxO, hns.symm, hv⟩))
      rw [hA] at ha; cases ha
  obtain ⟨hT, hTp, hTl⟩ := round_transfer rec hp hL
  have hM : SameRoles (b0.originPeers.filter (fun p => p.store != x.store)) b0.targetPeers :=
    sameRoles_of_settled rec hp x.store (by simp [hA, hR, hP, hD]) (roleAt_erase _ _) (roleAt_eq_none.2 hxT').symm
  have hnf : (stores (b0.originPeers.filter (fun p => p.store != x.store))).Nodup :=
    nodup_stores_filter _ rec.nodupO
  refine ⟨sinv_congr (sinv_remove hT x (by rw [hTl]; exact Ne.symm hLs) ?_) rfl rfl, ?_⟩
  · rw [hTp, hM.voters hnf rec.nodupT]; exact min_le_target rec
  · show SameRoles ((optTransfer b1 L).cur.peers.filter (fun p => p.store != x.store)) b0.targetPeers
    rw [hTp]; exact hM

theorem round_demote (d : Peer) {L : Nat} (hids : (b0.originPeers.map (·.id)).Nodup) (hA : b1.toAdd = [])
    (hR : b1.toRemove = []) (hP : b1.toPromote = []) (hD : b1.toDemote = [d]) (hL : LeaderCand b1 L)
    (hLs : L ≠ d.store) : RoundOk b0 (execDemoteFollower (optTransfer b1 L) d) := by
  obtain ⟨_, o, ho, hov, ⟨nl, hnl, hnls, hnlr⟩, rfl⟩ := (diff_demote_iff rec d).1 (by rw [← hp.toDemote, hD]; simp)
  obtain ⟨hT, hTp, hTl⟩ := round_transfer rec hp hL
  have hM : SameRoles (setRole b0.originPeers o.store .learner) b0.targetPeers := by
    refine sameRoles_of_settled rec hp o.store (by simp [hA, hR, hP, hD]) (roleAt_setRole _ _ _) ?_
    rw [roleAt_of_mem rec.nodupO ho, ← hnls, roleAt_of_mem rec.nodupT hnl, hnlr]
    rfl
  have hnf : (stores (setRole b0.originPeers o.store .learner)).Nodup := by rw [stores_setRole]; exact rec.nodupO
  -- the leader's peer id differs from the demoted peer's id: ids are distinct and the leader is another peer
  obtain ⟨pl, hpl, hpls, hplr⟩ := hT.leader
  have hlid : o.id ≠ leaderPeerId (optTransfer b1 L).cur := by
    have hg : storePeer (optTransfer b1 L).cur (optTransfer b1 L).cur.leader = some pl := by
      rw [storePeer_eq_pmGet, ← hpls]; exact pmGet_of_mem hT.nodup hpl
    simp only [leaderPeerId, hg, idOf]
    intro eid
    rw [hTp] at hpl
    cases eq_of_mem_map hids ho hpl eid
    exact hLs (hTl.symm.trans hpls.symm)
  obtain ⟨s1, s2⟩ := sinv_setRole (b' := execDemoteFollower (optTransfer b1 L) ⟨o.store, o.id, .learner⟩) hT
    ⟨o.store, o.id, .learner⟩ (.demoteFollower o.store o.id)
    (Or.inr ⟨rfl, rfl, by rw [hTl]; exact Ne.symm hLs, hlid⟩) ⟨o, by rw [hTp]; exact ho, rfl, rfl⟩
    (by rw [hTp, hM.voters hnf rec.nodupT]; exact min_le_target rec) rfl rfl
  refine ⟨s1, ?_⟩
  rw [s2, hTp]; exact hM

end

theorem pending_one {b : B} (h : pendingCount b = 1) :
    (∃ a, b.toAdd = [a] ∧ b.toRemove = [] ∧ b.toPromote = [] ∧ b.toDemote = []) ∨
    (∃ x, b.toAdd = [] ∧ b.toRemove = [x] ∧ b.toPromote = [] ∧ b.toDemote = []) ∨
    (∃ n, b.toAdd = [] ∧ b.toRemove = [] ∧ b.toPromote = [n] ∧ b.toDemote = []) ∨
    (∃ d, b.toAdd = [] ∧ b.toRemove = [] ∧ b.toPromote = [] ∧ b.toDemote = [d]) := by
  obtain ⟨x, e⟩ := List.length_eq_one_iff.1
    (show (b.toAdd ++ b.toRemove ++ b.toPromote ++ b.toDemote).length = 1 by
      simp only [List.length_append]; exact h)
  rcases List.append_eq_singleton_iff.1 e with ⟨e3, hD⟩ | ⟨e3, hD⟩
  · obtain ⟨e2, hP⟩ := List.append_eq_nil_iff.1 e3
    obtain ⟨hA, hR⟩ := List.append_eq_nil_iff.1 e2
    exact Or.inr (Or.inr (Or.inr ⟨x, hA, hR, hP, hD⟩))
  · rcases List.append_eq_singleton_iff.1 e3 with ⟨e2, hP⟩ | ⟨e2, hP⟩
    · obtain ⟨hA, hR⟩ := List.append_eq_nil_iff.1 e2
      exact Or.inr (Or.inr (Or.inl ⟨x, hA, hR, hP, hD⟩))
    · rcases List.append_eq_singleton_iff.1 e2 with ⟨hA, hR⟩ | ⟨hA, hR⟩
      · exact Or.inr (Or.inl ⟨x, hA, hR, hP, hD⟩)
      · exact Or.inl ⟨x, hA, hR, hP, hD⟩

theorem planLoop_one {b b' : B} (h1 : pendingCount b = 1) (h : planLoop (pendingCount b) b = .ok b') :
    (peerPlan b).isEmpty = false ∧ b' = execPlan b (peerPlan b) := by
  rw [h1] at h
  unfold planLoop at h
  rw [h1, if_neg (by decide)] at h
  obtain ⟨hne, h⟩ := ok_of_guard h
  unfold planLoop at h
  split at h <;> cases h
  exact ⟨by simpa using hne, rfl⟩

section
variable {b0 b1 : B} {nid : Nat} (rec : Recorded b0) (hp : Prepared b0 b1 nid)
include rec hp

theorem planLoop_single {b' : B} (hids : (b0.originPeers.map (·.id)).Nodup) (hpc : pendingCount b1 ≤ 1)
    (hl : planLoop (pendingCount b1) b1 = .ok b') :
    RoundOk b0 b' ∧ b'.targetPeers = b0.targetPeers ∧ b'.targetLeader = reqLeader b0 := by
  by_cases h0 : pendingCount b1 = 0
  · rw [h0] at hl
    unfold planLoop at hl
    rw [h0] at hl
    cases hl
    simp only [pendingCount, Nat.add_eq_zero_iff, List.length_eq_zero_iff] at h0
    exact ⟨round_none rec hp h0.1.1.1 h0.1.1.2 h0.1.2 h0.2, hp.keeps.targetPeers, hp.leader⟩
  · have h1 : pendingCount b1 = 1 := Nat.le_antisymm hpc (Nat.pos_of_ne_zero h0)
    obtain ⟨hne, rfl⟩ := planLoop_one h1 hl
    refine ⟨?_, by rw [(execPlan_keeps _ _).1, hp.keeps.targetPeers], by rw [(execPlan_keeps _ _).2, hp.leader]⟩
    rcases pending_one h1 with ⟨a, hA, hR, hP, hD⟩ | ⟨a, hA, hR, hP, hD⟩ | ⟨a, hA, hR, hP, hD⟩ | ⟨a, hA, hR, hP, hD⟩
    · obtain ⟨L, e, hL⟩ := plan_one (b := b1) (by
        simp only [peerPlan_eq, planReplace_empty b1 (Or.inl hD) (Or.inr hR), planPromotePeer_empty hP,
          planDemotePeer_empty hD, planRemovePeer_empty hR, plan_skip_empty]) hne hA (planAddPeer_spec b1)
      rw [e]; exact round_add rec hp a hA hR hP hD hL
    · obtain ⟨L, e, hL, hLs⟩ := plan_one (b := b1) (by
        simp only [peerPlan_eq, planReplace_empty b1 (Or.inl hD) (Or.inl hA), planPromotePeer_empty hP,
          planDemotePeer_empty hD, planAddPeer_empty hA, plan_skip_empty]) hne hR (planRemovePeer_spec b1)
      rw [e]; exact round_remove rec hp a hA hR hP hD hL hLs
    · have e : peerPlan b1 = planPromotePeer b1 := plan_of_nonempty (by
        simp only [peerPlan_eq, planReplace_empty b1 (Or.inl hD) (Or.inl hA), planDemotePeer_empty hD,
          planRemovePeer_empty hR, planAddPeer_empty hA, plan_skip_empty]) hne
      have e' : planPromotePeer b1 = { promote := some a } := by
        unfold planPromotePeer; rw [hP, pmSorted_single]; rfl
      rw [e, e']; exact round_promote rec hp a hA hR hP hD
    · obtain ⟨L, e, hL, hLs⟩ := plan_one (b := b1) (by
        simp only [peerPlan_eq, planReplace_empty b1 (Or.inr hP) (Or.inl hA), planPromotePeer_empty hP,
          planRemovePeer_empty hR, planAddPeer_empty hA, plan_skip_empty]) hne hD (planDemotePeer_spec b1)
      rw [e]; exact round_demote rec hp a hids hA hR hP hD hL hLs

end

end PdModel.Builder
