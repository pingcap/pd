import PdModel.Lemmas.Builder
/-! What `setTargetLeaderIfNotExist` picks, what `prepareBuild` returns, and exactly which peers its pending maps
    contain, whether demotion in place is allowed (`allowDemote`) or not. -/
namespace PdModel.Builder
open PdModel.Steps PdModel.Spec PdModel.Spec.C08

theorem allowLeader_role {b : B} {p : Peer} {ig : Bool} (h : allowLeader b p ig = true) :
    p.role ≠ .learner ∧ p.role ≠ .demoting := by
  by_cases hc : (p.role == .learner || p.role == .demoting) = true
  · unfold allowLeader at h
    rw [if_pos hc] at h
    cases h
  · simpa using hc

theorem pickLeaderStep_cases (b : B) (best : Nat) (x : Peer) :
    pickLeaderStep b best x = best ∨ (pickLeaderStep b best x = x.store ∧ allowLeader b x b.force = true) := by
  unfold pickLeaderStep
  cases ha : allowLeader b x b.force
  · exact Or.inl rfl
  · simp only [Bool.not_true, Bool.false_eq_true, if_false]
    split
    · exact Or.inl rfl
    · split
      · exact Or.inr ⟨rfl, trivial⟩
      · split
        · exact Or.inr ⟨rfl, trivial⟩
        · exact Or.inl rfl

theorem setTarget_eq (b : B) : ∃ t, setTargetLeaderIfNotExist b = { b with targetLeader := t } ∧
    ((b.targetLeader ≠ 0 ∧ t = b.targetLeader) ∨
     (b.targetLeader = 0 ∧ (t = 0 ∨
        ∃ p ∈ b.targetPeers, p.store = t ∧ p.role ≠ .learner ∧ p.role ≠ .demoting))) := by
  unfold setTargetLeaderIfNotExist
  split
  · next h => exact ⟨b.targetLeader, rfl, Or.inl ⟨by simpa using h, rfl⟩⟩
  · next h =>
    refine ⟨_, rfl, Or.inr ⟨by simpa using h, ?_⟩⟩
    refine foldl_inv (fun t => t = 0 ∨ ∃ p ∈ b.targetPeers, p.store = t ∧ p.role ≠ .learner ∧ p.role ≠ .demoting)
      _ _ _ (Or.inl rfl) (fun acc x hx hacc => ?_)
    rcases pickLeaderStep_cases b acc x with e | ⟨e, ha⟩
    · rw [e]; exact hacc
    · rw [e]; exact Or.inr ⟨x, mem_pmSorted_mem hx, rfl, allowLeader_role ha⟩

theorem setTarget_plain (b : B) (hplain : plainRoles b.targetPeers)
    (hreq : b.targetLeader = 0 ∨ ∃ n ∈ b.targetPeers, n.store = b.targetLeader ∧ n.role = .voter) :
    ∃ t, setTargetLeaderIfNotExist b = { b with targetLeader := t } ∧
      (t = 0 ∨ ∃ n ∈ b.targetPeers, n.store = t ∧ n.role = .voter) ∧ (b.targetLeader = 0 ∨ t = b.targetLeader) := by
  obtain ⟨t, e, h⟩ := setTarget_eq b
  refine ⟨t, e, ?_⟩
  rcases h with ⟨hne, e'⟩ | ⟨h0, h⟩
  · exact ⟨Or.inr (e' ▸ hreq.resolve_left hne), Or.inr e'⟩
  · exact ⟨h.imp id fun ⟨p, hp, hps, hr, _⟩ => ⟨p, hp, hps, (hplain p hp).resolve_right hr⟩, Or.inl h0⟩

theorem reqLeader_voter {b0 : B} (rec : Recorded b0) :
    reqLeader b0 = 0 ∨ ∃ n ∈ b0.targetPeers, n.store = reqLeader b0 ∧ n.role = .voter := by
  unfold reqLeader
  cases hg : pmGet b0.targetPeers b0.targetLeader with
  | none => left; rfl
  | some p =>
    cases hl : isLearner p
    · right
      simp only [hl, Bool.false_eq_true, if_false]
      exact ⟨p, (pmGet_some hg).1, (pmGet_some hg).2,
        (rec.plainT p (pmGet_some hg).1).resolve_right fun e => by simp [isLearner, e] at hl⟩
    · left; simp [hl]

/-- the placement a recorded request asks for; a requested leader that is no voter of the target counts as
    none (`reqLeader`: `prepareBuild` cancels it) -/
def requestedTarget (b0 : B) : C08.Target := targetOfPeers b0.targetPeers (reqLeader b0)

theorem votersOf_target {T : List Peer} (tl : Nat) (h : plainRoles T) :
    targetVoters (targetOfPeers T tl) = votersOf T := by
  simp only [targetVoters, targetOfPeers, votersOf, List.countP_map]
  apply List.countP_congr
  intro p hp
  rcases h p hp with e | e <;> simp [e]

theorem minVoters_eq {b0 : B} (rec : Recorded b0) :
    minVoters ⟨b0.originPeers, b0.originLeader⟩ (requestedTarget b0) =
      min (votersOf b0.originPeers) (votersOf b0.targetPeers) := by
  unfold minVoters requestedTarget
  rw [plain_voterCount rec.plainO, votersOf_target _ rec.plainT]

theorem allocIds_spec {l : List Peer} {nid : Nat} {l' : List Peer} (h : allocIds l nid = .ok l') :
    l'.map (fun p => (p.store, p.role)) = l.map (fun p => (p.store, p.role)) := by
  induction l generalizing nid l' with
  | nil => simp [allocIds] at h; subst h; rfl
  | cons n rest ih =>
    simp only [allocIds] at h
    split at h
    · split at h
      · cases h
      · cases hr : allocIds rest (nid + 1) with
        | error e => simp [hr, Except.map] at h
        | ok r =>
          simp only [hr, Except.map, Except.ok.injEq] at h
          subst h
          simp [ih hr]
    · cases hr : allocIds rest nid with
      | error e => simp [hr, Except.map] at h
      | ok r =>
        simp only [hr, Except.map, Except.ok.injEq] at h
        subst h
        simp [ih hr]

theorem targetOf_eq (b : B) (o n0 : Peer) (h : pmGet b.targetPeers o.store = some n0) :
    targetOf b o = some ⟨o.store, o.id, n0.role⟩ := by
  unfold targetOf
  rw [h]
  simp only [Option.map_some, Option.some.injEq]
  split
  · rfl
  · next hid =>
    have hs := (pmGet_some h).2
    have : o.id = n0.id := by simpa using hid
    cases n0; simp_all

theorem targetOf_none (b : B) (o : Peer) (h : pmGet b.targetPeers o.store = none) :
    targetOf b o = none := by
  unfold targetOf; rw [h]; rfl

theorem targetOf_eq_some {b : B} {o n : Peer} :
    targetOf b o = some n ↔ ∃ n0, pmGet b.targetPeers o.store = some n0 ∧ n = ⟨o.store, o.id, n0.role⟩ := by
  cases hg : pmGet b.targetPeers o.store with
  | none => rw [targetOf_none b o hg]; exact ⟨nofun, fun ⟨_, e, _⟩ => nomatch e⟩
  | some n0 =>
    rw [targetOf_eq b o n0 hg]
    exact ⟨fun h => ⟨n0, rfl, (Option.some.inj h).symm⟩, fun ⟨_, e, h⟩ => by cases e; rw [h]⟩

/-- the shape the promote and demote maps of `diffOrigin` share -/
theorem mem_pending {b : B} {c : Peer → Peer → Bool} {n : Peer} :
    n ∈ b.originPeers.filterMap (fun o =>
        match targetOf b o with
        | some n => if c o n then some n else none
        | none => none) ↔
      ∃ o ∈ b.originPeers, ∃ n0, pmGet b.targetPeers o.store = some n0 ∧ n = ⟨o.store, o.id, n0.role⟩ ∧
        c o n = true := by
  simp only [List.mem_filterMap]
  constructor
  · rintro ⟨o, ho, hc⟩
    split at hc
    · next n' hn' =>
      split at hc <;> cases hc
      obtain ⟨n0, e, rfl⟩ := targetOf_eq_some.1 hn'
      exact ⟨o, ho, n0, e, rfl, ‹_›⟩
    · cases hc
  · rintro ⟨o, ho, n0, e, rfl, hc⟩
    exact ⟨o, ho, by rw [targetOf_eq b o n0 e]; simp only [hc, if_true]⟩

theorem targetOf_store {b : B} {o n : Peer} (h : targetOf b o = some n) : n.store = o.store := by
  obtain ⟨_, _, rfl⟩ := targetOf_eq_some.1 h; rfl

theorem nodup_pending {b : B} (c : Peer → Peer → Bool) (hn : (stores b.originPeers).Nodup) :
    (stores (b.originPeers.filterMap (fun o =>
        match targetOf b o with
        | some n => if c o n then some n else none
        | none => none))).Nodup := by
  refine stores_filterMap_nodup _ _ (fun o n hf => ?_) hn
  split at hf
  · next hn' => split at hf <;> cases hf; exact targetOf_store hn'
  · cases hf

theorem cancelTargetLeader_eq (b : B) : cancelTargetLeader b = { b with targetLeader := reqLeader b } := by
  unfold cancelTargetLeader reqLeader
  split
  · split <;> rfl
  · rfl

theorem finishPrepare_eq (b : B) :
    finishPrepare b = { b with useJoint := if pendingCount b ≤ 1 then false else b.useJoint, peerAddStep := [] } := by
  unfold finishPrepare
  split <;> rfl

/-- everything the step builders need to know about the state `prepareBuild` returns -/
structure Prepared (b0 b1 : B) (nid : Nat) : Prop where
  keeps     : Keeps b0 b1
  steps     : b1.steps = []
  cur       : b1.cur = ⟨b0.originPeers, b0.originLeader⟩
  toRemove  : b1.toRemove = (diffOrigin (clearPending b0)).toRemove
  toPromote : b1.toPromote = (diffOrigin (clearPending b0)).toPromote
  toDemote  : b1.toDemote = (diffOrigin (clearPending b0)).toDemote
  toAdd     : allocIds ((pmSorted b0.targetPeers).filter (needAdd (diffOrigin (clearPending b0)))) nid = .ok b1.toAdd
  leader    : b1.targetLeader = reqLeader b0

/-- `u`: `prepareBuild` may switch joint consensus off, never on -/
theorem prepareBuild_ok {b0 b1 : B} {nid : Nat} (h : prepareBuild b0 nid = .ok b1) :
    ∃ A u, allocIds ((pmSorted b0.targetPeers).filter (needAdd (diffOrigin (clearPending b0)))) nid = .ok A ∧
      (u = true → b0.useJoint = true) ∧
      b1 = { diffOrigin (clearPending b0) with
             toAdd := A, targetLeader := reqLeader b0, cur := ⟨b0.originPeers, b0.originLeader⟩,
             useJoint := u, peerAddStep := [] } := by
  obtain ⟨_, h⟩ := ok_of_guard h
  unfold diffTarget at h
  cases ha : allocIds ((pmSorted (diffOrigin (clearPending b0)).targetPeers).filter
      (needAdd (diffOrigin (clearPending b0)))) nid with
  | error e => rw [ha] at h; cases h
  | ok A =>
    rw [ha] at h
    obtain ⟨_, h⟩ := ok_of_guard (b := b1) h
    rw [finishPrepare_eq, cancelTargetLeader_eq] at h
    cases h
    refine ⟨A, _, ha, ?_, rfl⟩
    split
    · intro e; cases e
    · exact id

theorem prepared_of {b0 b1 : B} {nid : Nat} (rec : Recorded b0) (h : prepareBuild b0 nid = .ok b1) :
    Prepared b0 b1 nid := by
  obtain ⟨A, u, hA, _, rfl⟩ := prepareBuild_ok h
  exact ⟨⟨rfl, rfl, rfl, rfl, rfl⟩, rec.noSteps, rfl, rfl, rfl, rfl, hA, rfl⟩

theorem prepareBuild_useJoint {b0 b1 : B} {nid : Nat} (h : prepareBuild b0 nid = .ok b1)
    (hj : b1.useJoint = true) : b0.useJoint = true := by
  obtain ⟨A, u, _, hu, rfl⟩ := prepareBuild_ok h
  exact hu hj

section
variable {b0 : B} (rec : Recorded b0)
include rec

theorem diff_remove_iff (o : Peer) :
    o ∈ (diffOrigin (clearPending b0)).toRemove ↔
      o ∈ b0.originPeers ∧ (o.store ∉ stores b0.targetPeers ∨
        (b0.allowDemote = false ∧ o.role = .voter ∧ ∃ n ∈ b0.targetPeers, n.store = o.store ∧ n.role = .learner)) := by
  simp only [diffOrigin, List.mem_filter]
  refine and_congr_right fun ho => ?_
  cases hg : pmGet b0.targetPeers o.store with
  | none =>
    rw [targetOf_none (clearPending b0) o hg]
    exact ⟨fun _ => Or.inl (pmGet_none.1 hg), fun _ => rfl⟩
  | some n0 =>
    obtain ⟨hn0, hs⟩ := pmGet_some hg
    rw [targetOf_eq (clearPending b0) o n0 hg]
    simp only [isLearner, Bool.and_eq_true, Bool.not_eq_true', beq_eq_false_iff_ne, ne_eq, beq_iff_eq]
    constructor
    · rintro ⟨⟨hv, hl⟩, hd⟩
      exact Or.inr ⟨hd, (rec.plainO o ho).resolve_right hv, n0, hn0, hs, hl⟩
    · rintro (h | ⟨hd, hv, n, hn, hns, hnr⟩)
      · exact absurd (mem_stores.2 ⟨n0, hn0, hs⟩) h
      · cases eq_of_mem_store rec.nodupT hn hn0 (hns.trans hs.symm)
        exact ⟨⟨by simp [hv], hnr⟩, hd⟩

theorem diff_promote_iff (n : Peer) :
    n ∈ (diffOrigin (clearPending b0)).toPromote ↔
      ∃ o ∈ b0.originPeers, o.role = .learner ∧ finV b0.targetPeers o.store = true ∧ n = ⟨o.store, o.id, .voter⟩ := by
  refine (mem_pending (b := clearPending b0) (c := fun o n => isLearner o && !isLearner n)).trans ?_
  constructor
  · rintro ⟨o, ho, n0, e, rfl, hc⟩
    simp only [isLearner, Bool.and_eq_true, beq_iff_eq, Bool.not_eq_true', beq_eq_false_iff_ne, ne_eq] at hc
    have hv := (rec.plainT n0 (pmGet_some e).1).resolve_right hc.2
    exact ⟨o, ho, hc.1, finV_iff.2 ⟨n0, (pmGet_some e).1, (pmGet_some e).2, hv⟩, by rw [hv]⟩
  · rintro ⟨o, ho, hl, hf, rfl⟩
    obtain ⟨n0, hn0, hs, hv⟩ := finV_iff.1 hf
    exact ⟨o, ho, n0, (pmGet_iff rec.nodupT).2 ⟨hn0, hs⟩, by rw [hv], by simp [isLearner, hl]⟩

theorem diff_demote_iff (d : Peer) :
    d ∈ (diffOrigin (clearPending b0)).toDemote ↔
      b0.allowDemote = true ∧ ∃ o ∈ b0.originPeers, o.role = .voter ∧
        (∃ n ∈ b0.targetPeers, n.store = o.store ∧ n.role = .learner) ∧ d = ⟨o.store, o.id, .learner⟩ := by
  refine (mem_pending (b := clearPending b0)
    (c := fun o n => !isLearner o && isLearner n && (clearPending b0).allowDemote)).trans ?_
  constructor
  · rintro ⟨o, ho, n0, e, rfl, hc⟩
    simp only [isLearner, Bool.and_eq_true, beq_iff_eq, Bool.not_eq_true', beq_eq_false_iff_ne, ne_eq] at hc
    exact ⟨hc.2, o, ho, (rec.plainO o ho).resolve_right hc.1.1,
      ⟨n0, (pmGet_some e).1, (pmGet_some e).2, hc.1.2⟩, by rw [hc.1.2]⟩
  · rintro ⟨hd, o, ho, hv, ⟨n0, hn0, hs, hr⟩, rfl⟩
    have hd' : (clearPending b0).allowDemote = true := hd
    exact ⟨o, ho, n0, (pmGet_iff rec.nodupT).2 ⟨hn0, hs⟩, by rw [hr], by simp [isLearner, hv, hd']⟩

theorem diff_add {nid : Nat} {A : List Peer}
    (hA : allocIds ((pmSorted b0.targetPeers).filter (needAdd (diffOrigin (clearPending b0)))) nid = .ok A) :
    (stores A).Nodup ∧
    (∀ a ∈ A, ∃ n ∈ b0.targetPeers, n.store = a.store ∧ n.role = a.role ∧ needAdd (diffOrigin (clearPending b0)) n = true) ∧
    (∀ n ∈ b0.targetPeers, needAdd (diffOrigin (clearPending b0)) n = true → ∃ a ∈ A, a.store = n.store ∧ a.role = n.role) := by
  have hspec := allocIds_spec hA
  obtain ⟨m1, m2⟩ := map_eq_mem (fun p : Peer => (p.store, p.role)) _ _ hspec
  refine ⟨?_, ?_, ?_⟩
  · have e : stores A = stores ((pmSorted b0.targetPeers).filter (needAdd (diffOrigin (clearPending b0)))) := by
      have := congrArg (List.map Prod.fst) hspec
      simpa [stores, List.map_map, Function.comp_def] using this
    rw [e]
    exact nodup_stores_filter _ (nodup_pmSorted rec.nodupT)
  · intro a ha
    obtain ⟨n, hn, e⟩ := m1 a ha
    simp only [Prod.mk.injEq] at e
    obtain ⟨hn1, hn2⟩ := List.mem_filter.1 hn
    exact ⟨n, mem_pmSorted_mem hn1, e.1, e.2, hn2⟩
  · intro n hn hneed
    obtain ⟨a, ha, e⟩ := m2 n (List.mem_filter.2 ⟨(mem_pmSorted rec.nodupT).2 hn, hneed⟩)
    simp only [Prod.mk.injEq] at e
    exact ⟨a, ha, e.1, e.2⟩

theorem needAdd_iff (n : Peer) :
    needAdd (diffOrigin (clearPending b0)) n = true ↔
      (n.store ∉ stores b0.originPeers ∨
       (b0.allowDemote = false ∧ n.role = .learner ∧ ∃ o ∈ b0.originPeers, o.store = n.store ∧ o.role = .voter)) := by
  unfold needAdd
  have e1 : (diffOrigin (clearPending b0)).originPeers = b0.originPeers := rfl
  have e2 : (diffOrigin (clearPending b0)).allowDemote = b0.allowDemote := rfl
  rw [e1, e2]
  cases hg : pmGet b0.originPeers n.store with
  | none => simp [pmGet_none.1 hg]
  | some o =>
    have hm := pmGet_some hg
    have hin : n.store ∈ stores b0.originPeers := mem_stores.2 ⟨o, hm.1, hm.2⟩
    simp only [isLearner, Bool.and_eq_true, Bool.not_eq_true', beq_eq_false_iff_ne, ne_eq, beq_iff_eq, hin,
      not_true_eq_false, false_or]
    constructor
    · rintro ⟨⟨hd, ho⟩, hn⟩
      exact ⟨hd, hn, o, hm.1, hm.2, (rec.plainO o hm.1).resolve_right ho⟩
    · rintro ⟨hd, hn, o', ho', hs', hr'⟩
      cases eq_of_mem_store rec.nodupO ho' hm.1 (hs'.trans hm.2.symm)
      exact ⟨⟨hd, by rw [hr']; simp⟩, hn⟩

end

section
variable {b0 : B} (rec : Recorded b0) (hd : b0.allowDemote = true)
include rec hd

theorem diff_remove_joint (o : Peer) :
    o ∈ (diffOrigin (clearPending b0)).toRemove ↔ o ∈ b0.originPeers ∧ o.store ∉ stores b0.targetPeers := by
  rw [diff_remove_iff rec o]
  refine and_congr_right fun _ => ⟨?_, Or.inl⟩
  rintro (h | ⟨hf, _⟩)
  · exact h
  · rw [hd] at hf; cases hf

theorem needAdd_joint (n : Peer) :
    needAdd (diffOrigin (clearPending b0)) n = true ↔ n.store ∉ stores b0.originPeers := by
  rw [needAdd_iff rec n]
  constructor
  · rintro (h | ⟨hf, _⟩)
    · exact h
    · rw [hd] at hf; cases hf
  · exact Or.inl

end

end PdModel.Builder
