import PdModel.Model.Syncer
import PdModel.Lemmas.HistoryBuf
import PdModel.Lemmas.SyncRegion
/-! What the region syncer's messages decode to, what its senders emit (`Carries`) and what applying that does to a
    follower's cache and index. -/
namespace PdModel.Syncer
open PdModel.HistoryBuf PdModel.SyncRegion

/-- a present leader peer has a non-zero id (id 0 is the wire encoding of "no leader") -/
def WF (r : Region) : Prop := ∀ p : Peer, r.leader = some p → p.id ≠ 0

theorem decode_leader (r : Region) (h : WF r) :
    (if (wireLeader r).id != 0 then some (wireLeader r) else none) = r.leader := by
  unfold wireLeader
  cases hl : r.leader with
  | none => simp [emptyPeer]
  | some p => simp [h p hl]

theorem decodeAux_encode (rs : List Region) (h : ∀ r ∈ rs, WF r) :
    decodeAux true (rs.map (·.md)) (rs.map (·.stat)) (rs.map wireLeader) = rs := by
  induction rs with
  | nil => rfl
  | cons r rs ih =>
    simp only [List.map_cons, decodeAux, List.head?_cons, List.headD_cons, List.tail_cons, if_true]
    rw [ih (fun x hx => h x (by simp [hx])), decode_leader r (h r (by simp))]

/-- the message that carries the regions `rs` under the start index `s`; every message a leader sends has this form -/
def encode (s : Nat) (rs : List Region) : Msg :=
  { start := s, regions := rs.map (·.md), stats := rs.map (·.stat), leaders := rs.map wireLeader }

theorem decode_encode (s : Nat) (rs : List Region) (h : ∀ r ∈ rs, WF r) : decode (encode s rs) = rs := by
  unfold decode encode
  simp only [List.length_map, beq_self_eq_true]
  exact decodeAux_encode rs h

theorem incrementalMsg_some (s : Nat) (rs : List Region) : incrementalMsg s (rs.map some) = encode s rs := by
  have : (rs.map some).map (fun o : Option Region => o.getD default) = rs := by
    rw [List.map_map]; exact List.map_id' rs
  unfold incrementalMsg
  simp only [this]
  rfl

theorem decodeAux_length (hs : Bool) (ms : List Meta) (ss : List Stat) (ls : List Peer) :
    (decodeAux hs ms ss ls).length = ms.length := by
  induction ms generalizing ss ls with
  | nil => rfl
  | cons m ms ih => simp [decodeAux, ih]

theorem decode_length (m : Msg) : (decode m).length = m.regions.length := decodeAux_length _ _ _ _

theorem decodeAux_append (h : Bool) (ms1 : List Meta) :
    ∀ (ss1 : List Stat) (ls1 : List Peer) (ms2 : List Meta) (ss2 : List Stat) (ls2 : List Peer),
      ss1.length = ms1.length → ls1.length = ms1.length →
      decodeAux h (ms1 ++ ms2) (ss1 ++ ss2) (ls1 ++ ls2) = decodeAux h ms1 ss1 ls1 ++ decodeAux h ms2 ss2 ls2 := by
  induction ms1 with
  | nil =>
    intro ss1 ls1 ms2 ss2 ls2 h1 h2
    have : ss1 = [] := List.length_eq_zero_iff.1 h1
    have : ls1 = [] := List.length_eq_zero_iff.1 h2
    subst_vars; simp [decodeAux]
  | cons m ms ih =>
    intro ss1 ls1 ms2 ss2 ls2 h1 h2
    cases ss1 with
    | nil => simp at h1
    | cons s ss =>
      cases ls1 with
      | nil => simp at h2
      | cons l ls =>
        simp only [List.cons_append, decodeAux, List.head?_cons, List.headD_cons, List.tail_cons]
        rw [ih ss ls ms2 ss2 ls2 (by simpa using h1) (by simpa using h2)]

def Square (m : Msg) : Prop := m.stats.length = m.regions.length ∧ m.leaders.length = m.regions.length

theorem decode_square (m : Msg) (h : Square m) : decode m = decodeAux true m.regions m.stats m.leaders := by
  unfold decode; simp [h.1]

theorem flatMap_square (start : Nat) (ms : List Msg) (h : ∀ m ∈ ms, Square m) :
    Square { start := start, regions := ms.flatMap (·.regions), stats := ms.flatMap (·.stats),
             leaders := ms.flatMap (·.leaders) } := by
  induction ms with
  | nil => exact ⟨rfl, rfl⟩
  | cons m ms ih =>
    have := ih (fun x hx => h x (by simp [hx]))
    have hm := h m (by simp)
    unfold Square at this hm ⊢
    simp only [List.flatMap_cons, List.length_append] at this ⊢
    omega

theorem decodeAux_flatMap (ms : List Msg) (h : ∀ m ∈ ms, Square m) :
    decodeAux true (ms.flatMap (·.regions)) (ms.flatMap (·.stats)) (ms.flatMap (·.leaders)) = ms.flatMap decode := by
  induction ms with
  | nil => rfl
  | cons m ms ih =>
    have hm := h m (by simp)
    simp only [List.flatMap_cons]
    rw [decodeAux_append true m.regions m.stats m.leaders _ _ _ hm.1 hm.2, ih (fun x hx => h x (by simp [hx])),
      decode_square m hm]

theorem fullSyncLoop_nil (batch : Nat) (k : Bool) (ms : List Meta) (ss : List Stat) (ls : List Peer) (last : Nat) :
    fullSyncLoop batch k [] ms ss ls last = [] := rfl

/-- messages whose start index continues where the previous one ended -/
def Chained : Nat → List Msg → Prop
  | _, [] => True
  | s, m :: ms => m.start = s ∧ Chained (s + m.regions.length) ms

def Aligned (batch : Nat) (m : Msg) : Prop :=
  m.stats.length = m.regions.length ∧ m.leaders.length = m.regions.length ∧ m.regions.length ≤ batch

/-- The messages `ms` carry the regions `rs` from index `s` on, in chunks of at most `B`.  This is what each of the three
    senders (full synchronisation, broadcast, incremental message) is shown to emit and all that the follower's side
    needs to know of them. -/
inductive Carries (B : Nat) : Nat → List Msg → List Region → Prop
  | nil (s : Nat) : Carries B s [] []
  | cons {s : Nat} {chunk : List Region} {ms : List Msg} {rest : List Region} :
      chunk.length ≤ B → Carries B (s + chunk.length) ms rest → Carries B s (encode s chunk :: ms) (chunk ++ rest)

theorem Carries.spec {B s : Nat} {ms : List Msg} {rs : List Region} (h : Carries B s ms rs) :
    ((∀ r ∈ rs, WF r) → ms.flatMap decode = rs) ∧ Chained s ms ∧ ∀ m ∈ ms, Aligned B m := by
  induction h with
  | nil s => exact ⟨fun _ => rfl, trivial, fun _ hm => nomatch hm⟩
  | @cons s chunk ms rest hB _ ih =>
    have hlen : (encode s chunk).regions.length = chunk.length := List.length_map ..
    refine ⟨fun hwf => ?_, ⟨rfl, hlen ▸ ih.2.1⟩, fun m hm => ?_⟩
    · rw [List.flatMap_cons, decode_encode s chunk fun r hr => hwf r (List.mem_append_left _ hr),
        ih.1 fun r hr => hwf r (List.mem_append_right _ hr)]
    · rcases List.mem_cons.1 hm with rfl | hm
      · exact ⟨(List.length_map ..).trans hlen.symm, (List.length_map ..).trans hlen.symm, hlen ▸ hB⟩
      · exact ih.2.2 m hm

/-- The loop with the repair of F3 (`keepLeaders = false`) while its three slices hold the regions `acc`: it sends `acc`
    followed by the rest, in chunks of at most the batch size (of one region when that is 0).  The first premise excludes
    the one state in which held regions would be dropped (slices filled, nothing left to iterate over); the loop does not
    get there: it starts with empty slices and sends at the last region. -/
theorem fullSyncLoop_carries (batch : Nat) (rest : List Region) :
    ∀ (acc : List Region) (last : Nat), acc = [] ∨ rest ≠ [] → acc.length < max batch 1 →
      Carries (max batch 1) last
        (fullSyncLoop batch false rest (acc.map (·.md)) (acc.map (·.stat)) (acc.map wireLeader) last) (acc ++ rest) := by
  induction rest with
  | nil =>
    intro acc last h _
    rw [h.resolve_right (· rfl)]
    exact .nil last
  | cons r rest ih =>
    intro acc last _ hlt
    have hm : ∀ {β : Type} (g : Region → β), acc.map g ++ [g r] = (acc ++ [r]).map g := fun g => by simp
    unfold fullSyncLoop
    simp only [hm, Bool.false_eq_true, if_false]
    split
    · next hc =>
      rw [Bool.and_eq_true, decide_eq_true_eq, List.length_map] at hc
      have := ih (acc ++ [r]) last (.inr (by intro he; simp [he] at hc)) (Nat.lt_of_lt_of_le hc.1 (Nat.le_max_left ..))
      rwa [List.append_assoc] at this
    · have := Carries.cons (s := last) (chunk := acc ++ [r]) (by rw [List.length_append]; exact hlt)
        (ih [] _ (.inl rfl) (Nat.lt_of_lt_of_le Nat.zero_lt_one (Nat.le_max_right ..)))
      rw [List.length_map]
      rwa [List.nil_append, List.append_assoc] at this

theorem fullSync_carries (batch : Nat) (regions : List Region) :
    Carries (max batch 1) 0 (fullSync batch regions) regions :=
  fullSyncLoop_carries batch regions [] 0 (.inl rfl) (Nat.lt_of_lt_of_le Nat.zero_lt_one (Nat.le_max_right ..))

def NoFail (f : Follower) : Prop := f.failOnce = [] ∧ f.failAlways = []

theorem applyOneF_noFail (f : Follower) (h : NoFail f) (r : Region) :
    applyOneF f r = applyOne f r ∧ NoFail (applyOne f r) := by
  unfold applyOneF
  simp [h.1, h.2, applyOne, NoFail]

theorem applyOneF_cache (f : Follower) (r : Region) : (applyOneF f r).cache = applyRegion f.cache r := by
  unfold applyOneF
  split
  · rfl
  · split <;> rfl

theorem foldl_applyOneF_cache (rs : List Region) (f : Follower) :
    (rs.foldl applyOneF f).cache = rs.foldl applyRegion f.cache := by
  induction rs generalizing f with
  | nil => rfl
  | cons r rs ih => simp only [List.foldl_cons]; rw [ih, applyOneF_cache]

theorem foldl_applyOneF_index (rs : List Region) (f : Follower) (h : NoFail f) :
    (rs.foldl applyOneF f).hist.index = f.hist.index + rs.length ∧ NoFail (rs.foldl applyOneF f) := by
  induction rs generalizing f with
  | nil => exact ⟨rfl, h⟩
  | cons r rs ih =>
    obtain ⟨h1, h2⟩ := applyOneF_noFail f h r
    obtain ⟨h3, h4⟩ := ih (applyOne f r) h2
    rw [List.foldl_cons, h1]
    refine ⟨h3.trans ?_, h4⟩
    show (record f.hist r false).index + rs.length = _
    rw [record_index, List.length_cons, Nat.add_assoc, Nat.add_comm 1]

theorem applyMsg_cache (f : Follower) (m : Msg) :
    (applyMsg f m).cache = (decode m).foldl applyRegion f.cache := by
  unfold applyMsg
  simp only
  rw [foldl_applyOneF_cache]
  split <;> rfl

theorem applyMsg_index (f : Follower) (h : NoFail f) (m : Msg) :
    (applyMsg f m).hist.index = m.start + m.regions.length ∧ NoFail (applyMsg f m) := by
  unfold applyMsg
  simp only
  rw [← decode_length]
  split
  · exact (resetWithIndex_fields f.hist m.start false).2.2.2.2 ▸
      foldl_applyOneF_index (decode m) { f with hist := resetWithIndex f.hist m.start false } h
  · next hh =>
    rw [bne_iff_ne, Decidable.not_not] at hh
    exact hh ▸ foldl_applyOneF_index (decode m) f h

theorem applyMsgs_cache (ms : List Msg) (f : Follower) :
    (ms.foldl applyMsg f).cache = (ms.flatMap decode).foldl applyRegion f.cache := by
  induction ms generalizing f with
  | nil => rfl
  | cons m ms ih =>
    simp only [List.foldl_cons, List.flatMap_cons, List.foldl_append]
    rw [ih, applyMsg_cache]

/-- What every way of synchronising comes down to on the follower.  Its own index matters only when nothing is sent: a
    message puts the index at its start wherever it was. -/
theorem Carries.applied {B s : Nat} {ms : List Msg} {rs : List Region} (h : Carries B s ms rs) :
    ∀ f : Follower, f.hist.index = s → (∀ r ∈ rs, WF r) → NoFail f →
      (ms.foldl applyMsg f).cache = rs.foldl applyRegion f.cache ∧
      (ms.foldl applyMsg f).hist.index = s + rs.length := by
  induction h with
  | nil s => exact fun f hf _ _ => ⟨rfl, hf⟩
  | @cons s chunk ms rest _ _ ih =>
    intro f _ hwf hnf
    obtain ⟨hi, hnf'⟩ := applyMsg_index f hnf (encode s chunk)
    rw [show (encode s chunk).regions.length = chunk.length from List.length_map ..] at hi
    obtain ⟨h1, h2⟩ := ih _ hi (fun r hr => hwf r (List.mem_append_right _ hr)) hnf'
    rw [List.foldl_cons, List.foldl_append, List.length_append, ← Nat.add_assoc, h1, h2, applyMsg_cache,
      decode_encode s chunk fun r hr => hwf r (List.mem_append_left _ hr)]
    exact ⟨rfl, rfl⟩

/-- nothing in the follower's cache is newer than what the leader sends: an overlapping cached region has no
    higher version, and the cached region of the same id has neither a higher version nor a higher conf version -/
def NotNewer (c : Cache) (r : Region) : Prop :=
  (∀ x ∈ c, overlap r.md x.md = true → x.md.version ≤ r.md.version) ∧
  (∀ x ∈ c, x.md.id = r.md.id → x.md.version ≤ r.md.version ∧ x.md.confVer ≤ r.md.confVer)

theorem not_stale_of_notNewer {c : Cache} {r : Region} (h : NotNewer c r) : isStale c r = false := by
  unfold isStale
  rw [Bool.or_eq_false_iff]
  constructor
  · rw [Bool.eq_false_iff]
    intro hany
    rw [List.any_eq_true] at hany
    obtain ⟨x, hx, hv⟩ := hany
    have hxc : x ∈ c ∧ overlap r.md x.md = true := by
      unfold relevantOverlaps at hx
      split at hx
      · split at hx
        · cases hx
        · exact List.mem_filter.1 hx
      · exact List.mem_filter.1 hx
    have := h.1 x hxc.1 hxc.2
    simp at hv; omega
  · cases hf : Cache.find c r.md.id with
    | none => rfl
    | some o =>
      obtain ⟨hoc, hoid⟩ := find_some_mem c _ o hf
      have := h.2 o hoc hoid
      simp only [Bool.or_eq_false_iff, decide_eq_false_iff_not]
      omega

theorem foldl_applyRegion_consistent (l : List Region) (c : Cache) (hc : c.Pairwise Compat) :
    (l.foldl applyRegion c).Pairwise Compat :=
  foldl_inv (List.Pairwise Compat) applyRegion l c hc fun acc r _ h =>
    applyRegion_ind r h (consistent_putRegion acc h r)

theorem foldl_applyRegion_keeps (l : List Region) (x : Region) (hx : ∀ r ∈ l, Compat x r) (c : Cache) (h : x ∈ c) :
    x ∈ l.foldl applyRegion c :=
  foldl_inv (x ∈ ·) applyRegion l c h fun acc r hr h =>
    applyRegion_ind (P := (x ∈ ·)) r h (putRegion_keeps acc r x h (hx r hr))

theorem notNewer_putRegion {c : Cache} {r r' : Region} (h : NotNewer c r') (hc : Compat r r') :
    NotNewer (putRegion c r) r' := by
  constructor
  · intro x hx hov
    rcases (putRegion_spec c r).2 x hx with rfl | hx'
    · exact absurd (hc.2.symm.trans hov) Bool.false_ne_true
    · exact h.1 x hx'.1 hov
  · intro x hx hid
    rcases (putRegion_spec c r).2 x hx with rfl | hx'
    · exact absurd hid hc.1
    · exact h.2 x hx'.1 hid

/-- each region is accepted, leaves the later ones not outdated, and is not displaced by them -/
theorem foldl_applyRegion_into (l : List Region) :
    ∀ c : Cache, l.Pairwise Compat → (∀ r ∈ l, NotNewer c r) → ∀ r ∈ l, r ∈ l.foldl applyRegion c := by
  induction l with
  | nil => intro _ _ _ r hr; cases hr
  | cons r l ih =>
    intro c hp hn x hx
    rw [List.pairwise_cons] at hp
    rw [List.foldl_cons, applyRegion_accept (not_stale_of_notNewer (hn r List.mem_cons_self))]
    rcases List.mem_cons.1 hx with rfl | hx
    · exact foldl_applyRegion_keeps l x hp.1 _ (putRegion_spec c x).1
    · exact ih _ hp.2 (fun y hy => notNewer_putRegion (hn y (List.mem_cons_of_mem _ hy)) (hp.1 y hy)) x hx

theorem applyRegion_fresh (c : Cache) (r : Region) (h : ∀ x ∈ c, Compat x r) :
    applyRegion c r = c ++ [r] := by
  have hnn : NotNewer c r :=
    ⟨fun x hx ho => absurd ((h x hx).2.symm.trans ho) Bool.false_ne_true, fun x hx hid => absurd hid (h x hx).1⟩
  rw [applyRegion_accept (not_stale_of_notNewer hnn)]
  unfold putRegion
  congr 1
  rw [List.filter_eq_self]
  intro x hx
  simp [keepOnPut, (h x hx).1, (h x hx).2]

theorem foldl_applyRegion_compat (l : List Region) :
    ∀ c : Cache, (c ++ l).Pairwise Compat → l.foldl applyRegion c = c ++ l := by
  induction l with
  | nil => intro c _; simp
  | cons r l ih =>
    intro c hp
    simp only [List.foldl_cons]
    have hp' : ((c ++ [r]) ++ l).Pairwise Compat := by simpa using hp
    have hfresh : ∀ x ∈ c, Compat x r := by
      intro x hx
      rw [List.pairwise_append] at hp
      exact hp.2.2 x hx r (by simp)
    rw [applyRegion_fresh c r hfresh, ih _ hp']
    simp

/-- the changed regions the leader accepts (and therefore records), given its cache -/
def acceptedOf : Cache → List Region → List Region
  | _, [] => []
  | c, r :: rs => if isStale c r then acceptedOf c rs else r :: acceptedOf (putRegion c r) rs

def leaderPuts (l : Leader) (rs : List Region) : Leader := rs.foldl (fun l r => (leaderPut l r).1) l

theorem leaderPut_stale {l : Leader} {r : Region} (h : isStale l.cache r = true) :
    leaderPut l r = (l, none) := by
  simp [leaderPut, h]

theorem leaderPut_accept {l : Leader} {r : Region} (h : isStale l.cache r = false) :
    leaderPut l r = ({ l with cache := putRegion l.cache r, hist := record l.hist r false },
      some (encode l.hist.index [r])) := by
  simp [leaderPut, h, encode]

theorem mem_acceptedOf {c : Cache} {rs : List Region} {x : Region} (h : x ∈ acceptedOf c rs) : x ∈ rs := by
  fun_induction acceptedOf c rs with
  | case1 => exact h
  | case2 c r rs _ ih => exact List.mem_cons_of_mem _ (ih h)
  | case3 c r rs _ ih => exact (List.mem_cons.1 h).elim (· ▸ List.mem_cons_self) fun h => List.mem_cons_of_mem _ (ih h)

theorem leaderPuts_cache_hist (rs : List Region) (l : Leader) :
    (leaderPuts l rs).cache = (acceptedOf l.cache rs).foldl applyRegion l.cache ∧
    (leaderPuts l rs).hist = (acceptedOf l.cache rs).foldl (fun b r => record b r false) l.hist := by
  induction rs generalizing l with
  | nil => exact ⟨rfl, rfl⟩
  | cons r rs ih =>
    simp only [leaderPuts, List.foldl_cons, acceptedOf]
    cases hs : isStale l.cache r with
    | true => rw [leaderPut_stale hs]; exact ih l
    | false =>
      rw [leaderPut_accept hs]
      simp only [Bool.false_eq_true, if_false, List.foldl_cons]
      rw [applyRegion_accept hs]
      exact ih { l with cache := putRegion l.cache r, hist := record l.hist r false }

theorem foldl_applyRegion_accepted (rs : List Region) (c : Cache) :
    (acceptedOf c rs).foldl applyRegion c = rs.foldl applyRegion c := by
  fun_induction acceptedOf c rs with
  | case1 => rfl
  | case2 c r rs hs ih => rw [List.foldl_cons, applyRegion_stale hs]; exact ih
  | case3 c r rs hs ih => rw [List.foldl_cons, List.foldl_cons, applyRegion_accept (Bool.eq_false_iff.2 hs)]; exact ih

theorem syncHistoryRegion_full (batch : Nat) (l : Leader) {start : Nat} (regions : List Region) (h0 : start = 0)
    (hold : recordsFrom l.hist 0 = []) (hidx : l.hist.index ≠ 0) :
    Carries (max batch 1) start (syncHistoryRegion batch l start regions) regions := by
  subst h0
  have : syncHistoryRegion batch l 0 regions = fullSync batch regions := by simp [syncHistoryRegion, hold, hidx]
  rw [this]
  exact fullSync_carries batch regions

theorem syncHistoryRegion_incremental (batch : Nat) (l : Leader) (start : Nat) (regions : List Region)
    (acc : List Region) (hrf : recordsFrom l.hist start = acc.map some)
    (hidx : l.hist.index = start + acc.length) :
    Carries acc.length start (syncHistoryRegion batch l start regions) acc := by
  unfold syncHistoryRegion
  rw [hrf]
  cases acc with
  | nil =>
    simp only [hidx, List.map_nil, List.isEmpty_nil, List.length_nil, Nat.add_zero, if_true]
    exact .nil start
  | cons x xs =>
    show Carries _ start [incrementalMsg start ((x :: xs).map some)] (x :: xs)
    have := Carries.cons (B := (x :: xs).length) (Nat.le_refl _) (.nil (start + (x :: xs).length))
    rwa [List.append_nil, ← incrementalMsg_some] at this

end PdModel.Syncer
