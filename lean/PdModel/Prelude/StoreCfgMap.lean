/-
Association lists keyed by natural numbers, with the handful of lookup lemmas the store
life-cycle development (C14) needs.  Core Lean only.
-/
namespace PdModel.AMap

abbrev AMap (α : Type) := List (Nat × α)

variable {α : Type}

def get : AMap α → Nat → Option α
  | [], _ => none
  | (k', v) :: t, k => if k' = k then some v else get t k

def del : AMap α → Nat → AMap α
  | [], _ => []
  | (k', v) :: t, k => if k' = k then del t k else (k', v) :: del t k

def put (m : AMap α) (k : Nat) (v : α) : AMap α := (k, v) :: del m k

def keys (m : AMap α) : List Nat := m.map (·.1)

@[simp] theorem get_nil (k : Nat) : get ([] : AMap α) k = none := rfl

theorem get_cons (k' : Nat) (v : α) (t : AMap α) (k : Nat) :
    get ((k', v) :: t) k = if k' = k then some v else get t k := rfl

theorem del_cons (k' : Nat) (v : α) (t : AMap α) (k : Nat) :
    del ((k', v) :: t) k = if k' = k then del t k else (k', v) :: del t k := rfl

theorem get_del (m : AMap α) (k j : Nat) :
    get (del m k) j = if j = k then none else get m j := by
  induction m with
  | nil => exact (ite_self none).symm
  | cons p t ih =>
    obtain ⟨k', v⟩ := p
    rw [del_cons, get_cons]
    by_cases hj : j = k
    · rw [if_pos hj]
      by_cases h : k' = k
      · rw [if_pos h, ih, if_pos hj]
      · rw [if_neg h, get_cons, if_neg (fun e => h (e.trans hj)), ih, if_pos hj]
    · rw [if_neg hj]
      by_cases h : k' = k
      · rw [if_pos h, ih, if_neg hj, if_neg (fun e => hj (e.symm.trans h))]
      · rw [if_neg h, get_cons, ih, if_neg hj]

theorem get_put (m : AMap α) (k j : Nat) (v : α) :
    get (put m k v) j = if j = k then some v else get m j := by
  show (if k = j then some v else get (del m k) j) = _
  by_cases h : j = k
  · rw [if_pos h.symm, if_pos h]
  · rw [if_neg (Ne.symm h), if_neg h, get_del, if_neg h]

theorem get_del_eq (m : AMap α) (k : Nat) : get (del m k) k = none := by
  rw [get_del, if_pos rfl]

theorem get_del_ne {m : AMap α} {k j : Nat} (h : j ≠ k) : get (del m k) j = get m j := by
  rw [get_del, if_neg h]

theorem get_put_eq (m : AMap α) (k : Nat) (v : α) : get (put m k v) k = some v := by
  rw [get_put, if_pos rfl]

theorem get_put_ne {m : AMap α} {k j : Nat} {v : α} (h : j ≠ k) : get (put m k v) j = get m j := by
  rw [get_put, if_neg h]

theorem mem_of_get {m : AMap α} {k : Nat} {v : α} (h : get m k = some v) : (k, v) ∈ m := by
  induction m with
  | nil => cases h
  | cons p t ih =>
    obtain ⟨k', v'⟩ := p
    rw [get_cons] at h
    by_cases h' : k' = k
    · rw [if_pos h'] at h; cases h; cases h'; exact List.mem_cons_self
    · rw [if_neg h'] at h; exact List.mem_cons_of_mem _ (ih h)

theorem mem_keys_of_get {m : AMap α} {k : Nat} {v : α} (h : get m k = some v) : k ∈ keys m :=
  List.mem_map.2 ⟨(k, v), mem_of_get h, rfl⟩

theorem get_none_of_not_mem_keys {m : AMap α} {k : Nat} (h : k ∉ keys m) : get m k = none := by
  induction m with
  | nil => rfl
  | cons p t ih =>
    obtain ⟨k', v'⟩ := p
    rw [get_cons, if_neg (fun e => h (List.mem_cons.2 (Or.inl e.symm)))]
    exact ih (fun hm => h (List.mem_cons_of_mem _ hm))

def mapVal {β : Type} (f : Nat → α → β) (m : AMap α) : AMap β := m.map (fun p => (p.1, f p.1 p.2))

theorem get_mapVal {β : Type} (f : Nat → α → β) (m : AMap α) (k : Nat) :
    get (mapVal f m) k = (get m k).map (f k) := by
  induction m with
  | nil => rfl
  | cons p t ih =>
    obtain ⟨k', v⟩ := p
    show (if k' = k then some (f k' v) else get (mapVal f t) k) = (if k' = k then some v else get t k).map (f k)
    by_cases h : k' = k
    · rw [if_pos h, if_pos h, h]; rfl
    · rw [if_neg h, if_neg h]; exact ih

theorem keys_mapVal {β : Type} (f : Nat → α → β) (m : AMap α) : keys (mapVal f m) = keys m := by
  simp [keys, mapVal, List.map_map, Function.comp_def]

def allGet (m : AMap α) (p : Nat → α → Bool) : Bool :=
  (keys m).all (fun k => match get m k with | some v => p k v | none => true)

theorem allGet_iff (m : AMap α) (p : Nat → α → Bool) :
    allGet m p = true ↔ ∀ k v, get m k = some v → p k v = true := by
  unfold allGet
  rw [List.all_eq_true]
  constructor
  · intro h k v hk
    have := h k (mem_keys_of_get hk)
    rw [hk] at this
    exact this
  · intro h k _
    cases hk : get m k with
    | none => rfl
    | some v => exact h k v hk

theorem allGet_iff_of (m : AMap α) (p : Nat → α → Bool) (P : Nat → α → Prop) (h : ∀ k v, p k v = true ↔ P k v) :
    allGet m p = true ↔ ∀ k v, get m k = some v → P k v := by
  rw [allGet_iff]
  exact forall_congr' fun k => forall_congr' fun v => imp_congr_right fun _ => h k v

end PdModel.AMap
