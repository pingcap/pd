import PdModel.Lemmas.StoreFsm
import PdModel.Generated.StoreFsm
import PdModel.Prelude.ListFacts
/-!
Quantifiers: every sequence of put-store (RaftCluster and gRPC), store heartbeat, label update (also from
a stale copy of the store), remove (with/without physically-destroyed), up, direct bury, checkStores (also over
a stale list of offline stores), weight update, tombstone clean-up, region placement and restart on the same
storage; every failure mask (any subset of the store writes of every operation fails); every iteration order
of the two loops over the store map; every replication configuration and initial cluster version.  No bound
on the length of the history or the number of stores.
-/
namespace PdModel.StoreFsm
open PdModel.AMap PdModel.Spec

def obsOf (s : St) : C14.Obs :=
  { served := mapVal (fun id sv => { rec_ := recOf sv.md, lw := sv.lw, rw := sv.rw, regions := treeCount s.regions id }) s.served,
    stored := mapVal (fun id m => { rec_ := recOf m, lw := get s.storedLW id, rw := get s.storedRW id }) s.stored }

def kindOf : Op → C14.Kind
  | .gput r _ => .rpcPut r.id
  | .ghb id _ => .rpcHeartbeat id
  | .weight id _ _ _ => .weight id
  | .rmtomb _ _ => .sweep
  | .bury _ _ => .directBury
  | _ => .other

def stepOf (s : St) (op : Op) : C14.Step :=
  { kind := kindOf op, pre := obsOf s, post := obsOf (step s op).st,
    ok := decide ((step s op).res = .ok), refused := decide ((step s op).res = .tombstone),
    failed := (((step s op).writes).filter (·.failed)).map (·.id) }

def steps : St → List Op → List C14.Step
  | _, [] => []
  | s, op :: ops => stepOf s op :: steps (step s op).st ops

theorem get_obs_served (s : St) (id : Nat) :
    get (obsOf s).served id =
      (get s.served id).map (fun sv => { rec_ := recOf sv.md, lw := sv.lw, rw := sv.rw, regions := treeCount s.regions id }) := by
  unfold obsOf; rw [get_mapVal]

theorem get_obs_stored (s : St) (id : Nat) :
    get (obsOf s).stored id =
      (get s.stored id).map (fun m => { rec_ := recOf m, lw := get s.storedLW id, rw := get s.storedRW id }) := by
  unfold obsOf; rw [get_mapVal]

theorem served_of_obs (s : St) {id : Nat} {a' : C14.SRec} (h : get (obsOf s).served id = some a') :
    ∃ a, get s.served id = some a ∧
      a' = { rec_ := recOf a.md, lw := a.lw, rw := a.rw, regions := treeCount s.regions id } := by
  obtain ⟨a, ha, rfl⟩ := Option.map_eq_some_iff.1 ((get_obs_served s id).symm.trans h)
  exact ⟨a, ha, rfl⟩

theorem stored_of_obs (s : St) {id : Nat} {a' : C14.DRec} (h : get (obsOf s).stored id = some a') :
    ∃ m, get s.stored id = some m ∧ a' = { rec_ := recOf m, lw := get s.storedLW id, rw := get s.storedRW id } := by
  obtain ⟨m, hm, rfl⟩ := Option.map_eq_some_iff.1 ((get_obs_stored s id).symm.trans h)
  exact ⟨m, hm, rfl⟩

theorem sameServed_of_sameSv {s s' : St} {id : Nat} (h : sameSv (get s.served id) (get s'.served id)) :
    C14.sameServed (get (obsOf s).served id) (get (obsOf s').served id) = true := by
  rw [get_obs_served, get_obs_served]
  revert h
  unfold sameSv
  cases get s.served id <;> cases get s'.served id <;> intro h
  · rfl
  · cases h
  · cases h
  · next a b =>
    obtain ⟨h1, h23⟩ := Prod.mk.inj (Option.some.inj h)
    obtain ⟨h2, h3⟩ := Prod.mk.inj h23
    exact Bool.and_eq_true_iff.2 ⟨Bool.and_eq_true_iff.2 ⟨beq_iff_eq.2 (congrArg recOf h1), beq_iff_eq.2 h2⟩, beq_iff_eq.2 h3⟩

theorem good_step (s : St) (op : Op) (hinv : Inv s.served s.stored) :
    Good s (step s op) (kindOf op == .directBury) (kindOf op == .sweep) := by
  cases op with
  | put => exact good_putStore hinv
  | gput => exact good_grpcPut hinv
  | ghb => exact good_grpcHeartbeat hinv
  | labels => exact good_updateLabels hinv
  | remove => exact good_removeStore hinv
  | up => exact good_upStore hinv
  | bury => exact good_buryStore hinv (fun h => nomatch (h : true = false))
  | check => exact good_checkStores hinv
  | weight => exact good_setWeight hinv
  | rmtomb => exact good_removeTombstones hinv
  | region => exact good_regionHeartbeat hinv
  | labelsFrom => exact good_putImpl hinv
  | checkOnly => exact good_checkStoresOnly hinv
  | restart => exact good_restart hinv

/-- Across any operation a served store's state changes only
    Up→Offline, Offline→Up (never once declared destroyed), Offline→Tombstone; the destroyed
    declaration is never withdrawn; a record vanishes only as a tombstone. -/
theorem state_moves_only_forward (s : St) (op : Op) (hinv : Inv s.served s.stored) :
    C14.Forward (stepOf s op) := by
  intro id a' ha'
  obtain ⟨a, ha, rfl⟩ := served_of_obs s ha'
  dsimp only [stepOf]
  rw [get_obs_served]
  have h := (good_step s op hinv).fwd id a ha
  revert h
  cases get (step s op).st.served id with
  | none => exact (lifeOf_tomb _).2
  | some b => exact fun h => h

/-- The stored record of a store changes across any operation (a restart
    included) only as the served one may: a stored tombstone is never overwritten by another state and a
    stored record is deleted only as a tombstone – so a new leader, which serves what is stored, cannot
    bring a tombstone back. -/
theorem stored_moves_only_forward (s : St) (op : Op) (hinv : Inv s.served s.stored) :
    C14.StoredForward (stepOf s op) := by
  intro id a' ha'
  obtain ⟨m, hm, rfl⟩ := stored_of_obs s ha'
  have hg := good_step s op hinv
  -- stored = served before and after, so this is the served clause read through the stored observation
  obtain ⟨a, ha, rfl⟩ := Option.map_eq_some_iff.1 ((hinv.durable id).symm.trans hm)
  dsimp only [stepOf]
  rw [get_obs_stored, hg.inv.durable id]
  have h := hg.fwd id a ha
  revert h
  cases get (step s op).st.served id with
  | none => exact (lifeOf_tomb _).2
  | some b => exact fun h => h

theorem grpcPut_tombstone {s : St} {r : Req} (mask : Nat) {a : Served} (h : get s.served r.id = some a)
    (ht : a.md.state = .tombstone) : grpcPut s r mask = reject s .tombstone := by
  unfold grpcPut; rw [h]; exact if_pos ht

theorem grpcHeartbeat_tombstone {s : St} {id : Nat} (mask : Nat) {a : Served} (h : get s.served id = some a)
    (ht : a.md.state = .tombstone) : grpcHeartbeat s id mask = reject s .tombstone := by
  unfold grpcHeartbeat; rw [h]; exact if_pos ht

theorem refused_of_reject {s : St} {op : Op} (e : step s op = reject s .tombstone) :
    (stepOf s op).refused = true ∧ (stepOf s op).ok = false ∧
    (∀ j, get (stepOf s op).post.served j = get (stepOf s op).pre.served j) ∧
    (∀ j, get (stepOf s op).post.stored j = get (stepOf s op).pre.stored j) := by
  unfold stepOf; rw [e]; exact ⟨rfl, rfl, fun _ => rfl, fun _ => rfl⟩

/-- A gRPC PutStore or StoreHeartbeat for a store that is served as
    tombstone is answered with the tombstone error and changes neither the served nor the stored state. -/
theorem tombstone_refused_at_rpc (s : St) (op : Op) : C14.TombstoneRefused (stepOf s op) := by
  intro id a' hk ha' hst
  obtain ⟨a, ha, rfl⟩ := served_of_obs s ha'
  have hts : a.md.state = .tombstone := (lifeOf_tomb _).1 hst
  cases op with
  | gput r mask => cases hk; exact refused_of_reject (grpcPut_tombstone mask ha hts)
  | ghb i mask => cases hk; exact refused_of_reject (grpcHeartbeat_tombstone mask ha hts)
  | _ => cases hk

/-- Whenever an operation other than the direct call of `buryStore` turns a
    store into a tombstone, the store held no region peer when the operation started. -/
theorem bury_only_empty (s : St) (op : Op) (hinv : Inv s.served s.stored) : C14.BuryOnlyEmpty (stepOf s op) := by
  intro hk id a' b' ha' hb' h3 h4
  obtain ⟨a, ha, rfl⟩ := served_of_obs s ha'
  obtain ⟨b, hb, rfl⟩ := served_of_obs (step s op).st hb'
  exact (good_step s op hinv).bury (beq_eq_false_iff_ne.2 hk) id a b ha hb (fun h => h3 ((lifeOf_tomb _).2 h))
    ((lifeOf_tomb _).1 h4)

theorem addresses_of_inv (s : St) (hinv : Inv s.served s.stored) : C14.AddressesUnique (obsOf s) := by
  intro i j a' b' ha' hb' hij la lb
  obtain ⟨a, ha, rfl⟩ := served_of_obs s ha'
  obtain ⟨b, hb, rfl⟩ := served_of_obs s hb'
  exact hinv.addr i j a b ha hb hij ((liveRec_recOf _).symm.trans la) ((liveRec_recOf _).symm.trans lb)

/-- After any operation, two served stores that are neither tombstone
    nor physically destroyed have different addresses. -/
theorem live_addresses_unique (s : St) (op : Op) (hinv : Inv s.served s.stored) :
    C14.AddressesUnique (stepOf s op).post :=
  addresses_of_inv _ (good_step s op hinv).inv

theorem setWeight_ok {s : St} {id lw rw mask : Nat} {o : Out} (ho : setWeight s id lw rw mask = o) (h : o.res = .ok)
    {a : Served} (ha : get o.st.served id = some a) :
    get o.st.storedLW id = some a.lw ∧ get o.st.storedRW id = some a.rw := by
  revert ho
  unfold setWeight
  cases get s.served id with
  | none => rintro rfl; exact nomatch h
  | some sv =>
    dsimp only [commit]
    by_cases h0 : failBit mask 0 = true
    · rw [if_pos h0]; rintro rfl; exact nomatch h
    · rw [if_neg h0]
      by_cases h1 : failBit mask 1 = true
      · rw [if_pos h1]; rintro rfl; exact nomatch h
      · rw [if_neg h1]
        by_cases h2 : failBit mask 2 = true
        · rw [if_pos h2]; rintro rfl; exact nomatch h
        · rw [if_neg h2]; rintro rfl
          cases (get_put_eq _ _ _).symm.trans ha
          exact ⟨get_put_eq _ _ _, get_put_eq _ _ _⟩

/-- After an operation that reports success, every stored record
    equals the served one (no extra and no missing records), and after a successful weight update the
    stored weight keys equal the served weights. -/
theorem success_stored_eq_served (s : St) (op : Op) (hinv : Inv s.served s.stored) :
    C14.Durable (stepOf s op) := by
  intro hok
  have hinv' := (good_step s op hinv).inv
  refine ⟨fun id => ?_, fun id hk a' ha' => ?_⟩
  · dsimp only [stepOf]
    rw [get_obs_stored, get_obs_served, hinv'.durable id]
    cases get (step s op).st.served id <;> rfl
  · cases op with
    | weight i lw rw mask =>
      cases hk
      obtain ⟨a, ha, rfl⟩ := served_of_obs _ ha'
      obtain ⟨h1, h2⟩ := setWeight_ok rfl (of_decide_eq_true hok) ha
      -- the stored record is there because the served one is
      exact ⟨_, (get_obs_stored _ id).trans (congrArg _ ((hinv'.durable id).trans (congrArg _ ha))),
        h1, h2⟩
    | _ => cases hk

/-- The served record and weights of a store whose write the
    storage refused are what they were before the operation; and an operation (other than the
    multi-store tombstone clean-up) that reports failure leaves every served record as it was. -/
theorem failed_write_served_unchanged (s : St) (op : Op) (hinv : Inv s.served s.stored) :
    C14.FailedUnchanged (stepOf s op) := by
  have hg := good_step s op hinv
  refine ⟨fun id hid => ?_, fun hok hk id => ?_⟩
  · obtain ⟨x, hx, rfl⟩ := List.mem_map.1 hid
    exact sameServed_of_sameSv (hg.failed x (List.mem_filter.1 hx).1 (List.mem_filter.1 hx).2)
  · exact sameServed_of_sameSv (hg.err (of_decide_eq_false hok) (beq_eq_false_iff_ne.2 hk) id)

theorem upStore_offline {s : St} {id : Nat} (mask : Nat) {sv : Served} (h : get s.served id = some sv)
    (ho : sv.md.state = .offline) (hd : sv.md.destroyed = false) :
    upStore s id mask = commit s id { sv with md := { sv.md with state := .up } } (failBit mask 0) := by
  unfold upStore; rw [h]; dsimp only; rw [ho, hd]; rfl

theorem upStore_destroyed {s : St} {id : Nat} (mask : Nat) {sv : Served} (h : get s.served id = some sv)
    (hd : sv.md.destroyed = true) : ∃ r, r ≠ .ok ∧ upStore s id mask = reject s r := by
  unfold upStore; rw [h]; dsimp only
  by_cases ht : sv.md.state = .tombstone
  · rw [if_pos ht]; exact ⟨.tombstone, fun e => (nomatch e), rfl⟩
  · rw [if_neg ht, if_pos hd]; exact ⟨.destroyed, fun e => (nomatch e), rfl⟩

/-- `UpStore` of an offline store that was not declared destroyed succeeds
    (when its write does) and serves the store as Up again. -/
theorem offline_can_return_to_up (s : St) (id mask : Nat) (sv : Served) (h : get s.served id = some sv)
    (ho : sv.md.state = .offline) (hd : sv.md.destroyed = false) (hm : failBit mask 0 = false) :
    (step s (.up id mask)).res = .ok ∧
    ∃ sv', get (step s (.up id mask)).st.served id = some sv' ∧ sv'.md.state = .up ∧ sv'.md.addr = sv.md.addr := by
  show (upStore s id mask).res = .ok ∧ ∃ sv', get (upStore s id mask).st.served id = some sv' ∧ _
  rw [upStore_offline mask h ho hd, hm]
  exact ⟨rfl, _, get_put_eq _ _ _, rfl, rfl⟩

/-- `UpStore` of a store declared physically destroyed is refused and changes
    nothing, whatever its state. -/
theorem destroyed_never_returns (s : St) (id mask : Nat) (sv : Served) (h : get s.served id = some sv)
    (hd : sv.md.destroyed = true) :
    (step s (.up id mask)).res ≠ .ok ∧ (step s (.up id mask)).st = s := by
  obtain ⟨r, hr, e⟩ := upStore_destroyed mask h hd
  show (upStore s id mask).res ≠ .ok ∧ (upStore s id mask).st = s
  rw [e]; exact ⟨hr, rfl⟩

theorem C14_step (s : St) (op : Op) (hinv : Inv s.served s.stored) : C14.StepOk (stepOf s op) :=
  ⟨rfl, state_moves_only_forward s op hinv, stored_moves_only_forward s op hinv, tombstone_refused_at_rpc s op, bury_only_empty s op hinv,
   live_addresses_unique s op hinv, success_stored_eq_served s op hinv, failed_write_served_unchanged s op hinv⟩

theorem inv_run (ops : List Op) (s : St) (h : Inv s.served s.stored) : Inv (run s ops).served (run s ops).stored :=
  foldl_inv (fun s => Inv s.served s.stored) _ ops s h fun s op _ h => (good_step s op h).inv

/-- the invariant (stored = served, live addresses unique) holds in every reachable state -/
theorem inv_reachable (cfg : Config) (cv : Ver) (ops : List Op) :
    Inv (run (init cfg cv) ops).served (run (init cfg cv) ops).stored :=
  inv_run ops _ inv_init

theorem C14_holds_from (ops : List Op) : ∀ s : St, Inv s.served s.stored → C14.Holds (steps s ops) := by
  induction ops with
  | nil => exact fun _ _ _ hx => nomatch hx
  | cons op ops ih => exact fun s h => List.forall_mem_cons.2 ⟨C14_step s op h, ih _ (good_step s op h).inv⟩

/-- **C14.** Every history of the model, from the empty cluster, is observed as the property demands. -/
theorem C14_holds (cfg : Config) (cv : Ver) (ops : List Op) : C14.Holds (steps (init cfg cv) ops) :=
  C14_holds_from ops _ inv_init

/-! Non-vacuity: a concrete history with a duplicate address, a failing save, a store emptied of its
    regions and buried (after one failing attempt), a refused re-registration through the RPC, a weight
    update whose second write fails, and the tombstone clean-up. -/
def demoOps : List Op :=
  [.put { id := 1, addr := "a1", ver := some ⟨4, 0, 0⟩, start := 0, labels := [("zone", "z1")] } 0,
   .put { id := 2, addr := "a1", ver := some ⟨4, 0, 0⟩, start := 0, labels := [] } 0,
   .put { id := 2, addr := "a2", ver := some ⟨4, 0, 0⟩, start := 0, labels := [] } 0,
   .put { id := 1, addr := "a1", ver := some ⟨4, 0, 0⟩, start := 1, labels := [("zone", "z2")] } 1,
   .region 1 [1, 2],
   .remove 1 false 0,
   .check [] 0,
   .region 1 [2],
   .check [1] 1,
   .check [] 0,
   .gput { id := 1, addr := "a1", ver := some ⟨4, 0, 0⟩, start := 0, labels := [] } 0,
   .weight 2 2000000 500000 2,
   .rmtomb [] 0]

example : (steps (init {} ⟨2, 0, 0⟩) demoOps).map (fun st => (st.ok, st.refused, st.failed)) =
    [(true, false, []), (false, false, []), (true, false, []), (false, false, [1]), (true, false, []),
     (true, false, []), (true, false, []), (true, false, []), (true, false, [1]), (true, false, []),
     (false, true, []), (false, false, [2]), (true, false, [])] := by decide +kernel

example : (get (run (init {} ⟨2, 0, 0⟩) (demoOps.take 10)).served 1).map (·.md.state) = some .tombstone := by decide +kernel

example : keys (run (init {} ⟨2, 0, 0⟩) demoOps).served = [2] := by decide +kernel

example : C14.check (steps (init {} ⟨2, 0, 0⟩) demoOps) = true := by decide +kernel

/-- structure obligations, re-checked against the facts regenerated from the Go source: every
    modelled operation is one critical section of the cluster mutex, records are saved (deleted)
    before they are published, the labels are checked before the save, the weight keys are written
    before the record, the RPC handlers test for tombstone before they touch the cluster, and a store
    record is re-saved by heartbeats at most every `storePersistInterval` (> 0). -/
theorem store_code_structure_as_modelled :
    PdModel.Generated.StoreFsm.putStoreImplIsOneSection = true ∧
    PdModel.Generated.StoreFsm.removeStoreIsOneSection = true ∧
    PdModel.Generated.StoreFsm.buryStoreIsOneSection = true ∧
    PdModel.Generated.StoreFsm.upStoreIsOneSection = true ∧
    PdModel.Generated.StoreFsm.setStoreWeightIsOneSection = true ∧
    PdModel.Generated.StoreFsm.removeTombStoneRecordsIsOneSection = true ∧
    PdModel.Generated.StoreFsm.handleStoreHeartbeatIsOneSection = true ∧
    PdModel.Generated.StoreFsm.putStoreSavesBeforePublishing = true ∧
    PdModel.Generated.StoreFsm.deleteStoreRemovesBeforePublishing = true ∧
    PdModel.Generated.StoreFsm.weightSavedBeforeRecord = true ∧
    PdModel.Generated.StoreFsm.labelsCheckedBeforeSave = true ∧
    PdModel.Generated.StoreFsm.rpcPutChecksTombstoneFirst = true ∧
    PdModel.Generated.StoreFsm.rpcHeartbeatChecksTombstoneFirst = true ∧
    0 < PdModel.Generated.StoreFsm.storePersistIntervalNs := by decide

end PdModel.StoreFsm
