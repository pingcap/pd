/-
C02 – "Granted timestamps stay below the durably stored time window", over observations:
after every operation the durably stored window bound (Unix ns, `none` = never written) and, if the
operation granted a timestamp, its physical part in milliseconds.
-/
namespace PdModel.Spec.C02

structure Obs where
  stored  : Option Nat
  grantMs : Option Nat
  deriving Repr, DecidableEq

/-- `a ≤ b` on stored bounds; a bound never disappears once written -/
def optLe : Option Nat → Option Nat → Prop
  | none, _ => True
  | some _, none => False
  | some a, some b => a ≤ b

instance (a b : Option Nat) : Decidable (optLe a b) := by
  cases a <;> cases b <;> unfold optLe <;> infer_instance

theorem optLe_refl (a : Option Nat) : optLe a a := by cases a <;> simp [optLe]

theorem optLe_trans {a b c : Option Nat} (h1 : optLe a b) (h2 : optLe b c) : optLe a c :=
  match a, b, c with
  | none, _, _ => trivial
  | some _, none, _ => h1.elim
  | some _, some _, none => h2.elim
  | some _, some _, some _ => Nat.le_trans h1 h2

theorem optLe_some {a : Option Nat} {v : Nat} (h : ∀ S, a = some S → S ≤ v) : optLe a (some v) := by
  cases a with
  | none => trivial
  | some S => exact h S rfl

theorem optLe_lower {a b : Option Nat} {L : Nat} (h : optLe a b) (ha : ∃ S, a = some S ∧ L ≤ S) :
    ∃ S, b = some S ∧ L ≤ S := by
  obtain ⟨S, rfl, hLS⟩ := ha
  cases b with
  | none => exact h.elim
  | some S' => exact ⟨S', rfl, Nat.le_trans hLS h⟩

def grantOk (o : Obs) : Prop :=
  ∀ ms, o.grantMs = some ms → ∃ S, o.stored = some S ∧ ms * 1000000 < S

instance (o : Obs) : Decidable (grantOk o) := by
  unfold grantOk
  cases hg : o.grantMs with
  | none => exact isTrue (by intro ms h; cases h)
  | some ms =>
    cases hs : o.stored with
    | none => exact isFalse (by intro h; obtain ⟨S, hS, _⟩ := h ms rfl; cases hS)
    | some S =>
      exact if h : ms * 1000000 < S then isTrue (by intro ms' h'; cases h'; exact ⟨S, rfl, h⟩)
            else isFalse (by intro h'; obtain ⟨S', hS', hlt⟩ := h' ms rfl; cases hS'; exact h hlt)

/-- the property: the stored bound never decreases, and every grant is strictly below the bound
    stored at that moment -/
def Holds (obs : List Obs) : Prop :=
  obs.Pairwise (fun a b => optLe a.stored b.stored) ∧ ∀ o ∈ obs, grantOk o

def check (obs : List Obs) : Bool :=
  decide (obs.Pairwise (fun a b => optLe a.stored b.stored)) && obs.all (fun o => decide (grantOk o))

theorem check_iff (obs : List Obs) : check obs = true ↔ Holds obs := by
  unfold check Holds
  simp only [Bool.and_eq_true, decide_eq_true_eq, List.all_eq_true]

/-- incremental form used by the monitor -/
def checkNext (prev : Option Nat) (o : Obs) : Bool := decide (optLe prev o.stored) && decide (grantOk o)

end PdModel.Spec.C02
