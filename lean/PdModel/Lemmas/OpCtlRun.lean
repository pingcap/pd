import PdModel.Lemmas.OpCtlInv
import PdModel.Prelude.ListFacts
/-! Every controller function is a `Moves`; every event moves each operator along `Rel` and keeps
    the invariants a `Moves` keeps (`Keeps`); it may change the cached regions. -/
namespace PdModel.OpCtl
open PdModel.Steps PdModel.Spec

theorem removeOperator_eq {c : Ctl} {id : Nat} {o : Op} (h : c.getOp id = some o) :
    removeOperator c id =
      if c.runningOn o.region = some id then (bury ((removeLocked c o).1.setOp (o.to .canceled).1) id, true)
      else (c, false) := by
  unfold removeOperator
  rw [h]
  simp only
  rw [removeLocked_eq, getOp_some h]
  by_cases e : c.runningOn o.region = some id
  · rw [if_pos e, if_pos e]; rfl
  · rw [if_neg e, if_neg e]; rfl

theorem moves_removeOperator (c : Ctl) (id : Nat) : Moves c (removeOperator c id).1 := by
  cases h : c.getOp id with
  | none => unfold removeOperator; rw [h]; exact Moves.refl c
  | some o => rw [removeOperator_eq h]; exact Moves.ite (moves_leave .canceled h) (Moves.refl c)

theorem moves_rejectAll (c : Ctl) (ids : List Nat) : Moves c (rejectAll c ids) := by
  refine foldl_inv (Moves c) _ ids c (Moves.refl c) fun c' k _ h => h.trans ?_
  split
  · exact Moves.refl c'
  · next o ho => exact (moves_setOp ho (calm_to o (by decide))).trans (moves_bury _ k)

theorem moves_expireAll (c : Ctl) (ids : List Nat) : Moves c (expireAll c ids).1 := by
  refine foldl_inv (fun acc => Moves c acc.1) _ ids (c, false) (Moves.refl c) fun acc k _ h => h.trans ?_
  split
  · exact Moves.refl _
  · next o ho => exact moves_setOp ho (calm_checkExpired o)

theorem moves_checkAdd (c : Ctl) (ids : List Nat) : Moves c (checkAdd c ids).1 := by
  unfold checkAdd
  exact Moves.ite (Moves.refl c) (moves_expireAll c ids)

theorem moves_replaceOld (c : Ctl) (region : Nat) : Moves c (replaceOld c region) := by
  fun_cases replaceOld c region with
  | case1 oldId hrun old hold => exact moves_leave .replaced hold
  | case2 => exact Moves.refl c
  | case3 => exact Moves.refl c

/-- after `replaceOld` nobody registered for the region is still STARTED -/
theorem replaceOld_free (c : Ctl) (r : Nat) :
    ∀ j x, (replaceOld c r).runningOn r = some j → (replaceOld c r).getOp j = some x → x.status ≠ .started := by
  fun_cases replaceOld c r with
  | case1 oldId hrun old hold =>
    intro j x hj hx
    rw [runningOn_bury, runningOn_setOp, runningOn_removeLocked] at hj
    split at hj
    · cases hj
    · rw [hrun] at hj; cases hj
      rw [getOp_leave .replaced hold, if_pos rfl] at hx; cases hx
      exact ne_started_of_end (buried_isEnd _)
  | case2 oldId hrun hnone => intro j x hj hx; rw [hrun] at hj; cases hj; rw [hnone] at hx; cases hx
  | case3 hnone => intro j x hj; rw [hnone] at hj; cases hj

theorem moves_startLocked {c : Ctl} {k : Nat} {o0 o : Op} (h : c.getOp k = some o0) (hr : Rel o0 o)
    (hfree : ∀ j x, c.runningOn o.region = some j → c.getOp j = some x → x.status ≠ .started) :
    Moves c (startLocked c o).1 := by
  have h1 := moves_register h hr hfree
  have hg : ∀ R, Ctl.getOp { c.setOp o with running := R } k = some o := fun _ => by
    show (c.setOp o).getOp k = some o
    rw [getOp_setOp_of h hr.id, if_pos rfl]
  unfold startLocked
  simp only
  split
  · next v _ => exact h1.trans ((moves_setOp (hg _) (calm_check o v)).trans (Moves.of_frame rfl))
  · exact h1.trans (Moves.of_frame rfl)

theorem moves_addLocked (c : Ctl) (id : Nat) : Moves c (addLocked c id).1 := by
  unfold addLocked
  split
  · exact Moves.refl c
  · next o0 ho0 =>
    have h1 := moves_replaceOld c o0.region
    simp only
    split
    · exact h1
    · next o ho =>
      split
      · exact h1
      · obtain ⟨_, ho', hrel⟩ := h1.le.some id o0 ho0
        cases ho.symm.trans ho'
        refine h1.trans (moves_startLocked ho (rel_to o .started) ?_)
        rw [(rel_to o .started).region, hrel.region]
        exact replaceOld_free c o0.region

theorem moves_addAll (c : Ctl) (ids : List Nat) : Moves c (addAll c ids).1 := by
  induction ids generalizing c with
  | nil => exact Moves.refl c
  | cons id rest ih =>
    simp only [addAll]
    have h1 := moves_addLocked c id
    generalize addLocked c id = r at h1
    exact Moves.ite h1 (h1.trans (ih _))

theorem moves_addOperator (c : Ctl) (ids : List Nat) : Moves c (addOperator c ids).1 := by
  unfold addOperator
  have h1 := moves_checkAdd c ids
  generalize checkAdd c ids = r at h1
  exact Moves.ite (h1.trans (moves_rejectAll _ ids)) (h1.trans (moves_addAll _ ids))

theorem moves_takeFrom (c : Ctl) (i : Nat) : Moves c (takeFrom c i).1 := by
  fun_cases takeFrom c i <;> exact Moves.of_frame rfl

theorem moves_promote (c : Ctl) (rs : List Nat) : Moves c (promote c rs).1 := by
  induction rs generalizing c with
  | nil => exact Moves.refl c
  | cons r rest ih =>
    rw [promote]; dsimp only
    split
    · unfold bumpUnlessEmpty; split
      · exact Moves.refl c
      · exact Moves.of_frame rfl
    · next i _ =>
      have h1 : Moves c (takeFrom (bump c) i).1 := .trans (.of_frame rfl) (moves_takeFrom _ i)
      generalize takeFrom (bump c) i = t at h1
      obtain ⟨c1, ids⟩ := t
      simp only
      split
      · exact h1
      · next first tl =>
        have h2 := moves_checkAdd c1 (first :: tl)
        generalize checkAdd c1 (first :: tl) = q at h2
        have h3 : Moves c (decWaiting q.1 first) := h1.trans (h2.trans (Moves.of_frame rfl))
        exact Moves.ite (h3.trans ((moves_rejectAll _ _).trans (ih _))) (h3.trans (moves_addAll _ _))

theorem moves_addWaitingLoop (c : Ctl) (ids : List Nat) (added : Nat) : Moves c (addWaitingLoop c ids added).1 := by
  have chk : ∀ {c id c1 ok}, checkAdd c [id] = (c1, ok) → Moves c c1 := fun {c id _ _} h => by
    have := moves_checkAdd c [id]; rwa [h] at this
  have put : ∀ (c : Ctl) id, Moves c (putWaiting c id) := fun _ _ => Moves.of_frame rfl
  have inc : ∀ (c : Ctl) id, Moves c (incWaiting c id) := fun _ _ => Moves.of_frame rfl
  fun_induction addWaitingLoop c ids added with
  | case1 c added => exact Moves.refl c
  | case2 c id added hm => exact Moves.refl c
  | case3 c id added hm c1 ok hca hok => exact (chk hca).trans (moves_rejectAll _ _)
  | case4 c id added hm c1 ok hca hok => exact (chk hca).trans ((put _ id).trans (inc _ id))
  | case5 c id nxt rest added hm hn => exact Moves.refl c
  | case6 c id nxt rest added hm hn c1 ok hca hok => exact (chk hca).trans (moves_rejectAll _ _)
  | case7 c id nxt rest added hm hn c1 ok hca hok ih =>
    exact (chk hca).trans (((put _ id).trans ((put _ nxt).trans (inc _ id))).trans ih)
  | case8 c id nxt rest added hm c1 ok hca hok => exact (chk hca).trans (moves_rejectAll _ _)
  | case9 c id nxt rest added hm c1 ok hca hok ih =>
    exact (chk hca).trans (((put _ id).trans (inc _ id)).trans ih)

theorem moves_addWaiting (c : Ctl) (ids rs : List Nat) : Moves c (addWaiting c ids rs).1 := by
  unfold addWaiting
  have h1 := moves_addWaitingLoop c ids 0
  generalize addWaitingLoop c ids 0 = r at h1
  exact Moves.ite (h1.trans (moves_promote _ rs)) h1

theorem checkStale_eq (c : Ctl) (o : Op) (s : Step) (v : View) :
    checkStale c o s v =
      if checkSafety v.region s = false ∨ v.confVer < o.confVer ∨ v.confVer - o.confVer > o.confVerChanged v.region
      then ((removeOperator c o.id).1, true) else (c, false) := by
  unfold checkStale
  cases checkSafety v.region s <;> simp

theorem moves_checkStale (c : Ctl) (o : Op) (s : Step) (v : View) : Moves c (checkStale c o s v).1 := by
  rw [checkStale_eq]
  exact Moves.ite (moves_removeOperator _ _) (Moves.refl c)

theorem moves_dispatch (c : Ctl) (v : View) (hb : Bool) (rs : List Nat) : Moves c (dispatch c v hb rs).1 := by
  unfold dispatch
  split
  · exact Moves.refl c
  · next id _ =>
    split
    · exact Moves.refl c
    · next o ho =>
      have h1 := moves_setOp ho (calm_check o v)
      have hg : (c.setOp (o.check v).1).getOp id = some (o.check v).1 := by
        rw [getOp_setOp_of ho (calm_check o v).rel.id, if_pos rfl]
      generalize o.check v = ch at h1 hg
      obtain ⟨o1, step⟩ := ch
      dsimp only at h1 hg ⊢
      have hrm : Moves c (match removeOperator (c.setOp o1) id with
          | (c, removed) => if removed = true then promote c rs else (c, [])).1 := by
        have h2 := h1.trans (moves_removeOperator (c.setOp o1) id)
        generalize removeOperator (c.setOp o1) id = q at h2
        exact Moves.ite (h2.trans (moves_promote _ rs)) h2
      split
      · split
        · next s =>
          have h2 := h1.trans (moves_checkStale (c.setOp o1) o1 s v)
          generalize checkStale (c.setOp o1) o1 s v = q at h2
          exact Moves.ite (Moves.ite (h2.trans (moves_promote _ rs)) h2) h1
        · exact h1
      · exact hrm
      · exact hrm
      · -- `removeOperatorWithoutBury ; Cancel ; buryOperator`: the body of `RemoveOperator` written out
        rw [removeLocked_eq]
        by_cases hrun : (c.setOp o1).runningOn o1.region = some o1.id
        · rw [if_pos hrun]; exact h1.trans ((moves_leave .canceled hg).trans (moves_promote _ rs))
        · rw [if_neg hrun]; exact h1

theorem polledOp_some {c : Ctl} {item : QItem} {o : Op} (h : polledOp c item = some o) :
    c.getOp o.id = some o := by
  unfold polledOp at h
  obtain ⟨k, _, h'⟩ := Option.bind_eq_some_iff.1 h
  rw [getOp_some h']; exact h'

theorem moves_pushLoop (c : Ctl) (rs : List Nat) (fuel : Nat) : Moves c (pushLoop c rs fuel).1 := by
  induction fuel generalizing c rs with
  | zero => exact Moves.refl c
  | succ n ih =>
    rw [pushLoop]; dsimp only
    split
    · exact Moves.refl c
    · next item _ _ =>
      have h0 : Moves c (dropItem c item.seq) := Moves.of_frame rfl
      split
      · exact h0.trans (ih _ _)
      · next o ho =>
        have hoid := polledOp_some ho
        split
        · exact h0.trans ((moves_leave .canceled hoid).trans (ih _ _))
        · next v _ =>
          have h1 := h0.trans (moves_setOp hoid (calm_check o v))
          split
          · exact h1.trans ((moves_dispatch _ v false rs).trans (ih _ _))
          · refine Moves.ite (h1.trans (Moves.of_frame rfl)) ?_
            refine h1.trans (Moves.trans ?_ ((moves_dispatch _ v false rs).trans (ih _ _)))
            exact Moves.of_frame rfl

theorem moves_touchRunning (c : Ctl) : Moves c (touchRunning c) := by
  refine foldl_inv (Moves c) _ c.running c (Moves.refl c) fun c' x _ h => h.trans ?_
  split
  · next o ho => exact moves_setOp ho (calm_checkTimeout o)
  · exact Moves.refl c'

/-- what every event keeps.  Events are not `Le`: they change the cached regions and create operators. -/
structure Keeps (c c' : Ctl) : Prop where
  ops : ∀ k o, c.getOp k = some o → ∃ o', c'.getOp k = some o' ∧ Rel o o'
  inv : Inv c → Inv c'
  recInv : RecInv c → RecInv c'
  hasRec : ∀ r, HasRec c r → HasRec c' r

theorem Moves.keeps {c c' : Ctl} (h : Moves c c') : Keeps c c' := ⟨h.le.some, h.inv, h.recInv, h.hasRec⟩

theorem Keeps.refl (c : Ctl) : Keeps c c := (Moves.refl c).keeps

theorem Keeps.trans {a b c : Ctl} (h1 : Keeps a b) (h2 : Keeps b c) : Keeps a c :=
  ⟨fun k o h => by
    obtain ⟨o1, g1, r1⟩ := h1.ops k o h
    obtain ⟨o2, g2, r2⟩ := h2.ops k o1 g1
    exact ⟨o2, g2, r1.trans r2⟩,
   fun h => h2.inv (h1.inv h), fun h => h2.recInv (h1.recInv h), fun r h => h2.hasRec r (h1.hasRec r h)⟩

theorem keeps_views (c : Ctl) (vs : List View) : Keeps c { c with views := vs } :=
  ⟨fun _ o h => ⟨o, h, Rel.refl o⟩, fun hi => inv_congr hi rfl rfl,
   fun hi r id hk => hi r id hk, fun _ h => h⟩

theorem keeps_newOp (c : Ctl) (n : Op) (hn : n.status = .created) :
    Keeps c { c with ops := c.ops ++ [n] } := by
  have old : ∀ k o, c.getOp k = some o → Ctl.getOp { c with ops := c.ops ++ [n] } k = some o :=
    fun k o h => by rw [getOp_append, h, Option.some_or]
  refine ⟨fun k o h => ⟨o, old k o h, Rel.refl o⟩, fun hi k o ho hst => ?_,
    fun hi r id hk => (hi r id hk).imp fun o h => ⟨old id o h.1, h.2⟩, fun _ h => h⟩
  rw [getOp_append, Option.or_eq_some_iff] at ho
  rcases ho with hg | ⟨_, hg⟩
  · exact hi k o hg hst
  · split at hg
    · cases hg; rw [hn] at hst; cases hst
    · cases hg

theorem keeps_stepEv (c : Ctl) (e : Ev) : Keeps c (stepEv c e).1 := by
  cases e with
  | putRegion v => exact keeps_views c _
  | delRegion r => exact keeps_views c _
  | newOp n =>
    dsimp only [stepEv]
    split
    · exact Keeps.refl c
    · exact keeps_newOp c _ rfl
  | add ids => exact (moves_addOperator c ids).keeps
  | addWaiting ids rs => exact (moves_addWaiting c ids rs).keeps
  | promote rs => exact (moves_promote c rs).keeps
  | heartbeat v rs => exact (keeps_views c _).trans (moves_dispatch (putView c v) v true rs).keeps
  | push rs => exact (moves_pushLoop c rs _).keeps
  | remove id => exact (moves_removeOperator c id).keeps
  | expire id =>
    dsimp only [stepEv]
    split
    · next x hx => exact (moves_setOp hx (calm_flags x x.cur true x.startedOld)).keeps
    · exact Keeps.refl c
  | markTimeout id =>
    dsimp only [stepEv]
    split
    · next x hx =>
      split
      · exact (moves_setOp hx (calm_flags x x.cur x.createdOld true)).keeps
      · exact Keeps.refl c
    · exact Keeps.refl c
  | sleep ms => exact Moves.keeps (Moves.of_frame rfl)
  | influence => exact (moves_touchRunning c).keeps

theorem keeps_runEv (c : Ctl) (evs : List Ev) : Keeps c (runEv c evs) :=
  foldl_inv (Keeps c) _ evs c (Keeps.refl c) fun c' e _ h => h.trans (keeps_stepEv c' e)

theorem inv_runEv_placeholder : True := trivial

theorem inv_runEv (c : Ctl) (evs : List Ev) (hi : Inv c) : Inv (runEv c evs) := (keeps_runEv c evs).inv hi

end PdModel.OpCtl
