import PdModel.Model.StorageLoad
/-! Paging lemmas for C17: a page is a prefix of what is left, and paging is transparent. -/
namespace PdModel.StorageLoad
open PdModel.PadKey

variable {V : Type}

/-- what `kvSave` maintains on uint64 ids -/
def Sorted (kv : KV V) : Prop := kv.Pairwise (fun a b => a.1 < b.1)

/-- strictly below: the id `MaxUint64` itself is the case of F7a -/
def Bounded (kv : KV V) : Prop := ∀ e ∈ kv, e.1 < maxU64

def fromId (kv : KV V) (n : Nat) : KV V := kv.filter (fun e => decide (n ≤ e.1))

theorem keyLtId_of_le {a b : Nat} (ha : a ≤ maxU64) (hb : b ≤ maxU64) : keyLtId a b = decide (a < b) :=
  keyLtId_eq a b (uint64_lt_pow20 a ha) (uint64_lt_pow20 b hb)

theorem sorted_filter (kv : KV V) (h : Sorted kv) (p : Nat × V → Bool) : Sorted (kv.filter p) :=
  List.Pairwise.filter _ h

theorem bounded_filter (kv : KV V) (h : Bounded kv) (p : Nat × V → Bool) : Bounded (kv.filter p) :=
  fun e he => h e (List.mem_filter.1 he).1

theorem mem_fromId {kv : KV V} {n : Nat} {e : Nat × V} : e ∈ fromId kv n ↔ e ∈ kv ∧ n ≤ e.1 := by
  simp only [fromId, List.mem_filter, decide_eq_true_eq]

theorem fromId_zero (kv : KV V) : fromId kv 0 = kv :=
  List.filter_eq_self.2 fun _ _ => decide_eq_true (Nat.zero_le _)

theorem fromId_fromId (kv : KV V) (a b : Nat) (h : a ≤ b) : fromId (fromId kv a) b = fromId kv b := by
  unfold fromId
  rw [List.filter_filter]
  apply List.filter_congr
  intro e _
  by_cases hb : b ≤ e.1
  · simp [hb, Nat.le_trans h hb]
  · simp [hb]

theorem fromId_succ_of_sorted (p r : KV V) (e : Nat × V) (h : Sorted (p ++ e :: r)) :
    fromId (p ++ e :: r) (e.1 + 1) = r := by
  rw [Sorted, List.pairwise_append, List.pairwise_cons] at h
  obtain ⟨_, ⟨her, _⟩, hpe⟩ := h
  unfold fromId
  rw [List.filter_append, List.filter_cons_of_neg (by simp), List.filter_eq_nil_iff.2, List.filter_eq_self.2,
    List.nil_append]
  · intro x hx; exact decide_eq_true (her x hx)
  · intro x hx; have := hpe x hx e (List.mem_cons_self ..); simp; omega

theorem mem_of_mem_loadRange {kv : KV V} {lo hi limit : Nat} {x : Nat × V} (h : x ∈ loadRange kv lo hi limit) :
    x ∈ kv := by
  unfold loadRange at h
  split at h
  · exact (List.mem_filter.1 h).1
  · exact (List.mem_filter.1 (List.mem_of_mem_take h)).1

theorem loadRange_eq {kv : KV V} (hb : Bounded kv) {next limit : Nat} (hn : next ≤ maxU64) (hl : 0 < limit) :
    loadRange kv next maxU64 limit = (fromId kv next).take limit := by
  unfold loadRange fromId
  rw [if_neg (Nat.ne_of_gt hl)]
  congr 1
  apply List.filter_congr
  intro e he
  have h1 := hb e he
  rw [keyLtId_of_le (Nat.le_of_lt h1) hn, keyLtId_of_le (Nat.le_of_lt h1) (Nat.le_refl _)]
  simp [h1, ← Nat.not_lt]

theorem page_last {kv : KV V} (hb : Bounded kv) {next limit : Nat} (hn : next ≤ maxU64) (hl : 0 < limit)
    (h : (loadRange kv next maxU64 limit).length < limit) : loadRange kv next maxU64 limit = fromId kv next := by
  rw [loadRange_eq hb hn hl] at h ⊢
  rw [List.length_take] at h
  exact List.take_of_length_le (by omega)

theorem page_full {kv : KV V} (hs : Sorted kv) (hb : Bounded kv) {next limit : Nat} (hn : next ≤ maxU64)
    (hl : 0 < limit) {page : KV V} (hp : loadRange kv next maxU64 limit = page) (h : ¬ page.length < limit) :
    nextAfter page next ≤ maxU64 ∧ fromId kv next = page ++ fromId kv (nextAfter page next) ∧
      ∀ x ∈ page, x.1 < nextAfter page next := by
  rw [loadRange_eq hb hn hl] at hp
  have hsl : Sorted (fromId kv next) := sorted_filter kv hs _
  -- the page is not empty, so it is `ini ++ [e]`
  rcases List.eq_nil_or_concat page with h0 | ⟨ini, e, hpe⟩
  · rw [h0] at h; exact absurd hl h
  rw [List.concat_eq_append] at hpe
  have hsplit : fromId kv next = ini ++ e :: (fromId kv next).drop limit := by
    rw [← List.singleton_append, ← List.append_assoc, ← hpe, ← hp, List.take_append_drop]
  have hmem := mem_fromId.1 (hsplit ▸ List.mem_append_right ini (List.mem_cons_self ..) : e ∈ fromId kv next)
  have hna : nextAfter page next = e.1 + 1 := by simp [hpe, nextAfter]
  rw [hna]
  refine ⟨hb e hmem.1, ?_, ?_⟩
  · rw [← fromId_fromId kv next (e.1 + 1) (by omega)]
    conv => rhs; rhs; rw [hsplit]
    rw [fromId_succ_of_sorted ini _ e (hsplit ▸ hsl), ← hp, List.take_append_drop]
  · rw [hsplit, Sorted, List.pairwise_append] at hsl
    intro x hx
    rcases List.mem_append.1 (hpe ▸ hx) with hx | hx
    · exact Nat.lt_succ_of_lt (hsl.2.2 x hx e (List.mem_cons_self ..))
    · rw [List.mem_singleton.1 hx]; exact Nat.lt_succ_self _

theorem kvRemove_foldl_filter (ds : List Nat) (kv : KV V) :
    ds.foldl kvRemove kv = kv.filter (fun e => !ds.contains e.1) := by
  induction ds generalizing kv with
  | nil => exact (List.filter_eq_self.2 fun _ _ => rfl).symm
  | cons d ds ih =>
    rw [List.foldl_cons, ih, kvRemove, List.filter_filter]
    apply List.filter_congr
    intro e _
    by_cases h : e.1 = d <;> simp [h]

theorem mem_kvRemove_foldl (ds : List Nat) (kv : KV V) (e : Nat × V) :
    e ∈ ds.foldl kvRemove kv ↔ e ∈ kv ∧ e.1 ∉ ds := by
  rw [kvRemove_foldl_filter, List.mem_filter]
  simp

theorem pageStep_kv {σ : Type} (f : σ → Nat × V → σ × List Nat) (s : LoadSt V σ) (e : Nat × V) :
    (pageStep f s e).kv = s.kv.filter (fun x => !(f s.cb e).2.contains x.1) :=
  kvRemove_foldl_filter _ _

theorem fold_loaded {σ : Type} (f : σ → Nat × V → σ × List Nat) (items : KV V) (s : LoadSt V σ) :
    (items.foldl (pageStep f) s).loaded = s.loaded ++ items := by
  induction items generalizing s with
  | nil => simp
  | cons e items ih => rw [List.foldl_cons, ih]; simp [pageStep]

theorem foldl_collect (items : KV V) (s : LoadSt V Unit) :
    items.foldl (pageStep fun _ _ => ((), [])) s = { kv := s.kv, cb := (), loaded := s.loaded ++ items } := by
  induction items generalizing s with
  | nil => simp
  | cons e items ih => rw [List.foldl_cons, ih]; simp [pageStep]

/-- Run from state `c` over `items`, the callback only ever names ids up to that of the item in hand.  This is all
    the paging argument asks of a callback: what it deletes lies behind the start of the next page. -/
def Behind {σ : Type} (f : σ → Nat × V → σ × List Nat) : σ → List (Nat × V) → Prop
  | _, [] => True
  | c, e :: rest => (∀ d ∈ (f c e).2, d ≤ e.1) ∧ Behind f (f c e).1 rest

theorem behind_collect (c : Unit) (items : KV V) :
    Behind (fun (_ : Unit) (_ : Nat × V) => ((), ([] : List Nat))) c items := by
  induction items with
  | nil => trivial
  | cons e items ih => exact ⟨fun _ hd => (nomatch hd), ih⟩

/-- processing a page of ids below `b` only removes items, and none from `b` on -/
theorem behind_frame {σ : Type} {f : σ → Nat × V → σ × List Nat} (page rest : KV V) (b : Nat) :
    ∀ s : LoadSt V σ, Behind f s.cb (page ++ rest) → (∀ x ∈ page, x.1 < b) →
      fromId (page.foldl (pageStep f) s).kv b = fromId s.kv b ∧
      (page.foldl (pageStep f) s).kv.Sublist s.kv ∧
      Behind f (page.foldl (pageStep f) s).cb rest := by
  induction page with
  | nil => intro s hs _; exact ⟨rfl, List.Sublist.refl _, hs⟩
  | cons e page ih =>
    intro s hs hp
    obtain ⟨heb, hp'⟩ := List.forall_mem_cons.1 hp
    obtain ⟨h1, h2, h3⟩ := ih (pageStep f s e) hs.2 hp'
    rw [List.foldl_cons]
    refine ⟨?_, h2.trans (pageStep_kv f s e ▸ List.filter_sublist), h3⟩
    rw [h1, pageStep_kv, fromId, List.filter_filter]
    apply List.filter_congr
    intro x _
    by_cases hx : b ≤ x.1
    · -- what the callback names is ≤ e.1 < b
      have : x.1 ∉ (f s.cb e).2 := fun hm => by have := hs.1 _ hm; omega
      simp [hx, this]
    · simp [hx]

/-- the failing LoadRange calls never push the page size below the minimum -/
def Tolerable (minLimit : Nat) : Nat → List Bool → Prop
  | _, [] => True
  | limit, true :: es => limit / 2 ≥ minLimit ∧ Tolerable minLimit (limit / 2) es
  | limit, false :: es => Tolerable minLimit limit es

theorem tolerable_tail {minLimit limit : Nat} {errs : List Bool} (h : Tolerable minLimit limit errs)
    (hh : errs.headD false = false) : Tolerable minLimit limit errs.tail := by
  cases errs with
  | nil => trivial
  | cons b es => cases b with
    | true => simp at hh
    | false => exact h

theorem tolerable_of_count (minLimit : Nat) (errs : List Bool) :
    ∀ limit : Nat, minLimit * 2 ^ (errs.filter (fun b => b)).length ≤ limit → Tolerable minLimit limit errs := by
  induction errs with
  | nil => intro _ _; trivial
  | cons b es ih =>
    intro limit h
    cases b with
    | false => exact ih limit h
    | true =>
      rw [List.filter_cons_of_pos rfl, List.length_cons, Nat.pow_succ, ← Nat.mul_assoc,
        ← Nat.le_div_iff_mul_le (by decide)] at h
      exact ⟨Nat.le_trans (Nat.le_mul_of_pos_right _ Nat.one_le_two_pow) h, ih _ h⟩

theorem loadRegionsLoop_succ {σ : Type} (f : σ → Nat × V → σ × List Nat) (bad : Nat × V → Bool)
    (minLimit fuel next limit : Nat) (errs : List Bool) (s : LoadSt V σ) :
    loadRegionsLoop f bad minLimit (fuel + 1) next limit errs s =
      if errs.headD false then
        if limit / 2 ≥ minLimit then loadRegionsLoop f bad minLimit fuel next (limit / 2) errs.tail s else some (true, s)
      else
        if (pageFold f bad s (loadRange s.kv next maxU64 limit)).2 then
          some (true, (pageFold f bad s (loadRange s.kv next maxU64 limit)).1)
        else if (loadRange s.kv next maxU64 limit).length < limit then
          some (false, (pageFold f bad s (loadRange s.kv next maxU64 limit)).1)
        else loadRegionsLoop f bad minLimit fuel (nextAfter (loadRange s.kv next maxU64 limit) next) limit errs.tail
          (pageFold f bad s (loadRange s.kv next maxU64 limit)).1 :=
  rfl

theorem loadStoresLoop_succ (kv : KV V) (limit fuel next : Nat) (errs : List Bool) (acc : List (Nat × V)) :
    loadStoresLoop kv limit (fuel + 1) next errs acc =
      if errs.headD false then some (true, acc)
      else if (loadRange kv next maxU64 limit).length < limit then some (false, acc ++ loadRange kv next maxU64 limit)
      else loadStoresLoop kv limit fuel (nextAfter (loadRange kv next maxU64 limit) next) errs.tail
        (acc ++ loadRange kv next maxU64 limit) :=
  rfl

theorem pageFold_readable {σ : Type} (f : σ → Nat × V → σ × List Nat) (bad : Nat × V → Bool) (page : KV V)
    (s : LoadSt V σ) (h : ∀ e ∈ page, bad e = false) : pageFold f bad s page = (page.foldl (pageStep f) s, false) := by
  fun_induction pageFold f bad s page with
  | case1 => rfl
  | case2 s e rest hb => rw [h e (List.mem_cons_self ..)] at hb; cases hb
  | case3 s e rest _ ih => exact ih fun x hx => h x (List.mem_cons_of_mem _ hx)

/-- fuel left after a full page `p` of the `a = p + r` remaining items (`t` error flags) -/
theorem fuel_after_page {a p r t fuel limit : Nat} (hlen : a = p + r) (hfull : ¬ p < limit) (hl : 0 < limit)
    (hfu : a + t < fuel + 1) : r + (t - 1) < fuel :=
  have hr : r < a := hlen ▸ Nat.lt_add_of_pos_left (Nat.lt_of_lt_of_le hl (Nat.le_of_not_lt hfull))
  Nat.lt_of_le_of_lt (Nat.add_le_add_left (Nat.sub_le t 1) r)
    (Nat.lt_of_lt_of_le (Nat.add_lt_add_right hr t) (Nat.le_of_lt_succ hfu))

/-- **paging is transparent**: for a callback whose run over the remaining items is `Behind`, on a sorted, bounded kv of
    readable records, with a tolerable error pattern and enough fuel, the loop of `loadRegions` ends without error in the
    state reached by handing every remaining item, in key order, to the callback -/
theorem loadRegionsLoop_spec {σ : Type} {f : σ → Nat × V → σ × List Nat} {bad : Nat × V → Bool}
    {minLimit : Nat} (hmin : 0 < minLimit) :
    ∀ (fuel next limit : Nat) (errs : List Bool) (s : LoadSt V σ),
      Sorted s.kv → Bounded s.kv → (∀ e ∈ s.kv, bad e = false) → Behind f s.cb (fromId s.kv next) →
      next ≤ maxU64 → 0 < limit → Tolerable minLimit limit errs →
      (fromId s.kv next).length + errs.length < fuel →
      loadRegionsLoop f bad minLimit fuel next limit errs s =
        some (false, (fromId s.kv next).foldl (pageStep f) s) := by
  intro fuel
  induction fuel with
  | zero => intro _ _ _ _ _ _ _ _ _ _ _ hfu; exact absurd hfu (Nat.not_lt_zero _)
  | succ fuel ih =>
    intro next limit errs s hs hb hr hf hn hl ht hfu
    rw [loadRegionsLoop_succ]
    by_cases he : errs.headD false = true
    · obtain ⟨es, rfl⟩ : ∃ es, errs = true :: es := by
        cases errs with
        | nil => simp at he
        | cons b es => exact ⟨es, by rw [List.headD_cons] at he; rw [he]⟩
      rw [List.headD_cons, if_pos rfl, if_pos ht.1]
      exact ih next (limit / 2) es s hs hb hr hf hn (Nat.lt_of_lt_of_le hmin ht.1) ht.2 (Nat.lt_of_succ_lt_succ hfu)
    · have he' : errs.headD false = false := by simpa using he
      rw [if_neg he, pageFold_readable f bad _ s (fun x hx => hr x (mem_of_mem_loadRange hx)),
        if_neg Bool.false_ne_true]
      split
      · next hshort => rw [page_last hb hn hl hshort]
      · next hfull =>
        generalize hp : loadRange s.kv next maxU64 limit = page at *
        obtain ⟨hn', hsplit, hlt⟩ := page_full hs hb hn hl hp hfull
        obtain ⟨hfr, hsub, hf'⟩ := behind_frame page _ _ s (hsplit ▸ hf) hlt
        have hlen := congrArg List.length hsplit
        rw [List.length_append] at hlen
        rw [ih _ limit errs.tail _ (List.Pairwise.sublist hsub hs) (fun x hx => hb x (hsub.subset hx))
          (fun x hx => hr x (hsub.subset hx)) (hfr ▸ hf') hn' hl (tolerable_tail ht he')
          (by rw [hfr, List.length_tail]; exact fuel_after_page hlen hfull hl hfu), hfr, hsplit, List.foldl_append]

theorem loadRegions_spec {σ : Type} {f : σ → Nat × V → σ × List Nat} {bad : Nat × V → Bool}
    {maxLimit minLimit : Nat} (hmin : 0 < minLimit) (hmax : 0 < maxLimit) {kv : KV V} (hs : Sorted kv)
    (hb : Bounded kv) (hr : ∀ e ∈ kv, bad e = false) {init : σ} (hf : Behind f init kv) {errs : List Bool}
    (ht : Tolerable minLimit maxLimit errs) :
    loadRegions f bad maxLimit minLimit kv init errs =
      some (false, kv.foldl (pageStep f) { kv := kv, cb := init, loaded := [] }) := by
  rw [loadRegions, loadRegionsLoop_spec hmin _ 0 maxLimit errs _ hs hb hr ((fromId_zero kv).symm ▸ hf) (Nat.zero_le _)
    hmax ht (by rw [fromId_zero]; exact Nat.lt_succ_of_lt (Nat.lt_succ_self _)), fromId_zero]

/-- `LoadStores` with no failing call is `loadRegions` with the collecting callback and a fixed page size -/
theorem loadStoresLoop_eq_regions (kv : KV V) (limit minLimit : Nat) :
    ∀ (fuel next : Nat) (acc : List (Nat × V)),
      loadStoresLoop kv limit fuel next [] acc =
        (loadRegionsLoop (fun (_ : Unit) _ => ((), [])) (fun _ => false) minLimit fuel next limit []
          { kv := kv, cb := (), loaded := acc }).map (fun r => (r.1, r.2.loaded)) := by
  intro fuel
  induction fuel with
  | zero => intro _ _; rfl
  | succ fuel ih =>
    intro next acc
    simp only [loadStoresLoop_succ, loadRegionsLoop_succ, List.headD_nil, Bool.false_eq_true, if_false, List.tail_nil,
      pageFold_readable _ _ _ _ (fun _ _ => rfl), foldl_collect]
    split
    · rfl
    · exact ih _ _

end PdModel.StorageLoad
