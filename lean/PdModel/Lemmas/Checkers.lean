import PdModel.Model.Checkers
import PdModel.Prelude.ListFacts
/-! Helper lemmas for C10 (the filters also serve C11): store lookup, outcome lists, the region simulator, the filters and the store selection. -/
namespace PdModel.Checkers
open PdModel.Spec.C10 PdModel.Filters

theorem ite_eq_or {α} (c : Prop) [Decidable c] (a b : α) : (if c then a else b) = a ∨ (if c then a else b) = b :=
  ite_ind (P := fun x => x = a ∨ x = b) (fun _ => .inl rfl) fun _ => .inr rfl

theorem findStore_id {stores : List Store} {i : Nat} {s : Store} (h : findStore stores i = some s) :
    s.id = i ∧ s ∈ stores := by
  unfold findStore at h
  have h1 := List.find?_some h
  exact ⟨by simpa using h1, List.mem_of_find?_eq_some h⟩

theorem findStore_of_mem {stores : List Store} (hnd : (stores.map (·.id)).Nodup) {s : Store}
    (hs : s ∈ stores) : findStore stores s.id = some s := by
  induction stores with
  | nil => cases hs
  | cons a t ih =>
    simp only [List.map_cons, List.nodup_cons] at hnd
    unfold findStore
    rcases List.mem_cons.1 hs with rfl | hs'
    · simp
    · have hne : (a.id == s.id) = false := by
        apply beq_eq_false_iff_ne.2
        intro he; exact hnd.1 (he ▸ List.mem_map.2 ⟨s, hs', rfl⟩)
      rw [List.find?_cons, hne]
      exact ih hnd.2 hs'

theorem mem_storesOf {stores : List Store} {ids : List Nat} {c : Store} :
    c ∈ storesOf stores ids ↔ ∃ i ∈ ids, findStore stores i = some c := by
  simp [storesOf, List.mem_filterMap]

theorem mem_orElse {a b : List Out} {x : Out} (h : x ∈ orElse a b) :
    (x ∈ a ∧ x.isSome) ∨ (none ∈ a ∧ x ∈ b) := by
  obtain ⟨o, ho, hx⟩ := List.mem_flatMap.1 h
  cases o with
  | none => exact Or.inr ⟨ho, hx⟩
  | some v => cases List.mem_singleton.1 hx; exact Or.inl ⟨ho, rfl⟩

theorem forall_orElse' {P : Out → Prop} {a b : List Out} (ha : ∀ x ∈ a, x.isSome → P x)
    (hb : none ∈ a → ∀ x ∈ b, P x) : ∀ x ∈ orElse a b, P x :=
  fun x hx => (mem_orElse hx).elim (fun h => ha x h.1 h.2) (fun h => hb h.1 x h.2)

theorem forall_orElse {P : Out → Prop} {a b : List Out} (ha : ∀ x ∈ a, P x) (hb : ∀ x ∈ b, P x) :
    ∀ x ∈ orElse a b, P x :=
  forall_orElse' (fun x h _ => ha x h) (fun _ => hb)

theorem allSome_orElse_left {a b : List Out} (ha : ∀ x ∈ a, x.isSome = true) :
    ∀ x ∈ orElse a b, x.isSome = true :=
  forall_orElse' (fun _ _ h => h) (fun hn => nomatch ha none hn)

theorem allSome_orElse_right {a b : List Out} (hb : ∀ x ∈ b, x.isSome = true) :
    ∀ x ∈ orElse a b, x.isSome = true :=
  forall_orElse' (fun _ _ h => h) (fun _ => hb)

/-- the shape of the rule loop: attempts in turn, the first that proposes something wins -/
theorem forall_foldr_orElse {α} {P : Out → Prop} {f : α → List Out} {l : List α} (hn : P none)
    (h : ∀ a ∈ l, ∀ x ∈ f a, P x) : ∀ x ∈ l.foldr (fun a acc => orElse (f a) acc) [none], P x := by
  induction l with
  | nil => exact List.forall_mem_singleton.2 hn
  | cons a rest ih =>
    obtain ⟨ha, hrest⟩ := List.forall_mem_cons.1 h
    exact forall_orElse ha (ih hrest)

theorem allSome_foldr_orElse {α} {f : α → List Out} {l : List α} {a : α} (ha : a ∈ l)
    (h : ∀ x ∈ f a, x.isSome = true) : ∀ x ∈ l.foldr (fun a acc => orElse (f a) acc) [none], x.isSome = true := by
  induction l with
  | nil => cases ha
  | cons b rest ih =>
    rcases List.mem_cons.1 ha with rfl | ha'
    · exact allSome_orElse_left h
    · exact allSome_orElse_right (ih ha')

theorem forall_mem_ite {P : Out → Prop} {c : Prop} [Decidable c] {a b : List Out} (ha : c → ∀ o ∈ a, P o)
    (hb : ¬c → ∀ o ∈ b, P o) : ∀ o ∈ (if c then a else b), P o :=
  ite_ind (P := fun l => ∀ o ∈ l, P o) ha hb

theorem forall_pickEach' {P : Out → Prop} {ts : List Store} {f : Store → List Out} (hn : ts = [] → P none)
    (h : ∀ t ∈ ts, ∀ o ∈ f t, P o) : ∀ o ∈ pickEach ts f, P o := by
  intro o ho
  unfold pickEach at ho
  split at ho
  · next he => cases List.mem_singleton.1 ho; exact hn (List.isEmpty_iff.1 he)
  · obtain ⟨t, ht, hot⟩ := List.mem_flatMap.1 ho
    exact h t ht o hot

theorem forall_pickEach {P : Out → Prop} {ts : List Store} {f : Store → List Out} (hn : P none)
    (h : ∀ t ∈ ts, ∀ o ∈ f t, P o) : ∀ o ∈ pickEach ts f, P o :=
  forall_pickEach' (fun _ => hn) h

theorem allSome_pickEach {ts : List Store} {f : Store → List Out} (hne : ts ≠ [])
    (h : ∀ t ∈ ts, ∀ o ∈ f t, o.isSome = true) : ∀ o ∈ pickEach ts f, o.isSome = true :=
  forall_pickEach' (fun he => absurd he hne) h

theorem forall_mayFail {P : Out → Prop} {x : String × Req} (hs : P (some x)) (hn : P none) :
    ∀ o ∈ mayFail x, P o :=
  List.forall_mem_cons.2 ⟨hs, List.forall_mem_singleton.2 hn⟩

theorem forall_addAccepted {P : Out → Prop} {r : Region} {x : String × Req} (hs : P (some x)) (hn : P none) :
    ∀ o ∈ addAccepted r x, P o := by
  have h1 : ∀ o ∈ [none], P o := List.forall_mem_singleton.2 hn
  unfold addAccepted
  cases r.leaderPeer with
  | none => exact h1
  | some l =>
    exact forall_mem_ite (fun _ => h1) fun _ =>
      forall_mem_ite (fun _ => List.forall_mem_singleton.2 hs) fun _ => forall_mayFail hs hn

theorem length_filter_ne_ge (l : List Peer) (o : Nat) (hnd : (l.map (·.store)).Nodup) :
    l.length ≤ (l.filter (fun p => p.store != o)).length + 1 := by
  induction l with
  | nil => exact Nat.zero_le _
  | cons a t ih =>
    have ⟨ha, ht⟩ := List.nodup_cons.1 hnd
    by_cases h : a.store = o
    · -- nothing else sits on `o`
      rw [List.filter_cons, if_neg (by simp [h]), List.filter_eq_self.2 fun p hp =>
        bne_iff_ne.2 fun he => ha (List.mem_map.2 ⟨p, hp, he.trans h.symm⟩)]
      exact Nat.le_refl _
    · rw [List.filter_cons, if_pos (bne_iff_ne.2 h)]
      exact Nat.succ_le_succ (ih ht)

/-- health of a peer only looks at the peer (its id, whether it is new) and the region's down / pending lists -/
def hp (r : Region) (p : Peer) : Bool := p.fresh || (!(r.isDown p.id) && !(r.isPending p.id))

theorem healthy_eq (r : Region) : r.healthy = r.peers.filter (hp r) := rfl

theorem peers_add (r : Region) (n role : Nat) :
    (applyStep r (.add n role)).peers = r.peers ++ [r.newPeer n role] := rfl

theorem peers_remove (r : Region) (o : Nat) :
    (applyStep r (.remove o)).peers = r.peers.filter (fun p => p.store != o) := rfl

theorem healthy_add (r : Region) (n role : Nat) :
    (applyStep r (.add n role)).healthy = r.healthy ++ [r.newPeer n role] := by
  rw [healthy_eq, peers_add, List.filter_append]
  rfl

theorem healthy_remove (r : Region) (o : Nat) :
    (applyStep r (.remove o)).healthy = r.healthy.filter (fun p => p.store != o) := by
  simp only [applyStep, Region.healthy, Region.isDown, Region.isPending, List.filter_filter]
  congr 1
  funext a
  exact Bool.and_comm _ _

theorem counts_add (r : Region) (n role : Nat) :
    (applyStep r (.add n role)).peers.length = r.peers.length + 1 ∧
    (applyStep r (.add n role)).healthy.length = r.healthy.length + 1 := by
  rw [peers_add, healthy_add, List.length_append, List.length_append]; exact ⟨rfl, rfl⟩

theorem nodup_stores_add {r : Region} {n : Nat} (role : Nat) (hnd : r.stores.Nodup) (hn : n ∉ r.stores) :
    (applyStep r (.add n role)).stores.Nodup := by
  have : (applyStep r (.add n role)).stores = r.stores ++ [n] := List.map_append ..
  rw [this]
  exact List.nodup_append.2 ⟨hnd, List.nodup_cons.2 ⟨List.not_mem_nil, List.nodup_nil⟩,
    fun a ha b hb h => hn (List.mem_singleton.1 hb ▸ h ▸ ha)⟩

theorem counts_remove (r : Region) (o : Nat) (hnd : r.stores.Nodup) :
    r.peers.length ≤ (applyStep r (.remove o)).peers.length + 1 ∧
    r.healthy.length ≤ (applyStep r (.remove o)).healthy.length + 1 := by
  rw [peers_remove, healthy_remove]
  exact ⟨length_filter_ne_ge _ o hnd, length_filter_ne_ge _ o ((List.filter_sublist.map _).nodup hnd)⟩

theorem same_counts_promote (r : Region) (s : Nat) :
    (applyStep r (.promote s)).peers.length = r.peers.length ∧
    (applyStep r (.promote s)).healthy.length = r.healthy.length := by
  constructor
  · exact List.length_map ..
  · simp only [applyStep, Region.healthy, Region.isDown, Region.isPending, List.filter_map, List.length_map]
    congr 2
    funext p
    simp only [Function.comp]
    split <;> rfl

theorem same_counts_transfer (r : Region) (s : Nat) :
    (applyStep r (.transfer s)).peers = r.peers ∧ (applyStep r (.transfer s)).healthy = r.healthy ∧
    (applyStep r (.transfer s)).stores = r.stores := by
  simp only [applyStep]
  split <;> exact ⟨rfl, rfl, rfl⟩

theorem applySteps_append (r : Region) (l₁ l₂ : List Step) :
    applySteps r (l₁ ++ l₂) = applySteps (applySteps r l₁) l₂ := List.foldl_append ..

theorem peers_applyStep (r : Region) (s : Step) :
    (addedStores [s] = [] → (applyStep r s).peers.length ≤ r.peers.length) ∧
    (removedStores [s] = [] → r.peers.length ≤ (applyStep r s).peers.length) := by
  have same : ∀ {r' : Region}, r'.peers.length = r.peers.length →
      (addedStores [s] = [] → r'.peers.length ≤ r.peers.length) ∧ (removedStores [s] = [] → r.peers.length ≤ r'.peers.length) :=
    fun e => ⟨fun _ => Nat.le_of_eq e, fun _ => Nat.le_of_eq e.symm⟩
  cases s with
  | add n role => exact ⟨fun h => (nomatch h), fun _ => by rw [peers_add, List.length_append]; exact Nat.le_add_right ..⟩
  | remove o => exact ⟨fun _ => List.length_filter_le .., fun h => (nomatch h)⟩
  | transfer l => exact same (congrArg _ (same_counts_transfer r l).1)
  | promote st => exact same (List.length_map ..)
  | demote st => exact same (List.length_map ..)
  | other => exact same rfl

theorem filterMap_cons_nil {α β} {f : α → Option β} {a : α} {l : List α} (h : (a :: l).filterMap f = []) :
    [a].filterMap f = [] ∧ l.filterMap f = [] :=
  List.append_eq_nil_iff.1 (List.filterMap_append (l := [a]) ▸ h)

theorem applySteps_peers_le {bs : List Step} (h : addedStores bs = []) (r : Region) :
    (applySteps r bs).peers.length ≤ r.peers.length := by
  induction bs generalizing r with
  | nil => exact Nat.le_refl _
  | cons s bs ih =>
    have h' := filterMap_cons_nil h
    exact Nat.le_trans (ih h'.2 _) ((peers_applyStep r s).1 h'.1)

/-- `as` removes nothing and `bs` adds nothing: the count does not fall through `as` nor rise through `bs` -/
theorem order_of_adds_first (as bs : List Step) (ha : removedStores as = []) (hb : addedStores bs = [])
    (r : Region) (k : Nat) :
    min r.peers.length (applySteps r (as ++ bs)).peers.length ≤ (applySteps r ((as ++ bs).take k)).peers.length := by
  induction as generalizing r k with
  | nil =>
    have := applySteps_peers_le (bs := bs.drop k)
      (List.eq_nil_of_sublist_nil (hb ▸ (List.drop_sublist k bs).filterMap _)) (applySteps r (bs.take k))
    rw [← applySteps_append, List.take_append_drop] at this
    exact Nat.le_trans (Nat.min_le_right ..) this
  | cons s as ih =>
    have h' := filterMap_cons_nil ha
    cases k with
    | zero => exact Nat.min_le_left ..
    | succ k =>
      exact Nat.le_trans (Nat.le_min.2 ⟨Nat.le_trans (Nat.min_le_left ..) ((peers_applyStep r s).2 h'.1),
        Nat.min_le_right ..⟩) (ih h'.2 (applyStep r s) k)

end PdModel.Checkers

namespace PdModel.Filters
open PdModel.Spec.C10

theorem not_cond {typ : Nat} {f : SSF} {o : Opts} {s : Store} (h : anyCond typ f o s = false) (c : Nat)
    (hc : c ∈ (PdModel.Generated.Checkers.condTable[typ]?).getD []) : condHolds c f o s = false :=
  Bool.eq_false_iff.2 (List.any_eq_false.1 h c hc)

/-- a store that passes a row holding the conditions tombstone (0), down (1) and offline (2), as every target row
    does, is up and not down -/
theorem up_of_row {typ : Nat} {f : SSF} {o : Opts} {s : Store} (h : anyCond typ f o s = false)
    (h0 : 0 ∈ (PdModel.Generated.Checkers.condTable[typ]?).getD [])
    (h1 : 1 ∈ (PdModel.Generated.Checkers.condTable[typ]?).getD [])
    (h2 : 2 ∈ (PdModel.Generated.Checkers.condTable[typ]?).getD []) :
    s.state = 0 ∧ s.downSecs < o.conf.maxDownSecs := by
  have c0 : ¬2 ≤ s.state := of_decide_eq_false (not_cond h 0 h0)
  have c1 : ¬o.conf.maxDownSecs ≤ s.downSecs := of_decide_eq_false (not_cond h 1 h1)
  have c2 : s.state ≠ 1 := ne_of_beq_false (not_cond h 2 h2)
  exact ⟨by omega, Nat.lt_of_not_le c1⟩

end PdModel.Filters

namespace PdModel.Checkers
open PdModel.Spec.C10 PdModel.Filters

/-- the region-target row of the extracted table, evaluated -/
theorem regionTarget_eq (o : Opts) (s : Store) (a : Bool) :
    ({ moveRegion := true, allowTemp := a } : SSF).target o s =
      !(decide (2 ≤ s.state) || (s.state == 1 || (decide (o.conf.maxDownSecs ≤ s.downSecs) ||
        ((!a && decide (o.conf.disconnectSecs ≤ s.downSecs)) || ((!a && s.busy) || ((!a && !s.addAvail) ||
        ((!a && (decide (o.maxSnap < s.sendSnap) || decide (o.maxSnap < s.recvSnap))) ||
        ((!a && decide (0 < o.maxPending) && decide (o.maxPending < s.pending)) || false)))))))) := rfl

theorem regionTarget_strict (o : Opts) (s : Store)
    (h : ({ moveRegion := true } : SSF).target o s = true) :
    s.state = 0 ∧ s.downSecs < o.conf.maxDownSecs ∧ s.downSecs < o.conf.disconnectSecs ∧ s.busy = false ∧
    s.addAvail = true ∧ s.sendSnap ≤ o.maxSnap ∧ s.recvSnap ≤ o.maxSnap ∧
    (0 < o.maxPending → s.pending ≤ o.maxPending) := by
  rw [regionTarget_eq] at h
  simp only [Bool.not_false, Bool.true_and, Bool.or_false, Bool.not_eq_true', Bool.or_eq_false_iff,
    decide_eq_false_iff_not, beq_eq_false_iff_ne, Bool.and_eq_false_imp, Bool.not_eq_false', decide_eq_true_eq,
    Nat.not_le, Nat.not_lt] at h
  obtain ⟨h0, h2, h1, h4, h5, h7, h8, h9⟩ := h
  exact ⟨by omega, h1, h4, h5, h7, h8.1, h8.2, h9⟩

theorem regionTarget_strict_of (o : Opts) (s : Store)
    (h0 : s.state = 0) (h1 : s.downSecs < o.conf.maxDownSecs) (h2 : s.downSecs < o.conf.disconnectSecs)
    (h3 : s.busy = false) (h4 : s.addAvail = true) (h5 : s.sendSnap = 0) (h6 : s.recvSnap = 0)
    (h7 : s.pending = 0) (allowTemp : Bool) :
    ({ moveRegion := true, allowTemp := allowTemp } : SSF).target o s = true := by
  rw [regionTarget_eq]
  simp only [h0, h3, h4, h5, h6, h7, Nat.not_lt_zero, decide_false, Bool.and_false, Bool.or_false, Bool.false_or,
    Bool.not_true, Nat.reduceLeDiff, Nat.reduceBEq, Bool.not_eq_true', Bool.or_eq_false_iff, decide_eq_false_iff_not,
    Bool.and_eq_false_imp, Nat.not_le]
  exact ⟨h1, fun _ => h2⟩

structure AddGood (o : Opts) (r : Region) (s : Store) : Prop where
  up        : s.isUp = true
  notDown   : s.notDown o.conf = true
  connected : s.connected o.conf = true
  notBusy   : s.busy = false
  addAvail  : s.addAvail = true
  snaps     : s.sendSnap ≤ o.maxSnap ∧ s.recvSnap ≤ o.maxSnap
  pendingOk : 0 < o.maxPending → s.pending ≤ o.maxPending
  space     : s.lowSpace o.conf = false
  fresh     : r.stores.contains s.id = false
  ordinary  : specialUseTarget [] s = true

theorem mem_selectStoreToAdd {o : Opts} {stores : List Store} {r : Region} {st : Strategy} {co : List Store}
    {extra : Store → Bool} {s : Store} (h : s ∈ selectStoreToAdd o stores r st co extra) :
    s ∈ stores ∧ AddGood o r s ∧
    (st.labels.isEmpty = false → st.level ≠ "" → isolationTarget st.labels st.level co s = true) ∧
    extra s = true ∧ (∀ cs, st.constraints = some cs → matchConstraints cs s = true) := by
  unfold selectStoreToAdd at h
  simp only [List.mem_filter] at h
  obtain ⟨⟨⟨hmem, hf⟩, _⟩, hstrict⟩ := h
  obtain ⟨h0, h1, h2, h3, h4, h5, h6, h7⟩ := regionTarget_strict o s hstrict
  simp only [addFilters, Bool.and_eq_true] at hf
  obtain ⟨⟨⟨⟨⟨⟨hex, hsp⟩, hsu⟩, _⟩, hiso⟩, hextra⟩, hcons⟩ := hf
  refine ⟨hmem, ⟨beq_iff_eq.2 h0, decide_eq_true h1, decide_eq_true h2, h3, h4, ⟨h5, h6⟩, h7,
    (Bool.not_eq_true' _).mp hsp, (Bool.not_eq_true' _).mp hex, hsu⟩, fun hl hv => ?_, hextra, fun cs hc => ?_⟩
  · simpa [hl, hv] using hiso
  · rw [hc] at hcons; exact hcons

theorem mem_selectStoreToRemove {o : Opts} {st : Strategy} {co : List Store} {s : Store}
    (h : s ∈ selectStoreToRemove o st co) : s ∈ co :=
  (List.mem_filter.1 (List.mem_filter.1 h).1).1

/-- `SelectStoreToImprove` is `SelectStoreToAdd` with the peer on `old` set aside and a further filter -/
theorem mem_selectStoreToImprove {o : Opts} {stores : List Store} {r : Region} {st : Strategy} {co : List Store} {old : Nat} {s : Store}
    (h : s ∈ selectStoreToImprove o stores r st co old) :
    ∃ extra, s ∈ selectStoreToAdd o stores r st (dropOld co old) extra := by
  unfold selectStoreToImprove at h
  split at h
  · cases h
  · exact ⟨_, h⟩

theorem levelIdx_eq {labels : List String} {level : String} {n : Nat} (h : levelIdx labels level = some n) :
    isolationIdx labels level = n := by
  simp only [levelIdx] at h
  simp only [isolationIdx]
  split at h
  · next hlt =>
    simp only [Option.some.injEq] at h
    subst h
    simp [hlt]
  · cases h

theorem isolationTarget_eq {labels : List String} {level : String} {n : Nat} (h : levelIdx labels level = some n)
    (co : List Store) (s : Store) :
    isolationTarget labels level co s = co.all (fun c => !(sameUpTo labels n c s)) := by
  rw [isolationTarget, levelIdx_eq h]

theorem isolationOK_of_target {labels : List String} {level : String} {co coSpec : List Store} {s : Store}
    (hsub : ∀ c ∈ coSpec, c ∈ co)
    (h : labels.isEmpty = false → level ≠ "" → isolationTarget labels level co s = true) :
    isolationOK labels level coSpec s = true := by
  unfold isolationOK
  refine ite_ind (P := (· = true)) (fun _ => rfl) fun hc => ?_
  simp only [Bool.or_eq_true, not_or, Bool.not_eq_true, beq_iff_eq] at hc
  cases hn : levelIdx labels level with
  | none => rfl
  | some n =>
    have ht := h hc.1 hc.2
    rw [isolationTarget_eq hn] at ht
    exact List.all_eq_true.2 fun c hc' => List.all_eq_true.1 ht c (hsub c hc')

theorem isolationTarget_of_due {labels : List String} {level : String} {co : List Store} {s : Store}
    (h : isolationDue labels level co s = true) (hl : labels.isEmpty = false) (hv : level ≠ "") :
    isolationTarget labels level co s = true := by
  unfold isolationDue at h
  have hc : ¬(labels.isEmpty || level == "") = true := by simp [hl, hv]
  rw [if_neg hc] at h
  cases hn : levelIdx labels level with
  | none => rw [hn] at h; cases h
  | some n =>
    rw [hn] at h
    rw [isolationTarget_eq hn]
    exact h

theorem label_eq_empty {s : Store} {k : String} (h : ∀ kv ∈ s.labels, foldEq kv.1 k = false) : s.label k = "" := by
  unfold Store.label
  split
  · next kv hkv =>
    have hk : foldEq kv.1 k = true := List.find?_some (p := fun kv : String × String => foldEq kv.1 k) hkv
    rw [h kv (List.mem_of_find?_eq_some hkv)] at hk; cases hk
  · rfl

theorem coStores_sub {x : Input} {ids : List Nat} {steps : List Step} :
    ∀ c ∈ coStores x ids steps, c ∈ storesOf x.stores ids := by
  intro c hc
  obtain ⟨i, hi, hf⟩ := List.mem_filterMap.1 hc
  exact mem_storesOf.2 ⟨i, (List.mem_filter.1 hi).1, hf⟩

theorem coStores_nil (x : Input) (ids : List Nat) : coStores x ids [] = storesOf x.stores ids :=
  congrArg _ (List.filter_eq_self.2 fun _ _ => rfl)

theorem coStores_sub_dropOld {x : Input} {ids : List Nat} {steps : List Step} {old : Nat} {s : Store}
    (hrm : removedStores steps = [old]) (hi : old ∈ ids) (hf : findStore x.stores old = some s) :
    ∀ c ∈ coStores x ids steps, c ∈ dropOld (storesOf x.stores ids) old := by
  intro c hc
  simp only [coStores, hrm, List.mem_filterMap, List.mem_filter] at hc
  obtain ⟨i, ⟨hi', hne⟩, hf'⟩ := hc
  have hio : i ≠ old := by
    intro he
    subst he
    simp at hne
  have hany : (storesOf x.stores ids).any (·.id == old) = true :=
    List.any_eq_true.2 ⟨s, mem_storesOf.2 ⟨old, hi, hf⟩, by simp [(findStore_id hf).1]⟩
  unfold dropOld
  rw [if_pos hany]
  exact (List.mem_eraseP_of_neg (by simp [(findStore_id hf').1, hio])).2 (mem_storesOf.2 ⟨i, hi', hf'⟩)

theorem foldl_max_eq {α} (f : α → Nat) {b : Nat} (l : List α) (m : Nat) (hm : m ≤ b) (h : ∀ s ∈ l, f s ≤ b)
    (hb : m = b ∨ ∃ s ∈ l, f s = b) : l.foldl (fun m s => max m (f s)) m = b := by
  induction l generalizing m with
  | nil => exact hb.elim id (fun ⟨_, hs, _⟩ => nomatch hs)
  | cons a t ih =>
    have ha := h a (List.mem_cons_self ..)
    refine ih _ (Nat.max_le.2 ⟨hm, ha⟩) (fun s hs => h s (List.mem_cons_of_mem _ hs)) ?_
    rcases hb with rfl | ⟨s, hs, rfl⟩
    · exact Or.inl (Nat.max_eq_left ha)
    · rcases List.mem_cons.1 hs with rfl | hs
      · exact Or.inl (Nat.max_eq_right hm)
      · exact Or.inr ⟨s, hs, rfl⟩

end PdModel.Checkers
