import PdModel.Lemmas.RegionTreeOps
/-!
`Inv` (the invariant of RegionsInfo), `abs` (the list of current regions) and the refinement steps of
SetRegion / RemoveRegion.
-/
namespace PdModel.RegionTree
open PdModel.Spec.C07 (WFRange WF Overlap OnStore)
open PdModel.Spec

/-- the id map and the item list `U` describe the same set of regions -/
structure MapOk (s : RegionsInfo) (U : List Nat) : Prop where
  keys : (s.regions.map (·.1)).Nodup
  fwd : ∀ a ∈ U, mapGet s.regions (s.acc a).id = some a
  bwd : ∀ (id a : Nat), mapGet s.regions id = some a → a ∈ U ∧ (s.acc a).id = id
  bound : ∀ a ∈ U, a < s.heap.length

theorem MapOk.inj {s : RegionsInfo} {U : List Nat} (h : MapOk s U) :
    ∀ a ∈ U, ∀ b ∈ U, (s.acc a).id = (s.acc b).id → a = b := by
  intro a ha b hb e
  have h1 := h.fwd a ha
  have h2 := h.fwd b hb
  rw [e, h2] at h1
  exact (Option.some.inj h1).symm

theorem MapOk.id_ne {s : RegionsInfo} {U : List Nat} (h : MapOk s U) {id : Nat} (hnone : mapGet s.regions id = none)
    {a : Nat} (ha : a ∈ U) : (s.acc a).id ≠ id :=
  fun e => by rw [← e, h.fwd a ha] at hnone; cases hnone

theorem MapOk.frame {s s' : RegionsInfo} {U : List Nat} (h : MapOk s U) (hheap : s'.heap = s.heap)
    (hreg : s'.regions = s.regions) : MapOk s' U := by
  have hacc := acc_eq_of_heap hheap
  exact ⟨hreg ▸ h.keys, hacc ▸ hreg ▸ h.fwd, hacc ▸ hreg ▸ h.bwd, hheap ▸ h.bound⟩

theorem MapOk.of_mem {s : RegionsInfo} {U V : List Nat} (h : MapOk s U) (hm : ∀ a, a ∈ V ↔ a ∈ U) : MapOk s V :=
  ⟨h.keys, fun a ha => h.fwd a ((hm a).1 ha), fun id a hg => ⟨(hm a).2 (h.bwd id a hg).1, (h.bwd id a hg).2⟩,
    fun a ha => h.bound a ((hm a).1 ha)⟩

theorem MapOk.del {s s' : RegionsInfo} {U : List Nat} (h : MapOk s U) {x : Nat} (hx : x ∈ U)
    (hheap : s'.heap = s.heap) (hreg : s'.regions = mapDel s.regions (s.acc x).id) :
    MapOk s' (U.filter (fun a => decide (a ≠ x))) := by
  refine ⟨?_, ?_, ?_, ?_⟩
  · rw [hreg, mapDel_keys]; exact List.Nodup.sublist List.filter_sublist h.keys
  · intro a ha
    obtain ⟨haU, hne⟩ := mem_filter_ne.1 ha
    have : (s.acc a).id ≠ (s.acc x).id := fun e => hne (h.inj a haU x hx e)
    rw [acc_eq_of_heap hheap, hreg, mapGet_mapDel, if_neg this]
    exact h.fwd a haU
  · intro id a hg
    rw [hreg, mapGet_mapDel] at hg
    split at hg
    · cases hg
    · next hne =>
      obtain ⟨g1, g2⟩ := h.bwd id a hg
      exact ⟨mem_filter_ne.2 ⟨g1, fun e => hne (by rw [← g2, e])⟩, by rw [acc_eq_of_heap hheap]; exact g2⟩
  · intro a ha; rw [hheap]; exact h.bound a (mem_filter_ne.1 ha).1

theorem MapOk.set {s s' : RegionsInfo} {U : List Nat} (h : MapOk s U) {x : Nat} {r : Region} (hx : x ∈ U)
    (hid : (s.acc x).id = r.id) (hheap : s'.heap = s.heap.set x r) (hreg : s'.regions = s.regions) : MapOk s' U := by
  have hacc : ∀ a, s'.acc a = if a = x then r else s.acc a := by
    intro a
    have : s'.acc = ({ s with heap := s.heap.set x r } : RegionsInfo).acc := acc_eq_of_heap hheap
    rw [this, acc_set s x r (h.bound x hx)]
  have hsid : ∀ a, (s'.acc a).id = (s.acc a).id := by
    intro a; rw [hacc]; split
    · next e => rw [e, hid]
    · rfl
  refine ⟨hreg ▸ h.keys, fun a ha => by rw [hsid, hreg]; exact h.fwd a ha, fun id a hg => ?_, fun a ha => ?_⟩
  · rw [hsid]; exact h.bwd id a (hreg ▸ hg)
  · rw [hheap, List.length_set]; exact h.bound a ha

theorem MapOk.push {s s' : RegionsInfo} {U : List Nat} (h : MapOk s U) {r : Region}
    (hnone : mapGet s.regions r.id = none) (hheap : s'.heap = s.heap ++ [r])
    (hreg : s'.regions = mapSet s.regions r.id s.heap.length) : MapOk s' (s.heap.length :: U) := by
  have hacc : ∀ a, s'.acc a = if a = s.heap.length then r else s.acc a := by
    intro a
    have : s'.acc = ({ s with heap := s.heap ++ [r], regions := s'.regions } : RegionsInfo).acc := acc_eq_of_heap hheap
    rw [this, acc_push]
  have hold : ∀ a ∈ U, s'.acc a = s.acc a := fun a ha => by
    rw [hacc, if_neg (Nat.ne_of_lt (h.bound a ha))]
  have hnotin : r.id ∉ s.regions.map (·.1) := mapGet_none_iff.1 hnone
  refine ⟨?_, ?_, ?_, ?_⟩
  · rw [hreg, mapSet_keys, if_neg hnotin, List.nodup_append]
    exact ⟨h.keys, by simp, by intro a ha b hb e; simp at hb; subst hb; subst e; exact hnotin ha⟩
  · intro a ha
    rw [hreg, mapGet_mapSet]
    rcases List.mem_cons.1 ha with rfl | ha
    · simp [hacc]
    · rw [hold a ha, if_neg (h.id_ne hnone ha)]; exact h.fwd a ha
  · intro id a hg
    rw [hreg, mapGet_mapSet] at hg
    split at hg
    · next e => cases hg; exact ⟨List.mem_cons_self, by simp [hacc, e]⟩
    · obtain ⟨g1, g2⟩ := h.bwd id a hg
      exact ⟨List.mem_cons_of_mem _ g1, by rw [hold a g1]; exact g2⟩
  · intro a ha
    rw [hheap, List.length_append, List.length_singleton]
    rcases List.mem_cons.1 ha with rfl | ha
    · omega
    · have := h.bound a ha; omega

theorem getRegion_some {s : RegionsInfo} {id : Nat} {g : Region} (h : getRegion s id = some g) :
    ∃ x, mapGet s.regions id = some x ∧ s.acc x = g := by
  unfold getRegion at h
  cases hm : mapGet s.regions id with
  | none => rw [hm] at h; cases h
  | some x => rw [hm] at h; exact ⟨x, rfl, Option.some.inj h⟩

theorem MapOk.getRegion {s : RegionsInfo} {U : List Nat} (h : MapOk s U) {a : Nat} (ha : a ∈ U) :
    getRegion s (s.acc a).id = some (s.acc a) := by
  unfold RegionTree.getRegion; rw [h.fwd a ha]; rfl

/-- the invariant of RegionsInfo: ordered non-overlapping main tree with exact size counter, id map and
    tree describe the same regions, every sub-tree is the matching filter of the main tree -/
structure Inv (s : RegionsInfo) : Prop where
  noNil : s.nilDeref = false
  ord : Ordered s.acc s.tree.items
  wf : ∀ a ∈ s.tree.items, WF (s.acc a)
  total : s.tree.totalSize = sumOf s.acc s.tree.items
  map : MapOk s s.tree.items
  subs : SubsOk s s.tree.items

/-- the current regions, in key order -/
def abs (s : RegionsInfo) : List Region := s.tree.items.map s.acc

theorem Inv.of_items {s : RegionsInfo} {U : List Nat} (hU : s.tree.items = U) (noNil : s.nilDeref = false)
    (ord : Ordered s.acc U) (wf : ∀ a ∈ U, WF (s.acc a)) (total : s.tree.totalSize = sumOf s.acc U)
    (map : MapOk s U) (subs : SubsOk s U) : Inv s := by
  subst hU; exact ⟨noNil, ord, wf, total, map, subs⟩

theorem inv_init : Inv {} := by
  refine ⟨rfl, ⟨.nil, nofun⟩, nofun, rfl, ⟨.nil, nofun, nofun, nofun⟩, fun role st => ?_⟩
  have : ({} : RegionsInfo).sub role st = {} := by cases role <;> rfl
  rw [this]; exact ⟨rfl, rfl⟩

theorem treeIs_main {s : RegionsInfo} (h : Inv s) : TreeIs s.acc s.tree s.tree.items (fun _ => true) :=
  treeIs_true.2 ⟨rfl, h.total⟩

theorem getRegion_cached {s : RegionsInfo} (h : Inv s) {id : Nat} {g : Region} (hg : getRegion s id = some g) :
    ∃ x ∈ s.tree.items, s.acc x = g ∧ g.id = id := by
  obtain ⟨x, hx, rfl⟩ := getRegion_some hg
  exact ⟨x, (h.map.bwd _ _ hx).1, rfl, (h.map.bwd _ _ hx).2⟩

/-- the state in the middle of SetRegion when the range is new or has changed: item `x` (by then the new region)
    is known to the id map but sits in no sub-tree; besides `x` the id map knows the items `U`, and
    the sub-trees hold exactly these.  At first `U` is the main tree; after `update` it still contains the displaced
    items, which the loop over the overlaps takes out one by one. -/
structure Detached (σ : RegionsInfo) (x : Nat) (U : List Nat) : Prop where
  noNil : σ.nilDeref = false
  notin : x ∉ U
  ord : Ordered σ.acc U
  wf : ∀ a ∈ U, WF (σ.acc a)
  map : MapOk σ (x :: U)
  subs : SubsOk σ U

/-- one round of that loop: `RemoveRegion` of the cached object of a displaced item leaves the main tree alone (no
    item there carries that id any more) and takes the item out of the map and the sub-trees -/
theorem Detached.step {σ : RegionsInfo} {x : Nat} {U : List Nat} (h : Detached σ x U) {o : Nat} (hoU : o ∈ U) (htree : ∀ a ∈ σ.tree.items, a ∈ x :: U ∧ a ≠ o) :
    (removeRegion σ (σ.acc o)).tree = σ.tree ∧
    Detached (removeRegion σ (σ.acc o)) x (U.filter (fun a => decide (a ≠ o))) := by
  have hoM : o ∈ x :: U := List.mem_cons_of_mem _ hoU
  have hrm : σ.tree.remove σ.acc (σ.acc o) = σ.tree :=
    Tree.remove_noop fun a ha _ e => (htree a ha).2 (h.map.inj a (htree a ha).1 o hoM e)
  have hmap := h.map.del (s' := removeRegion σ (σ.acc o)) hoM rfl rfl
  have hxo : x ≠ o := fun e => h.notin (e ▸ hoU)
  rw [List.filter_cons, if_pos (decide_eq_true hxo)] at hmap
  exact ⟨hrm, h.noNil, fun hx => h.notin (mem_filter_ne.1 hx).1, h.ord.filter _ _,
    fun a ha => h.wf a (mem_filter_ne.1 ha).1, hmap,
    subsOk_removeSub (s := { σ with tree := σ.tree.remove σ.acc (σ.acc o), regions := mapDel σ.regions (σ.acc o).id })
      h.ord hoU (RemovesAs.refl (h.wf o hoU)) h.subs⟩

theorem removeOverlapped_cons (σ : RegionsInfo) (g : Region) (gs : List Region) :
    removeOverlapped σ (g :: gs) = removeOverlapped
      (match getRegion σ g.id with
        | some g' => removeRegion σ g'
        | none => { σ with nilDeref := true }) gs := rfl

/-- the whole loop, over distinct items `ovl` of `U`, when the main tree already lies within what remains -/
theorem Detached.loop (ovl : List Nat) : ∀ {σ σ' : RegionsInfo} {x : Nat} {U : List Nat}, Detached σ x U →
    (∀ o ∈ ovl, o ∈ U) → ovl.Nodup →
    (∀ a ∈ σ.tree.items, a ∈ x :: U.filter (fun a => decide (a ∉ ovl))) →
    σ' = removeOverlapped σ (ovl.map σ.acc) →
    σ'.tree = σ.tree ∧ σ'.acc = σ.acc ∧ Detached σ' x (U.filter (fun a => decide (a ∉ ovl))) := by
  induction ovl with
  | nil =>
    intro σ σ' x U h _ _ _ hσ'
    rw [filter_notMem_nil, hσ']; exact ⟨rfl, rfl, h⟩
  | cons o rest ih =>
    intro σ σ' x U h hov hnd htree hσ'
    have hoU := hov o List.mem_cons_self
    obtain ⟨hnot, hnd'⟩ := List.nodup_cons.1 hnd
    obtain ⟨h1tree, h1⟩ := h.step hoU fun a ha => (List.mem_cons.1 (htree a ha)).elim
      (fun e => ⟨e ▸ List.mem_cons_self, fun eo => h.notin (e ▸ eo ▸ hoU)⟩)
      fun hm => ⟨List.mem_cons_of_mem _ (List.mem_filter.1 hm).1,
        fun e => of_decide_eq_true (List.mem_filter.1 hm).2 (e ▸ List.mem_cons_self)⟩
    rw [← filter_ne_filter_notMem] at htree ⊢
    obtain ⟨i1, i2, i3⟩ := ih h1
      (fun o' ho' => mem_filter_ne.2 ⟨hov o' (List.mem_cons_of_mem _ ho'), fun e => hnot (e ▸ ho')⟩) hnd'
      (h1tree ▸ htree) (σ' := σ') (by
        rw [hσ', List.map_cons, removeOverlapped_cons, h.map.getRegion (List.mem_cons_of_mem _ hoU)]; rfl)
    exact ⟨i1.trans h1tree, i2, i3⟩

/-- `ReplaceOrInsert` of a new key into the tree is the specification's insertion into the list of regions -/
theorem map_insertItem {acc : Acc} {K : List Nat} {x : Nat} (hK : Asc acc K)
    (hnew : ∀ b ∈ K, (acc b).startKey ≠ (acc x).startKey) :
    (insertItem acc K x).map acc = C07.insertByKey (acc x) (K.map acc) := by
  induction K with
  | nil => rfl
  | cons y ys ih =>
    obtain ⟨hy, hys⟩ := List.pairwise_cons.1 hK
    rw [List.map_cons, C07.insertByKey]
    split
    · next hlt =>
      -- `x` goes in front of the head, hence of everything
      have hall : ∀ z ∈ y :: ys, (acc x).startKey < (acc z).startKey := fun z hz =>
        (List.mem_cons.1 hz).elim (fun e => e ▸ hlt) fun hz => List.lt_trans hlt (hy z hz)
      unfold insertItem
      rw [List.filter_eq_nil_iff.2 fun z hz => by simpa using List.lt_asymm (hall z hz),
        List.filter_eq_self.2 fun z hz => decide_eq_true (hall z hz)]
      rfl
    · next hge =>
      have hlt := (Key.lt_or_gt_of_ne (hnew y List.mem_cons_self)).resolve_right hge
      rw [← ih hys fun b hb => hnew b (List.mem_cons_of_mem _ hb)]
      unfold insertItem
      rw [List.filter_cons_of_pos (p := fun a => decide ((acc a).startKey < (acc x).startKey)) (decide_eq_true hlt),
        List.filter_cons_of_neg (p := fun a => decide ((acc x).startKey < (acc a).startKey)) (by simpa using hge)]
      rfl

/-- `put` takes the older version of `r` out first, then what overlaps `r` -/
theorem put_eq (L : List Region) (r : Region) :
    C07.put L r = C07.insertByKey r
      ((L.filter (fun y => decide (y.id ≠ r.id))).filter (fun y => decide (¬ Overlap y r))) := by
  unfold C07.put
  rw [List.filter_filter]
  exact congrArg _ (List.filter_congr fun y _ => Bool.decide_and _ _)

theorem displaced_eq (L : List Region) (r : Region) :
    C07.displaced L r = (L.filter (fun y => decide (y.id ≠ r.id))).filter (fun y => decide (Overlap y r)) := by
  unfold C07.displaced
  rw [List.filter_filter]
  exact List.filter_congr fun y _ => Bool.decide_and _ _

theorem abs_filter_id {s : RegionsInfo} (h : Inv s) {x : Nat} (hx : x ∈ s.tree.items) {id : Nat}
    (hid : (s.acc x).id = id) :
    (abs s).filter (fun y => decide (y.id ≠ id)) = (s.tree.items.filter (fun a => decide (a ≠ x))).map s.acc := by
  subst hid
  unfold abs
  rw [List.filter_map]
  congr 1
  apply List.filter_congr
  intro a ha
  exact decide_eq_decide.2 ⟨fun hne e => hne (e ▸ rfl), fun hne e => hne (h.map.inj a ha x hx e)⟩

/-- what SetRegion gives back for a well-formed region in a state satisfying the invariant -/
structure PutOk (s : RegionsInfo) (r : Region) : Prop where
  inv : Inv (setRegion s r).1
  abs_eq : abs (setRegion s r).1 = C07.put (abs s) r
  out_eq : (setRegion s r).2 = C07.displaced (abs s) r

/-- from the detached state on, SetRegion is: `update` the main tree, remove what it displaced, add the item to the
    sub-trees of its peers' stores -/
theorem putOk_of_detached {s s1 : RegionsInfo} {r o : Region} {x : Nat} {U : List Nat}
    (hdet : setRegionDetach s r = (s1, x, o, true, true)) (hU : s1.tree.items = U) (h : Detached s1 x U)
    (htot : s1.tree.totalSize = sumOf s1.acc U) (hx : s1.acc x = r) (hr : WF r)
    (hL : U.map s1.acc = (abs s).filter (fun y => decide (y.id ≠ r.id))) : PutOk s r := by
  subst hx hU
  obtain ⟨m1, m2, m3, m4⟩ := Tree.update_main h.ord htot hr.1
  -- `ovl` / `K`: the items that overlap the new range / do not; `t`: the main tree with `x` in place of `ovl`
  generalize hovl : s1.tree.items.filter (fun a => decide (Overlap (s1.acc a) (s1.acc x))) = ovl at m1
  generalize hK : s1.tree.items.filter (fun a => decide (¬ Overlap (s1.acc a) (s1.acc x))) = K at m2
  generalize ht : (s1.tree.update s1.acc x).1 = t at m2 m3 m4
  have hmK : ∀ a ∈ K, a ∈ s1.tree.items ∧ ¬ Overlap (s1.acc a) (s1.acc x) := fun a ha =>
    (List.mem_filter.1 (hK ▸ ha)).imp_right of_decide_eq_true
  have hKasc : Asc s1.acc K := hK ▸ (h.ord.asc _).filter _ _
  have hnewK : ∀ b ∈ K, (s1.acc b).startKey ≠ (s1.acc x).startKey := fun b hb =>
    startKey_ne_of_not_overlap (h.wf b (hmK b hb).1).1 hr.1 (hmK b hb).2
  have hmV : ∀ a, a ∈ t.items ↔ a ∈ x :: K := fun a =>
    (m2 ▸ mem_insertItem_of_new s1.acc hnewK).trans List.mem_cons.symm
  have hKU : s1.tree.items.filter (fun a => decide (a ∉ ovl)) = K := by
    rw [← hK, ← hovl]; apply List.filter_congr; intro a ha; simp [List.mem_filter, ha]
  have hKV : t.items.filter (fun a => decide (a ≠ x)) = K := by
    rw [m2, filter_insertItem_neg s1.acc hKasc x _ (by simp) hnewK]
    exact List.filter_eq_self.2 fun a ha => decide_eq_true fun e => h.notin (e ▸ (hmK a ha).1)
  obtain ⟨σ', hσ'⟩ : ∃ σ', σ' = removeOverlapped { s1 with tree := t } (ovl.map s1.acc) := ⟨_, rfl⟩
  obtain ⟨e1, e2, e3⟩ : σ'.tree = t ∧ σ'.acc = s1.acc ∧ Detached σ' x K :=
    hKU ▸ Detached.loop ovl (σ := { s1 with tree := t }) ⟨h.noNil, h.notin, h.ord, h.wf, h.map.frame rfl rfl, h.subs⟩
      (fun o ho => (List.mem_filter.1 (hovl ▸ ho)).1) (hovl ▸ ((h.ord.asc _).filter _ _).nodup _)
      (fun a ha => hKU ▸ (hmV a).1 ha) hσ'
  have hset : setRegion s (s1.acc x) = (addToSubTrees σ' x (s1.acc x), ovl.map s1.acc) := by
    unfold setRegion setRegionMain
    rw [hdet]
    simp only [Bool.not_true, Bool.false_eq_true, if_false]
    rw [ht, m1, ← hσ']
    rfl
  have hsubs := subsOk_add (e2 ▸ m4) ((hmV x).2 List.mem_cons_self) (congrFun e2 x) hr (hKV ▸ e3.subs)
  generalize hfin : addToSubTrees σ' x (s1.acc x) = fin at hset hsubs
  -- `fin` differs from `σ'` in the four families only (said through `mapFams`: left to unification,
  -- `addToSubTrees σ' ..` is first compared with `σ'` field by field, which is slow to fail)
  have hmap : MapOk fin t.items := hfin ▸ (e3.map.of_mem hmV).frame (mapFams_heap σ' _) (mapFams_regions σ' _)
  have f1 : fin.tree = t := hfin ▸ (mapFams_tree σ' _).trans e1
  have f2 : fin.acc = s1.acc := hfin ▸ (mapFams_acc σ' _).trans e2
  have f3 : fin.nilDeref = false := hfin ▸ (mapFams_nil σ' _).trans e3.noNil
  refine ⟨?_, ?_, ?_⟩ <;> rw [hset]
  · refine Inv.of_items (congrArg Tree.items f1) f3 (f2 ▸ m4) ?_ (by rw [f1, f2]; exact m3) hmap hsubs
    intro a ha
    rcases List.mem_cons.1 ((hmV a).1 ha) with rfl | hk
    · exact f2 ▸ hr
    · exact f2 ▸ h.wf a (hmK a hk).1
  · show fin.tree.items.map fin.acc = _
    rw [put_eq, ← hL, f1, f2, m2, map_insertItem hKasc hnewK, List.filter_map, ← hK]
    rfl
  · show ovl.map s1.acc = _
    rw [displaced_eq, ← hL, List.filter_map, ← hovl]
    rfl

theorem setRegion_new {s : RegionsInfo} {r : Region} (h : Inv s) (hr : WF r)
    (hnone : mapGet s.regions r.id = none) : PutOk s r := by
  have hdet : setRegionDetach s r =
      ({ s with heap := s.heap ++ [r], regions := mapSet s.regions r.id s.heap.length },
        s.heap.length, default, true, true) := by
    unfold setRegionDetach; rw [hnone]
  have hsame : ∀ a ∈ s.tree.items, RegionsInfo.acc
      { s with heap := s.heap ++ [r], regions := mapSet s.regions r.id s.heap.length } a = s.acc a := fun a ha => by
    rw [acc_push, if_neg (Nat.ne_of_lt (h.map.bound a ha))]
  refine putOk_of_detached hdet rfl ⟨h.noNil, fun hx => Nat.lt_irrefl _ (h.map.bound _ hx), h.ord.congr hsame,
    fun a ha => (hsame a ha) ▸ h.wf a ha, h.map.push hnone rfl rfl, h.subs.congr (fun _ => rfl) hsame⟩
    (h.total.trans (sumOf_congr hsame).symm) (by rw [acc_push, if_pos rfl]) hr ?_
  refine (List.map_congr_left hsame).trans (List.filter_eq_self.2 fun y hy => ?_).symm
  obtain ⟨a, ha, rfl⟩ := List.mem_map.1 hy
  exact decide_eq_true (h.map.id_ne hnone ha)

theorem setRegion_range {s : RegionsInfo} {r : Region} {x : Nat} (h : Inv s) (hr : WF r)
    (hsome : mapGet s.regions r.id = some x)
    (hrc : (s.acc x).startKey ≠ r.startKey ∨ (s.acc x).endKey ≠ r.endKey) : PutOk s r := by
  obtain ⟨hxU, hxid⟩ := h.map.bwd _ _ hsome
  have hxl := h.map.bound x hxU
  have hrcb : (decide ((s.acc x).startKey ≠ r.startKey) || decide ((s.acc x).endKey ≠ r.endKey)) = true :=
    Bool.or_eq_true_iff.2 (hrc.imp decide_eq_true decide_eq_true)
  have hdet : setRegionDetach s r = ({ removeRegionFromSubTree { s with tree := s.tree.remove s.acc (s.acc x) } (s.acc x)
      with heap := s.heap.set x r }, x, s.acc x, true, true) := by
    unfold setRegionDetach
    rw [hsome]
    simp only [hrcb, if_true]
    rfl
  obtain ⟨hit, htot⟩ := treeIs_true.1 (Tree.remove_is h.ord hxU rfl rfl rfl (treeIs_main h))
  have hsame : ∀ a ∈ s.tree.items.filter (fun a => decide (a ≠ x)),
      ({ s with heap := s.heap.set x r } : RegionsInfo).acc a = s.acc a := fun a ha => by
    rw [acc_set s x r hxl, if_neg (mem_filter_ne.1 ha).2]
  have hsub := subsOk_removeSub (s := { s with tree := s.tree.remove s.acc (s.acc x) }) h.ord hxU
    (RemovesAs.refl (h.wf x hxU)) h.subs
  exact putOk_of_detached hdet hit ⟨h.noNil, fun hx => (mem_filter_ne.1 hx).2 rfl, (h.ord.filter _ _).congr hsame,
    fun a ha => (hsame a ha) ▸ h.wf a (mem_filter_ne.1 ha).1,
    (h.map.of_mem (mem_cons_filter_ne hxU)).set List.mem_cons_self hxid rfl rfl, hsub.congr (fun _ => rfl) hsame⟩
    (htot.trans (sumOf_congr hsame).symm) ((acc_set s x r hxl x).trans (if_pos rfl)) hr
    ((List.map_congr_left hsame).trans (abs_filter_id h hxU hxid).symm)

theorem overlap_congr {y r o : Region} (h1 : r.startKey = o.startKey) (h2 : r.endKey = o.endKey) :
    Overlap y r ↔ Overlap y o := by
  unfold Overlap; rw [h1, h2]

/-- known id, same range: the item stays where it is in the main tree and gets the new RegionInfo; which way the
    sub-trees go (`hsubs`) depends on `shouldRemoveFromSubTree` -/
theorem putOk_same {s fin : RegionsInfo} {r : Region} {x : Nat} (h : Inv s) (hr : WF r) (hxU : x ∈ s.tree.items)
    (hxid : (s.acc x).id = r.id) (hk1 : (s.acc x).startKey = r.startKey) (hk2 : (s.acc x).endKey = r.endKey)
    (hset : setRegion s r = (fin, [])) (hheap : fin.heap = s.heap.set x r) (hreg : fin.regions = s.regions)
    (hnil : fin.nilDeref = s.nilDeref) (htree : fin.tree = s.tree.updateStat (s.acc x) r)
    (hsubs : SubsOk fin s.tree.items) : PutOk s r := by
  have hfin : fin.acc = RegionsInfo.acc { s with heap := s.heap.set x r } := acc_eq_of_heap hheap
  have hacc : ∀ a, fin.acc a = if a = x then r else s.acc a := fun a => by
    rw [hfin, acc_set s x r (h.map.bound x hxU)]
  have hrx : fin.acc x = r := by rw [hacc, if_pos rfl]
  have hold : ∀ a, a ≠ x → fin.acc a = s.acc a := fun a ha => by rw [hacc, if_neg ha]
  have hitems : fin.tree.items = s.tree.items := by rw [htree]; rfl
  have hord : Ordered fin.acc s.tree.items := hfin ▸ h.ord.set (h.map.bound x hxU) hk1 hk2
  have hasc := hord.asc _
  have hnd : s.tree.items.Nodup := hasc.nodup _
  -- without the old version of the region the current regions are those of the other items; none of them overlaps `r`
  have hrest := abs_filter_id h hxU hxid
  have hno : ∀ y ∈ (s.tree.items.filter (fun a => decide (a ≠ x))).map s.acc, ¬ Overlap y r := by
    intro y hy hov
    obtain ⟨a, ha, rfl⟩ := List.mem_map.1 hy
    exact h.ord.not_overlap _ (mem_filter_ne.1 ha).1 hxU (mem_filter_ne.1 ha).2 ((overlap_congr hk1.symm hk2.symm).1 hov)
  refine ⟨?_, ?_, ?_⟩ <;> rw [hset]
  · refine Inv.of_items hitems (hnil ▸ h.noNil) hord ?_ ?_ (h.map.set hxU hxid hheap hreg) hsubs
    · intro a ha; rw [hacc]; split
      · exact hr
      · exact h.wf a ha
    · rw [htree]
      show s.tree.totalSize + r.size - (s.acc x).size = _
      rw [h.total, sumOf_update hnd hxU hold, hrx]
  · show fin.tree.items.map fin.acc = _
    have hmap : (s.tree.items.filter (fun a => decide (a ≠ x))).map s.acc = (s.tree.items.filter (fun a => decide (a ≠ x))).map fin.acc :=
      List.map_congr_left fun a ha => (hold a (mem_filter_ne.1 ha).2).symm
    rw [put_eq, hrest, List.filter_eq_self.2 fun y hy => decide_eq_true (hno y hy), hmap, hitems, ← hrx,
      ← map_insertItem (hasc.filter _ _) (hasc.key_ne _ hxU), insertItem_filter_ne _ hasc hxU]
  · show ([] : List Region) = _
    rw [displaced_eq, hrest, List.filter_eq_nil_iff.2 fun y hy => by simpa using hno y hy]

theorem setRegion_same {s : RegionsInfo} {r : Region} {x : Nat} (h : Inv s) (hr : WF r)
    (hsome : mapGet s.regions r.id = some x)
    (hk1 : (s.acc x).startKey = r.startKey) (hk2 : (s.acc x).endKey = r.endKey) : PutOk s r := by
  obtain ⟨hxU, hxid⟩ := h.map.bwd _ _ hsome
  have hxl := h.map.bound x hxU
  have hrcb : (decide ((s.acc x).startKey ≠ r.startKey) || decide ((s.acc x).endKey ≠ r.endKey)) = false :=
    Bool.or_eq_false_iff.2 ⟨decide_eq_false (not_not_intro hk1), decide_eq_false (not_not_intro hk2)⟩
  cases hp : shouldRemoveFromSubTree r (s.acc x) with
  | false =>
    refine putOk_same (fin := updateSubTreeStat { s with heap := s.heap.set x r, tree := s.tree.updateStat (s.acc x) r }
      (s.acc x) r) h hr hxU hxid hk1 hk2 ?_ rfl rfl rfl rfl
      (subsOk_updateStat h.ord hxU (acc_set s x r hxl) (fun role => by cases role <;> rfl) hr hp h.subs)
    unfold setRegion setRegionDetach
    rw [hsome]
    simp only [hrcb, hp, Bool.false_eq_true, if_false]
    rfl
  | true =>
    obtain ⟨sM, hsM⟩ : ∃ sM : RegionsInfo, sM = { removeRegionFromSubTree s (s.acc x) with
        heap := s.heap.set x r, tree := s.tree.updateStat (s.acc x) r } := ⟨_, rfl⟩
    refine putOk_same (fin := addToSubTrees sM x r) h hr hxU hxid hk1 hk2 ?_ ?_ ?_ ?_ ?_ ?_
    · unfold setRegion setRegionDetach
      rw [hsome, hsM]
      simp only [hrcb, hp, Bool.false_eq_true, if_false, if_true]
      rfl
    iterate 4 exact hsM ▸ rfl
    have hacc : sM.acc = RegionsInfo.acc { s with heap := s.heap.set x r } := hsM ▸ rfl
    have hB : SubsOk sM (s.tree.items.filter (fun a => decide (a ≠ x))) :=
      (subsOk_removeSub h.ord hxU (RemovesAs.refl (h.wf x hxU)) h.subs).congr (fun _ => hsM ▸ rfl)
        fun a ha => by rw [hacc, acc_set s x r hxl, if_neg (mem_filter_ne.1 ha).2]; rfl
    exact subsOk_add (hacc ▸ h.ord.set hxl hk1 hk2) hxU (by rw [hacc, acc_set s x r hxl, if_pos rfl]) hr hB

theorem setRegion_refines {s : RegionsInfo} {r : Region} (h : Inv s) (hr : WF r) : PutOk s r := by
  cases hg : mapGet s.regions r.id with
  | none => exact setRegion_new h hr hg
  | some x =>
    by_cases hk : (s.acc x).startKey = r.startKey ∧ (s.acc x).endKey = r.endKey
    · exact setRegion_same h hr hg hk.1 hk.2
    · refine setRegion_range h hr hg ?_
      by_cases h1 : (s.acc x).startKey = r.startKey
      · exact Or.inr (fun h2 => hk ⟨h1, h2⟩)
      · exact Or.inl h1

/-- `g` is the cached region of its id or any object that does for it (`RemovesAs`): in the DropCacheRegion race a
    region heartbeat lands between GetRegion and RemoveRegion, and the older object is removed -/
theorem removeRegion_refines {s : RegionsInfo} {g c : Region} (h : Inv s)
    (hc : getRegion s g.id = some c) (hg : RemovesAs g c) :
    Inv (removeRegion s g) ∧ abs (removeRegion s g) = C07.remove (abs s) g.id := by
  obtain ⟨x, hsome, rfl⟩ := getRegion_some hc
  obtain ⟨hxU, hxid⟩ := h.map.bwd _ _ hsome
  obtain ⟨hit, htot⟩ := treeIs_true.1 (Tree.remove_is h.ord hxU hg.key hg.id hg.size (treeIs_main h))
  have hsub := subsOk_removeSub
    (s := { s with tree := s.tree.remove s.acc g, regions := mapDel s.regions g.id }) h.ord hxU hg h.subs
  have hmap : MapOk (removeRegion s g) _ := h.map.del hxU rfl (by rw [← hg.id]; rfl)
  refine ⟨Inv.of_items hit h.noNil (h.ord.filter _ _) (fun a ha => h.wf a (List.mem_filter.1 ha).1) htot hmap hsub, ?_⟩
  show (s.tree.remove s.acc g).items.map s.acc = _
  rw [hit]
  exact (abs_filter_id h hxU hxid).symm

end PdModel.RegionTree
