import PdModel.Model.Syncer
import PdModel.Lemmas.HistoryBuf
import PdModel.Lemmas.Syncer
import PdModel.Lemmas.SyncRegion
import PdModel.Spec.C16
import PdModel.Generated.Syncer
/-!
C16 – property theorems.

Part 1, the change log: every capacity, every flush interval and every sequence of record / reset / restart
operations, with arbitrary kv failures where the statement allows them.
-/
namespace PdModel.HistoryBuf
open PdModel.Spec
variable {α : Type}

/-- operations on the change log; `fails` = the `kv.Save` issued by the operation (if any) fails -/
inductive HOp (α : Type) where
  | record (r : α) (fails : Bool)
  | reset (n : Nat) (fails : Bool)
  | restart (cap : Nat)

/-- the buffer together with what a client knows: its capacity, the records it handed over since the
    last reset/restart and the next index -/
structure HState (α : Type) where
  buf : Buf α
  cap : Nat
  log : C16.Log α

def hstep (s : HState α) : HOp α → HState α
  | .record r f =>
    { s with buf := record s.buf r f, log := { log := s.log.log ++ [r], next := s.log.next + 1 } }
  | .reset n f => { s with buf := resetWithIndex s.buf n f, log := { log := [], next := n } }
  | .restart c =>
    let b := restart s.buf c
    { buf := b, cap := c, log := { log := [], next := b.index } }

def hinit (cap : Nat) (kv : Option Nat) (flush : Nat) : HState α :=
  { buf := new cap kv flush, cap := cap, log := { log := [], next := kv.getD 0 } }

def hrun (s : HState α) (ops : List (HOp α)) : HState α := ops.foldl hstep s

/-- refinement invariant of the combined state: the buffer has `max cap 1` usable slots and holds the
    newest `max cap 1` records of the client's log -/
def HInv (s : HState α) : Prop :=
  s.buf.size = max s.cap 1 + 1 ∧
  Rel s.buf { next := s.log.next, win := lastN (max s.cap 1) s.log.log }

theorem hinv_init (cap : Nat) (kv : Option Nat) (flush : Nat) : HInv (hinit cap kv flush : HState α) :=
  ⟨new_size cap kv flush, (lastN_nil (max cap 1)).symm ▸ rel_new cap kv flush⟩

theorem hinv_step (s : HState α) (h : HInv s) (op : HOp α) : HInv (hstep s op) := by
  obtain ⟨hsz, hr⟩ := h
  cases op with
  | record r f =>
    have hr' := rel_record _ _ hr r f
    rw [Abs.record, hsz, Nat.add_sub_cancel, lastN_append_lastN] at hr'
    exact ⟨(record_size ..).trans hsz, hr'⟩
  | reset n f =>
    exact ⟨(resetWithIndex_fields s.buf n f).1.trans hsz, (lastN_nil (max s.cap 1)).symm ▸ rel_reset _ _ hr n f⟩
  | restart c => exact hinv_init c s.buf.kv s.buf.flush

theorem hinv_run (s : HState α) (h : HInv s) (ops : List (HOp α)) : HInv (hrun s ops) :=
  foldl_inv HInv hstep ops s h fun s op _ h => hinv_step s h op

theorem hrun_records (s : HState α) (rs : List α) :
    hrun s (rs.map fun r => HOp.record r false) =
      { s with buf := rs.foldl (fun b r => record b r false) s.buf,
               log := { log := s.log.log ++ rs, next := s.log.next + rs.length } } := by
  induction rs generalizing s with
  | nil => simp [hrun]
  | cons r rs ih =>
    rw [List.map_cons, hrun, List.foldl_cons, ← hrun, ih]
    simp [hstep, Nat.add_assoc, Nat.add_comm 1]

/-- a buffer that has since recorded no more than its capacity answers a query for its earlier next index with exactly
    those records -/
theorem recordsFrom_records (s : HState α) (h : HInv s) (acc : List α) (hcap : acc.length ≤ max s.cap 1) :
    let b := acc.foldl (fun b r => record b r false) s.buf
    recordsFrom b s.buf.index = acc.map some ∧ b.index = s.buf.index + acc.length := by
  -- the buffer after the records is that of a history extended by them, so it holds the newest entries of the log
  -- extended by `acc`
  have h1 := (hinv_run s h (acc.map fun r => HOp.record r false)).2
  rw [hrun_records] at h1
  rw [h.2.idx]
  exact ⟨by rw [recordsFrom_expected s.cap ⟨_, _⟩ _ h1, C16.expected_append _ _ _ _ hcap], h1.idx⟩

/-- **C16, change log, part 1.**  For every capacity, flush interval, initial persisted index and every
    sequence of records, resets (to any index) and restarts (to any capacity), with any pattern of failing
    saves, `RecordsFrom(i)` returns – for every `i` – exactly the records the specification demands:
    inside the window the records from `i` to the newest in order, outside nothing. -/
theorem records_from_exact (cap : Nat) (kv : Option Nat) (flush : Nat) (ops : List (HOp α)) (i : Nat) :
    let s := hrun (hinit cap kv flush) ops
    recordsFrom s.buf i = (C16.expected s.cap s.log i).map some := by
  intro s
  exact recordsFrom_expected s.cap s.log s.buf (hinv_run _ (hinv_init cap kv flush) ops).2 i

/-- the same, in the words of the specification -/
theorem records_from_ok (cap : Nat) (kv : Option Nat) (flush : Nat) (ops : List (HOp α)) (i : Nat) :
    let s := hrun (hinit cap kv flush) ops
    ∃ answer : List α, recordsFrom s.buf i = answer.map some ∧ C16.RecordsFromOk s.cap s.log i answer := by
  intro s
  exact ⟨_, records_from_exact cap kv flush ops i, (C16.recordsFromOk_iff ..).2 rfl⟩

def HOp.noFail : HOp α → Prop
  | .record _ f => f = false
  | .reset _ f => f = false
  | .restart _ => True

theorem pers_run (F : Nat) (hF : 0 < F) (s : HState α) (h : Pers F s.buf) (ops : List (HOp α))
    (hnf : ∀ op ∈ ops, op.noFail) : Pers F (hrun s ops).buf :=
  foldl_inv (fun s => Pers F s.buf) hstep ops s h fun s op hop h => by
    have h1 := hnf op hop
    cases op with
    | record r f => cases h1; exact pers_record F _ h r
    | reset n f => cases h1; exact pers_reset F _ h n
    | restart c => exact pers_restart F hF _ h c

/-- **C16, change log, part 2.**  After every history without a failing save, a restart (with any
    capacity) continues with an index that is not ahead of the index before the restart and less than one
    flush interval behind it. -/
theorem restart_lag_le_flush (cap : Nat) (kv : Option Nat) (flush : Nat) (hf : 0 < flush)
    (ops : List (HOp α)) (hnf : ∀ op ∈ ops, op.noFail) (c : Nat) :
    let b := (hrun (hinit cap kv flush) ops).buf
    (restart b c).index ≤ b.index ∧ b.index - (restart b c).index < flush := by
  intro b
  obtain ⟨h0, h1, h2, h3⟩ : Pers flush b := pers_run flush hf _ (pers_new cap kv flush hf) ops hnf
  rw [restart_index]
  omega

/-- instantiated with the flush interval extracted from `history_buffer.go`, which must not exceed the
    100 records the property allows (`Spec.C16.flushInterval`), and phrased with the specification's predicate -/
theorem restart_lag_extracted (cap : Nat) (kv : Option Nat) (ops : List (HOp α))
    (hnf : ∀ op ∈ ops, op.noFail) (c : Nat) :
    let b := (hrun (hinit cap kv PdModel.Generated.Syncer.defaultFlushCount) ops).buf
    C16.RestartLagOk C16.flushInterval b.index (restart b c).index := by
  intro b
  have hle : PdModel.Generated.Syncer.defaultFlushCount ≤ C16.flushInterval := by decide
  have := restart_lag_le_flush cap kv PdModel.Generated.Syncer.defaultFlushCount (by decide) ops hnf c
  exact ⟨this.1, Nat.le_trans (Nat.le_of_lt this.2) hle⟩

/-- F12 on the pinned tree before the repair (`ResetWithIndex` did not persist): reset to 10000, 50
    records, restart → the index is back at 0. -/
theorem restart_lag_unfixed_counterexample :
    let b0 : Buf Nat := new 3 none 100
    let b1 := resetWithIndexUnfixed b0 10000
    let b2 := (List.range 50).foldl (fun b k => record b k false) b1
    b2.index = 10050 ∧ (restart b2 3).index = 0 := by
  decide +kernel

/-- non-vacuity: a capacity-3 buffer that wraps, is queried inside and outside its window, reset and
    restarted -/
example :
    let s := hrun (hinit 3 none 2 : HState Nat)
      [.record 10 false, .record 11 false, .record 12 false, .record 13 true, .record 14 false]
    recordsFrom s.buf 3 = [some 13, some 14] ∧ recordsFrom s.buf 1 = [] ∧ recordsFrom s.buf 5 = [] ∧
    recordsFrom s.buf 2 = [some 12, some 13, some 14] ∧ s.buf.kv = some 2 ∧
    (restart s.buf 3).index = 2 := by
  decide

end PdModel.HistoryBuf

namespace PdModel.Syncer
open PdModel.HistoryBuf PdModel.SyncRegion PdModel.Spec

/-!
Part 2, synchronisation.  `WF r`: a present leader has a non-zero peer id (0 is the wire encoding of
"no leader").  `Compat`: different ids, disjoint ranges.  The theorems that speak about the follower's next
index assume that none of its region saves fails (`NoFail`); `failed_save_keeps_cache` covers the cache for
every pattern of failures.
-/

/-- **Batches are exact.**  Whatever the number of regions and the batch size, the batches decoded positionally
    (regions[i] / leaders[i] / stats[i], as the follower does) are exactly the leader's regions with their own
    leaders and flow statistics; start indexes chain; for a positive batch size every batch has three arrays of equal
    length ≤ batch size. -/
theorem full_sync_messages_exact (batch : Nat) (regions : List Region) (hwf : ∀ r ∈ regions, WF r) :
    (fullSync batch regions).flatMap decode = regions ∧ Chained 0 (fullSync batch regions) ∧
    (0 < batch → ∀ m ∈ fullSync batch regions, Aligned batch m) := by
  have h := (fullSync_carries batch regions).spec
  refine ⟨h.1 hwf, h.2.1, fun hb => ?_⟩
  rw [Nat.max_eq_left hb] at h
  exact h.2.2

/-- **The leader's cache is consistent** after every sequence of changed regions, starting empty. -/
theorem leader_cache_consistent (h : Buf Region) (rs : List Region) :
    (leaderPuts { hist := h } rs).cache.Pairwise Compat := by
  rw [(leaderPuts_cache_hist rs _).1]
  exact foldl_applyRegion_consistent _ _ List.Pairwise.nil

/-- **Full synchronisation.**  Leader `l` with a consistent cache (see `leader_cache_consistent`) whose
    history no longer reaches back to index 0; `regions` = its cached regions in whatever order
    `GetRegions` enumerates them; a follower with an empty cache and next index 0.  After the follower
    has applied everything `syncHistoryRegion` sends, its cache holds exactly the regions sent, each
    with the leader's range, epoch, peers, leader and flow statistics, and its next index is their
    number.  Any number of regions, any batch size. -/
theorem full_sync_follower_eq_leader (batch : Nat) (l : Leader) (regions : List Region)
    (hperm : regions.Perm l.cache) (hcons : l.cache.Pairwise Compat) (hwf : ∀ r ∈ l.cache, WF r)
    (hold : recordsFrom l.hist 0 = []) (hidx : l.hist.index ≠ 0)
    (f : Follower) (hfc : f.cache = []) (hfi : f.hist.index = 0) (hnf : NoFail f) :
    let f' := (syncHistoryRegion batch l f.hist.index regions).foldl applyMsg f
    f'.cache = regions ∧ f'.hist.index = regions.length ∧
    ∀ r ∈ l.cache, Cache.find f'.cache r.md.id = some r := by
  intro f'
  have hc : regions.Pairwise Compat := (hperm.pairwise_iff (fun h => compat_symm h)).2 hcons
  obtain ⟨hcache, hindex⟩ := (syncHistoryRegion_full batch l regions hfi hold hidx).applied f rfl
    (fun r hr => hwf r (hperm.mem_iff.1 hr)) hnf
  replace hindex := hindex.trans (by rw [hfi, Nat.zero_add])
  rw [hfc, foldl_applyRegion_compat regions [] (by simpa using hc), List.nil_append] at hcache
  refine ⟨hcache, hindex, fun r hr => ?_⟩
  rw [show f'.cache = regions from hcache]
  exact find_of_pairwise regions hc r (hperm.mem_iff.2 hr)

/-- **Full synchronisation into a follower that already holds regions** (e.g. loaded from its own storage
    after a restart).  The follower's cache is consistent and holds nothing newer than what the leader sends
    (`NotNewer`: no overlapping cached region has a higher version, the cached region of the same id has no
    higher version or conf version); next index 0.  After the full synchronisation every region of the leader
    is in the follower's cache exactly as the leader holds it, the cache is consistent again, and the next index
    is the number of regions sent. -/
theorem full_sync_into_follower (batch : Nat) (l : Leader) (regions : List Region)
    (hperm : regions.Perm l.cache) (hcons : l.cache.Pairwise Compat) (hwf : ∀ r ∈ l.cache, WF r)
    (hold : recordsFrom l.hist 0 = []) (hidx : l.hist.index ≠ 0)
    (f : Follower) (hfcons : f.cache.Pairwise Compat) (hnew : ∀ r ∈ l.cache, NotNewer f.cache r)
    (hfi : f.hist.index = 0) (hnf : NoFail f) :
    let f' := (syncHistoryRegion batch l f.hist.index regions).foldl applyMsg f
    (∀ r ∈ l.cache, Cache.find f'.cache r.md.id = some r) ∧ f'.cache.Pairwise Compat ∧
    f'.hist.index = regions.length := by
  intro f'
  have hc : regions.Pairwise Compat := (hperm.pairwise_iff (fun h => compat_symm h)).2 hcons
  obtain ⟨hcache, hindex⟩ := (syncHistoryRegion_full batch l regions hfi hold hidx).applied f rfl
    (fun r hr => hwf r (hperm.mem_iff.1 hr)) hnf
  replace hindex := hindex.trans (by rw [hfi, Nat.zero_add])
  have hcons' : f'.cache.Pairwise Compat :=
    (show f'.cache = _ from hcache) ▸ foldl_applyRegion_consistent _ _ hfcons
  refine ⟨fun r hr => find_of_pairwise _ hcons' r ?_, hcons', hindex⟩
  rw [show f'.cache = _ from hcache]
  exact foldl_applyRegion_into regions f.cache hc (fun y hy => hnew y (hperm.mem_iff.1 hy)) r (hperm.mem_iff.2 hr)

/-- **Incremental synchronisation.**  The leader's history buffer is any reachable one (any capacity,
    any record/reset/restart history); the follower equals the leader (cache and next index); the leader
    then processes any list `rs` of changed regions (stale ones are dropped, accepted ones are recorded)
    of which at most `capacity` are accepted; the follower synchronises.  Afterwards follower cache = leader
    cache and follower next index = leader next index. -/
theorem incremental_sync_follower_eq_leader (batch cap flush : Nat) (kv : Option Nat)
    (ops : List (HOp Region)) (l0 : Leader)
    (hreach : l0.hist = (hrun (hinit cap kv flush) ops).buf)
    (rs : List Region) (hwf : ∀ r ∈ rs, WF r)
    (hcap : (acceptedOf l0.cache rs).length ≤ max (hrun (hinit cap kv flush : HState Region) ops).cap 1)
    (f : Follower) (hfc : f.cache = l0.cache) (hfi : f.hist.index = l0.hist.index) (hnf : NoFail f)
    (regions : List Region) :
    let l1 := leaderPuts l0 rs
    let f1 := (syncHistoryRegion batch l1 f.hist.index regions).foldl applyMsg f
    f1.cache = l1.cache ∧ f1.hist.index = l1.hist.index := by
  intro l1 f1
  obtain ⟨hlc, hlh⟩ := leaderPuts_cache_hist rs l0
  obtain ⟨hrf, hidx⟩ := recordsFrom_records _ (hinv_run _ (hinv_init (α := Region) cap kv flush) ops) _ hcap
  rw [← hreach, ← hlh, ← hfi] at hrf hidx
  obtain ⟨h1, h2⟩ := (syncHistoryRegion_incremental batch l1 _ regions _ hrf hidx).applied f rfl
    (fun r hr => hwf r (mem_acceptedOf hr)) hnf
  exact ⟨by rw [h1, hfc]; exact hlc.symm, h2.trans hidx.symm⟩

/-- the messages `RunServer` broadcasts for a sequence of changed regions -/
def leaderPutsMsgs : Leader → List Region → List Msg
  | _, [] => []
  | l, r :: rs =>
    match leaderPut l r with
    | (l', some m) => m :: leaderPutsMsgs l' rs
    | (l', none) => leaderPutsMsgs l' rs

theorem leaderPutsMsgs_carries (rs : List Region) :
    ∀ l : Leader, Carries 1 l.hist.index (leaderPutsMsgs l rs) (acceptedOf l.cache rs) := by
  induction rs with
  | nil => intro l; exact .nil _
  | cons r rs ih =>
    intro l
    simp only [leaderPutsMsgs, acceptedOf]
    cases hs : isStale l.cache r with
    | true => rw [leaderPut_stale hs]; exact ih l
    | false =>
      rw [leaderPut_accept hs]
      have := ih { l with cache := putRegion l.cache r, hist := record l.hist r false }
      rw [record_index] at this
      exact Carries.cons (chunk := [r]) (Nat.le_refl 1) this

/-- **Broadcasts are exactly the changes.**  For every leader state and every sequence of changed regions the
    broadcast messages, decoded positionally, are the accepted changes – every one once, in order, each region
    with its own leader and flow statistics – and their start indexes continue the leader's index. -/
theorem broadcast_messages_exact (rs : List Region) (hwf : ∀ r ∈ rs, WF r) :
    ∀ l : Leader, (leaderPutsMsgs l rs).flatMap decode = acceptedOf l.cache rs ∧
      Chained l.hist.index (leaderPutsMsgs l rs) := fun l =>
  have h := (leaderPutsMsgs_carries rs l).spec
  ⟨h.1 fun r hr => hwf r (mem_acceptedOf hr), h.2.1⟩

theorem leaderPutsMsgs_square (rs : List Region) : ∀ l : Leader, ∀ m ∈ leaderPutsMsgs l rs, Square m :=
  fun l m hm => have h := (leaderPutsMsgs_carries rs l).spec.2.2 m hm; ⟨h.1, h.2.1⟩

/-- **One message for a drained batch.**  When `RunServer` finds several changes pending and sends them as one
    message, the follower decodes from it exactly what it would decode from the changes' own messages, in the same
    order – a region reported twice appears twice, each time with its own leader and flow. -/
theorem merged_broadcast_exact (ms : List Msg) (h : ∀ m ∈ ms, Square m) (m' : Msg) (hm : mergeMsgs ms = some m') :
    decode m' = ms.flatMap decode ∧ m'.start = (ms.head?.map (·.start)).getD 0 := by
  cases ms with
  | nil => simp [mergeMsgs] at hm
  | cons m ms =>
    simp only [mergeMsgs, Option.some.injEq] at hm
    subst hm
    refine ⟨?_, by simp⟩
    rw [decode_square _ (flatMap_square _ (m :: ms) h)]
    exact decodeAux_flatMap (m :: ms) h

set_option linter.unusedVariables false in
/-- a live follower (bound stream) that equals the leader stays equal when a changed region is
    broadcast -/
theorem broadcast_follower_eq_leader (l : Leader) (r : Region) (hwf : WF r) (f : Follower)
    (hfc : f.cache = l.cache) (hfi : f.hist.index = l.hist.index) (hnf : NoFail f) :
    match leaderPut l r with
    | (l', some m) => (applyMsg f m).cache = l'.cache ∧ (applyMsg f m).hist.index = l'.hist.index
    | (l', none) => l' = l := by
  cases hs : isStale l.cache r with
  | true => rw [leaderPut_stale hs]
  | false =>
    rw [leaderPut_accept hs]
    refine ⟨?_, ?_⟩
    · rw [applyMsg_cache, decode_encode _ [r] (by simpa using hwf), hfc]
      exact applyRegion_accept hs
    · -- `applyMsg` puts the follower's index at the message's start wherever it was: `hfi` is not used
      rw [(applyMsg_index f hnf _).1]
      exact (record_index l.hist r false).symm

/-- **A failing follower write does not touch the follower's view.**  Whatever region saves fail on the follower
    (once or persistently), after any sequence of received messages its cache is what it would be without
    failures – every region sent is applied in memory.  (Nothing is stated about its next index: a region whose
    save failed is not recorded.) -/
theorem failed_save_keeps_cache (ms : List Msg) (f : Follower) :
    (ms.foldl applyMsg f).cache = (ms.flatMap decode).foldl applyRegion f.cache ∧
    (ms.foldl applyMsg f).cache =
      (ms.foldl applyMsg { f with failOnce := [], failAlways := [] }).cache :=
  ⟨applyMsgs_cache ms f, by rw [applyMsgs_cache, applyMsgs_cache]⟩

/-- at the batch size extracted from `server.go` -/
theorem full_sync_messages_exact_extracted (regions : List Region) (hwf : ∀ r ∈ regions, WF r) :
    (fullSync PdModel.Generated.Syncer.maxSyncRegionBatchSize regions).flatMap decode = regions ∧
    ∀ m ∈ fullSync PdModel.Generated.Syncer.maxSyncRegionBatchSize regions,
      Aligned PdModel.Generated.Syncer.maxSyncRegionBatchSize m :=
  let h := full_sync_messages_exact PdModel.Generated.Syncer.maxSyncRegionBatchSize regions hwf
  ⟨h.1, h.2.2 (by decide)⟩

def demoRegion (i : Nat) : Region :=
  { md := { id := i + 1, startKey := 10 * i, endKey := 10 * i + 10, confVer := 1, version := 1,
            peers := [{ id := 100 + i, store := 1 }] },
    leader := some { id := 100 + i, store := 1 } }

/-- **F3 on the pinned tree before the repair** (`leaders` is not truncated between batches), with batch
    size 2 and 3 regions: the second batch carries 3 leaders for 1 region and the follower pairs region 3
    with the leader of region 1. -/
theorem full_sync_unfixed_counterexample :
    let regions := [demoRegion 0, demoRegion 1, demoRegion 2]
    let msgs := fullSyncLoop 2 true regions [] [] [] 0
    msgs.map (fun m => (m.regions.length, m.leaders.length)) = [(2, 2), (1, 3)] ∧
    (msgs.flatMap decode).map (fun r => (r.md.id, r.leader.map (·.id))) = [(1, some 100), (2, some 101), (3, some 100)] ∧
    ((fullSync 2 regions).flatMap decode).map (fun r => (r.md.id, r.leader.map (·.id))) = [(1, some 100), (2, some 101), (3, some 102)] := by
  decide

/-- structure obligations, re-checked against the facts regenerated from the Go source on every run:
    the three operations of the change log are one critical section each; `ResetWithIndex` persists the new
    index (repair of F12, `resetWithIndex` in the model); the full-synchronisation loop truncates all three of
    its parallel slices after a batch (repair of F3, `fullSyncLoop … false` in the model); `RunServer` calls
    `broadcast` synchronously (no `go`), so a message is serialised before the loop re-uses its `requests` array
    (`leaderPut` in the model hands over a finished message). -/
theorem history_sections_locked :
    PdModel.Generated.Syncer.recordIsOneSection = true ∧
    PdModel.Generated.Syncer.recordsFromIsOneSection = true ∧
    PdModel.Generated.Syncer.resetIsOneSection = true ∧
    PdModel.Generated.Syncer.resetPersists = true ∧
    PdModel.Generated.Syncer.fullSyncTruncated = ["leaders", "metas", "stats"] ∧
    PdModel.Generated.Syncer.broadcastIsSynchronous = true := by decide

end PdModel.Syncer
