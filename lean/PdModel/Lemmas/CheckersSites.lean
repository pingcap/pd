import PdModel.Lemmas.Checkers
/-! C10: soundness of each kind of request (`Sound`) and of each kind of place where a checker picks a store and
    asks the builder for an operator (`Site`). -/
namespace PdModel.Checkers
open PdModel.Spec.C10 PdModel.Filters

/-- replaced peer and replacement can be paired by the builder (or joint consensus is used):
    the only requests whose step order is in question are replacements -/
def Req.paired (jc : Bool) (r : Region) : Req → Bool
  | .move o _ role => jc || sameKind r o role
  | .replaceLeader o _ role _ => jc || sameKind r o role
  | _ => true

/-- the three clauses of `Spec.C10.Holds`, the last one under the pairing condition -/
structure Sound (x : Input) (jc : Bool) (req : Req) : Prop where
  adds   : ∀ t ∈ addedStores (req.toSteps jc x.region), goodTarget x (req.toSteps jc x.region) t = true
  shrink : ((applySteps x.region (req.toSteps jc x.region)).peers.length < x.region.peers.length ∨
            (applySteps x.region (req.toSteps jc x.region)).healthy.length < x.region.healthy.length) →
            shrinkAllowed x (req.toSteps jc x.region) = true
  order  : req.paired jc x.region = true →
            ∀ k ∈ List.range ((req.toSteps jc x.region).length + 1),
              min x.region.peers.length (applySteps x.region (req.toSteps jc x.region)).peers.length
                ≤ (applySteps x.region ((req.toSteps jc x.region).take k)).peers.length

def OutSound (x : Input) (jc : Bool) (out : Out) : Prop :=
  ∀ d req, out = some (d, req) → Sound x jc req

variable {x : Input} {jc : Bool}

theorem outSound_none : OutSound x jc none :=
  fun _ _ h => nomatch h

theorem outSound_some {d : String} {req : Req} (h : Sound x jc req) :
    OutSound x jc (some (d, req)) := by
  intro d' req' he
  cases he
  exact h

theorem outSound_nothing : ∀ o ∈ ([none] : List Out), OutSound x jc o :=
  List.forall_mem_singleton.2 outSound_none

theorem outSound_mayFail {d : String} {req : Req} (h : Sound x jc req) :
    ∀ o ∈ mayFail (d, req), OutSound x jc o :=
  forall_mayFail (outSound_some h) outSound_none

theorem outSound_addAccepted {r : Region} {d : String} {req : Req} (h : Sound x jc req) :
    ∀ o ∈ addAccepted r (d, req), OutSound x jc o :=
  forall_addAccepted (outSound_some h) outSound_none

/-- an optional answer (`none` = go on with the next candidate): the outcome list it carries, if any, is sound -/
def OptSound (x : Input) (jc : Bool) (v : Option (List Out)) : Prop :=
  ∀ outs, v = some outs → ∀ out ∈ outs, OutSound x jc out

theorem optSound_some {a : List Out} (h : ∀ out ∈ a, OutSound x jc out) :
    OptSound x jc (some a) :=
  fun _ e => Option.some.inj e ▸ h

theorem optSound_none : OptSound x jc none :=
  fun _ h => nomatch h

/-- the cluster view is a map keyed by store id; a region has one peer per store -/
structure WF (stores : List Store) (r : Region) : Prop where
  storeIds   : (stores.map (·.id)).Nodup
  peerStores : r.stores.Nodup

theorem not_fewer {a b a' b' : Nat} (ha : a ≤ a') (hb : b ≤ b') : ¬(a' < a ∨ b' < b) :=
  fun h => h.elim (Nat.not_lt.2 ha) (Nat.not_lt.2 hb)

theorem sound_add {n role : Nat} (h : goodTarget x [.add n role] n = true) : Sound x jc (.add n role) := by
  have hc := counts_add x.region n role
  refine ⟨fun _ ht => ?_, fun h => absurd h (not_fewer (Nat.le.intro hc.1.symm) (Nat.le.intro hc.2.symm)),
    fun _ k _ => order_of_adds_first [.add n role] [] rfl rfl _ k⟩
  cases List.mem_singleton.1 ht
  exact h

theorem sound_remove {s : Nat} (h : shrinkAllowed x [.remove s] = true) :
    Sound x jc (.remove s) :=
  ⟨fun _ ht => (nomatch ht), fun _ => h, fun _ k _ => order_of_adds_first [] [.remove s] rfl rfl _ k⟩

theorem sound_same_counts {req : Req} (hadd : addedStores (req.toSteps jc x.region) = [])
    (hc : (applySteps x.region (req.toSteps jc x.region)).peers.length = x.region.peers.length ∧
          (applySteps x.region (req.toSteps jc x.region)).healthy.length = x.region.healthy.length) : Sound x jc req :=
  ⟨fun t ht => (nomatch (hadd ▸ ht : t ∈ [])),
   fun h => absurd h (not_fewer (Nat.le_of_eq hc.1.symm) (Nat.le_of_eq hc.2.symm)),
   fun _ k _ => order_of_adds_first [] _ rfl hadd _ k⟩

theorem sound_promote {s : Nat} : Sound x jc (.promote s) :=
  sound_same_counts rfl (same_counts_promote _ _)

theorem sound_transfer {s : Nat} : Sound x jc (.transfer s) :=
  sound_same_counts rfl (let h := same_counts_transfer x.region s; ⟨congrArg _ h.1, congrArg _ h.2.1⟩)

theorem sound_split : Sound x jc .split :=
  sound_same_counts rfl ⟨rfl, rfl⟩

theorem sound_crash : Sound x jc .crash :=
  sound_same_counts rfl ⟨rfl, rfl⟩

/-- A replacement in either order: the addition first, or last; `mid` (nothing, or a leader transfer) comes before
    the removal both times.  The addition brings one peer and one healthy peer, the removal costs at most one of each
    as no two peers share a store. -/
theorem replace_either_order (r : Region) (o n role : Nat) (hnd : r.stores.Nodup) (hn : n ∉ r.stores) (mid : List Step)
    (hmid : ∀ q, (applySteps q mid).peers = q.peers ∧ (applySteps q mid).healthy = q.healthy ∧
      (applySteps q mid).stores = q.stores) (hm : removedStores mid = [] ∧ addedStores mid = []) {steps : List Step}
    (hs : steps = Step.add n role :: mid ++ [Step.remove o] ∨ steps = mid ++ [Step.remove o, Step.add n role]) :
    removedStores steps = [o] ∧ addedStores steps = [n] ∧
    ¬((applySteps r steps).peers.length < r.peers.length ∨ (applySteps r steps).healthy.length < r.healthy.length) := by
  have a1 := counts_add r n role
  have r1 := counts_remove (applySteps (applyStep r (.add n role)) mid) o
    (by rw [(hmid _).2.2]; exact nodup_stores_add role hnd hn)
  have r2 := counts_remove (applySteps r mid) o (by rw [(hmid r).2.2]; exact hnd)
  have a2 := counts_add (applyStep (applySteps r mid) (.remove o)) n role
  rw [(hmid _).1, (hmid _).2.1] at r1 r2
  rw [a1.1, a1.2] at r1
  rw [← a2.1, ← a2.2] at r2
  rcases hs with rfl | rfl
  -- `removedStores` and `addedStores` of an appended list are appended; with `hm`, what is left evaluates
  · refine ⟨(List.filterMap_append ..).trans (congrArg (· ++ [o]) hm.1),
      (List.filterMap_append ..).trans (congrArg (n :: · ++ []) hm.2), ?_⟩
    rw [applySteps_append]
    exact not_fewer (Nat.le_of_succ_le_succ r1.1) (Nat.le_of_succ_le_succ r1.2)
  · refine ⟨(List.filterMap_append ..).trans (congrArg (· ++ [o]) hm.1),
      (List.filterMap_append ..).trans (congrArg (· ++ [n]) hm.2), ?_⟩
    rw [applySteps_append]
    exact not_fewer r2.1 r2.2

section
variable {old n role : Nat} (hnd : x.region.stores.Nodup) (hn : n ∉ x.region.stores)
  (hgood : ∀ steps, removedStores steps = [old] → goodTarget x steps n = true)
include hnd hn hgood

/-- the request's steps are the two orders, the addition first when the builder pairs the two peers -/
theorem sound_replace {req : Req} (mid : List Step)
    (hmid : ∀ q, (applySteps q mid).peers = q.peers ∧ (applySteps q mid).healthy = q.healthy ∧
      (applySteps q mid).stores = q.stores) (hm : removedStores mid = [] ∧ addedStores mid = [])
    (hreq : req.toSteps jc x.region = if req.paired jc x.region = true then Step.add n role :: mid ++ [Step.remove old]
      else mid ++ [Step.remove old, Step.add n role]) : Sound x jc req := by
  obtain ⟨hr, ha, hc⟩ := replace_either_order x.region old n role hnd hn mid hmid hm (hreq ▸ ite_eq_or ..)
  refine ⟨fun _ ht => ?_, fun h => absurd h hc, fun hpair k _ => ?_⟩
  · cases List.mem_singleton.1 (ha ▸ ht)
    exact hgood _ hr
  · rw [hreq, if_pos hpair]
    exact order_of_adds_first (.add n role :: mid) [.remove old] hm.1 rfl _ k

theorem sound_move : Sound x jc (.move old n role) :=
  sound_replace hnd hn hgood [] (fun _ => ⟨rfl, rfl, rfl⟩) ⟨rfl, rfl⟩ rfl

theorem sound_replaceLeader {l : Nat} : Sound x jc (.replaceLeader old n role l) :=
  sound_replace hnd hn hgood [.transfer l] (fun q => same_counts_transfer q l) ⟨rfl, rfl⟩ rfl

end

/-- The spec input `x` as seen by a checker that works with strategy `st` on the peers on the stores `ids`
    (all peers of the region for the replica checker, the peers of one rule for the rule checker): both read the
    same configuration, the cluster view is well-formed, and what the strategy's isolation filter and label constraints let through, the spec's
    placement demand allows. -/
structure Site (x : Input) (o : Opts) (st : Strategy) (ids : List Nat) : Prop where
  conf      : x.conf = o.conf
  wf        : WF x.stores x.region
  placement : ∀ {steps : List Step} {co : List Store} {t : Store}, (∀ c ∈ coStores x ids steps, c ∈ co) →
    (st.labels.isEmpty = false → st.level ≠ "" → isolationTarget st.labels st.level co t = true) →
    (∀ cs, st.constraints = some cs → matchConstraints cs t = true) → placementOK x steps t = true

theorem site_replica {o : Opts} {stores : List Store} {r : Region} (wf : WF stores r) :
    Site (replicaInput o stores r) o (replicaStrategy o) r.stores :=
  ⟨rfl, wf, fun hsub h _ => isolationOK_of_target hsub h⟩

theorem ruleStrategy_constraints (rule : Rule) : (ruleStrategy rule).constraints = some rule.constraints := rfl

theorem site_rule {o : Opts} {stores : List Store} {r : Region} {fit : Fit} {rf : RuleFit} (wf : WF stores r)
    (hrf : rf ∈ fit.ruleFits) : Site (ruleInput o stores r fit) o (ruleStrategy rf.rule) (rf.peers.map (·.store)) := by
  refine ⟨rfl, wf, fun hsub h hc => ?_⟩
  simp only [placementOK, ruleInput, List.any_map, List.any_eq_true, Function.comp]
  exact ⟨rf, hrf, Bool.and_eq_true_iff.2 ⟨hc _ (ruleStrategy_constraints _), isolationOK_of_target hsub h⟩⟩

theorem shrinkAllowed_rule {o : Opts} {stores : List Store} {r : Region} {fit : Fit} {steps : List Step} :
    shrinkAllowed (ruleInput o stores r fit) steps = true ↔
      fit.ruleFits.all (·.satisfied) = true ∧ ∀ s ∈ removedStores steps, s ∈ fit.orphans.map (·.store) := by
  simp only [shrinkAllowed, ruleInput, List.all_map, Bool.and_eq_true, List.all_eq_true (l := removedStores steps),
    List.contains_iff_mem]
  rfl

section
variable {o : Opts} {st : Strategy} {ids : List Nat} (S : Site x o st ids)
include S

theorem goodTarget_site {steps : List Step} {co : List Store} {extra : Store → Bool} {t : Store}
    (ht : t ∈ selectStoreToAdd o x.stores x.region st co extra) (hsub : ∀ c ∈ coStores x ids steps, c ∈ co) :
    goodTarget x steps t.id = true := by
  obtain ⟨hm, hg, hiso, _, hcons⟩ := mem_selectStoreToAdd ht
  unfold goodTarget
  rw [findStore_of_mem S.wf.storeIds hm]
  simp only [S.conf, hg.up, hg.notDown, hg.connected, hg.space, hg.fresh, S.placement hsub hiso hcons, Bool.not_false,
    Bool.and_self]

theorem add_site {d : String} {role : Nat} :
    ∀ out ∈ pickEach (selectStoreToAdd o x.stores x.region st (storesOf x.stores ids))
      (fun t => addAccepted x.region (d, .add t.id role)), OutSound x jc out :=
  forall_pickEach outSound_none fun _ ht => outSound_addAccepted (sound_add (goodTarget_site S ht coStores_sub))

/-- a store `SelectStoreToAdd` returns with the peer on `old` set aside (`SelectStoreToFix`, `SelectStoreToImprove`)
    may replace that peer, with or without a leader transfer -/
theorem replace_site {old : Nat} {s : Store} (hi : old ∈ ids) (hf : findStore x.stores old = some s) {t : Store}
    {extra : Store → Bool}
    (ht : t ∈ selectStoreToAdd o x.stores x.region st (dropOld (storesOf x.stores ids) old) extra) (role : Nat) :
    Sound x jc (.move old t.id role) ∧ ∀ l, Sound x jc (.replaceLeader old t.id role l) :=
  have hn : t.id ∉ x.region.stores := by simpa using (mem_selectStoreToAdd ht).2.1.fresh
  have hg : ∀ steps, removedStores steps = [old] → goodTarget x steps t.id = true :=
    fun _ hrm => goodTarget_site S ht (coStores_sub_dropOld hrm hi hf)
  ⟨sound_move S.wf.peerStores hn hg, fun _ => sound_replaceLeader S.wf.peerStores hn hg⟩

theorem improve_site {d : String} {role : Nat} :
    ∀ out ∈ pickEach (selectStoreToRemove o st (storesOf x.stores ids)) (fun old =>
      pickEach (selectStoreToImprove o x.stores x.region st (storesOf x.stores ids) old.id)
        (fun n => mayFail (d, .move old.id n.id role))), OutSound x jc out := by
  refine forall_pickEach outSound_none fun old hold => ?_
  obtain ⟨i, hi, hf⟩ := mem_storesOf.1 (mem_selectStoreToRemove hold)
  cases (findStore_id hf).1
  refine forall_pickEach outSound_none fun t ht => ?_
  obtain ⟨_, ht⟩ := mem_selectStoreToImprove ht
  exact outSound_mayFail (replace_site S hi hf ht role).1

end

end PdModel.Checkers
