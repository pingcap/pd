import PdModel.Lemmas.FitSearch
/-!
C12 – property theorems.  Quantifiers: every store set, every region (any number of peers, learners,
any leader), every rule list (any length, roles, counts, constraints, location labels) – no bounds.
The only hypothesis of the fitting theorems is `Ctx.WF`: the store a peer was resolved to belongs to the
store set (true by construction for `mkCtx`, theorem `mkCtx_wf`).
-/
namespace PdModel.Fit
open PdModel.Spec.C12

theorem insertPeer_perm (p : PeerInfo) (l : List PeerInfo) : (insertPeer p l).Perm (p :: l) := by
  induction l with
  | nil => exact List.Perm.refl _
  | cons x xs ih =>
    simp only [insertPeer]
    split
    · exact List.Perm.refl _
    · exact (List.Perm.cons x ih).trans (List.Perm.swap p x xs)

theorem mem_insertPeer (p q : PeerInfo) (l : List PeerInfo) : q ∈ insertPeer p l ↔ q = p ∨ q ∈ l :=
  (insertPeer_perm p l).mem_iff.trans List.mem_cons

theorem sortPeers_perm (l : List PeerInfo) : (sortPeers l).Perm l := by
  induction l with
  | nil => exact List.Perm.refl _
  | cons p ps ih => exact (insertPeer_perm p _).trans (List.Perm.cons p ih)

theorem mkCtx_wf (stores : List Store) (peers : List RawPeer) (leader : Nat) :
    (mkCtx stores peers leader).WF := by
  intro p hp s hs
  have hp' := (sortPeers_perm _).mem_iff.1 hp
  simp only [List.mem_map] at hp'
  obtain ⟨raw, _, rfl⟩ := hp'
  exact List.mem_of_find?_eq_some hs

/-- the search ends with a rule fit for every rule (no nil entry), realised by a valid assignment that no
    valid assignment beats rule by rule -/
theorem run_real (c : Ctx) (hwf : c.WF) (rules : List Rule) :
    ∃ A, Valid c.peers rules A ∧ (run c rules).1 = (fitsM c rules A).map some ∧
      (run c rules).2 = orphansOf c.peers A ∧
      ∀ A', Valid c.peers rules A' → LexLE (keysOf c.peers rules A') (keysOf c.peers rules A) := by
  cases rules with
  | nil => exact ⟨[], trivial, rfl, rfl, fun A' _ => by cases A' <;> trivial⟩
  | cons r rs =>
    have h := fitRule_spec c hwf (r :: rs) [] ((r :: rs).map (fun _ => none)) [] (List.length_map _)
    obtain ⟨A, v, e1, e2⟩ := h.real h.better_of_none
    refine ⟨A, v, e1, e2, fun A' hA' => ?_⟩
    have := h.dom A' hA'
    rwa [e1, bkeys_some, fitsM_keys, ckeys, LexLE_up] at this

theorem run_all_some (c : Ctx) (hwf : c.WF) (rules : List Rule) : ∀ x ∈ (run c rules).1, x ≠ none := by
  obtain ⟨A, _, e, _⟩ := run_real c hwf rules
  intro x hx
  obtain ⟨f, _, rfl⟩ := List.mem_map.1 (e ▸ hx)
  exact Option.some_ne_none f

theorem allSatisfied_eq {rules : List Rule} {fits : List RuleFit} (h : fits.length = rules.length) :
    allSatisfied rules fits = countsOK rules fits := by
  induction rules generalizing fits with
  | nil => cases List.eq_nil_of_length_eq_zero h; rfl
  | cons r rs ih =>
    cases fits with
    | nil => cases h
    | cons f fs =>
      show (if !ruleSatisfied r f then false else allSatisfied rs fs) =
        (f.peers.length == r.count && f.mismatch.isEmpty && countsOK rs fs)
      rw [ih (Nat.succ.inj h), ruleSatisfied]
      cases (f.peers.length == r.count) <;> cases f.mismatch <;> rfl

/-- `IsSatisfied` on a result with one rule fit per rule -/
theorem isSatisfied_eq (rules : List Rule) (fits : List RuleFit) (orph : List Nat)
    (h : fits.length = rules.length) :
    isSatisfied rules fits orph = (!rules.isEmpty && countsOK rules fits && orph.isEmpty) := by
  unfold isSatisfied
  rw [allSatisfied_eq h, h]
  cases rules <;> cases countsOK _ fits <;> cases orph <;> rfl

/-- **C12 (all clauses).**  For every worker context whose peers were resolved in its store set (`Ctx.WF`) and
    every rule list the result of the fitting satisfies the property `Spec.C12.Holds`. -/
theorem fit_holds (c : Ctx) (hwf : c.WF) (rules : List Rule) : Holds c.peers rules (fitCtx c rules) := by
  obtain ⟨A, v, e1, e2, hopt⟩ := run_real c hwf rules
  have hA : A.length = rules.length := validFrom_length v
  have hfits : (fitCtx c rules).fits = fitsM c rules A := by
    simp only [fitCtx, e1, List.filterMap_map, Function.comp_def, id, List.filterMap_some]
  have horph : (fitCtx c rules).orphans = orphansOf c.peers A := e2
  obtain ⟨hpeers, hexact⟩ := fitsM_spec c hA
  rw [← hfits] at hpeers hexact
  refine ⟨by rw [hpeers]; exact v, by rw [hpeers, horph], hexact, ?_, ?_⟩
  · intro A' hA'
    rw [hfits, fitsM_keys, horph]
    exact (fitCmp_ne_one _ _).2
      ⟨hopt A' hA', fun hle => Nat.le_of_eq (orphans_length_of_lexLE v hA' hle (hopt A' hA'))⟩
  · exact isSatisfied_eq rules (fitCtx c rules).fits _ (by rw [← hA, ← hpeers, List.length_map])

/-- every rule holds distinct eligible peers (label constraints satisfied, role still
    convertible), no peer is shared between rules, never more than `count`; the orphan list is exactly the
    rest; role mismatches and isolation scores are listed exactly. -/
theorem fit_partition (c : Ctx) (hwf : c.WF) (rules : List Rule) :
    Valid c.peers rules ((fitCtx c rules).fits.map (·.peers)) ∧
    (fitCtx c rules).orphans = orphansOf c.peers ((fitCtx c rules).fits.map (·.peers)) ∧
    fitsExact c.peers rules (fitCtx c rules).fits :=
  let h := fit_holds c hwf rules; ⟨h.valid, h.orphans, h.exact⟩

/-- every peer of the region is in exactly one rule or in the orphan list -/
theorem fit_partition_perm (c : Ctx) (hwf : c.WF) (rules : List Rule) :
    (((fitCtx c rules).fits.map (·.peers)).flatten ++ (fitCtx c rules).orphans).Perm
      (List.range c.peers.length) := by
  have h := fit_holds c hwf rules
  rw [h.orphans]
  exact partition_perm h.valid

/-- no valid assignment is better under the documented order (rule by rule: more peers,
    then fewer role mismatches, then higher isolation score; finally fewer orphans). -/
theorem fit_optimal (c : Ctx) (hwf : c.WF) (rules : List Rule) (A : List (List Nat))
    (hA : Valid c.peers rules A) :
    fitCmp (keysOf c.peers rules A, (orphansOf c.peers A).length)
      ((fitCtx c rules).fits.map (·.key), (fitCtx c rules).orphans.length) ≠ 1 :=
  (fit_holds c hwf rules).optimal A hA

/-- the same for the worker context that `FitRegion` builds from a store set and a region -/
theorem fitRegion_holds (stores : List Store) (peers : List RawPeer) (leader : Nat) (rules : List Rule) :
    Holds (mkCtx stores peers leader).peers rules (fitCtx (mkCtx stores peers leader) rules) :=
  fit_holds _ (mkCtx_wf stores peers leader) rules

theorem countsOK_iff : ∀ (rules : List Rule) (fits : List RuleFit), countsOK rules fits = true ↔
    fits.length = rules.length ∧ ∀ (k : Nat) (r : Rule) (f : RuleFit), rules[k]? = some r → fits[k]? = some f →
      f.peers.length = r.count ∧ f.mismatch = [] := by
  intro rules fits
  induction rules generalizing fits with
  | nil =>
    cases fits with
    | nil => exact iff_of_true rfl ⟨rfl, fun k r f hr => nomatch hr⟩
    | cons f fs => exact iff_of_false Bool.false_ne_true fun h => nomatch h.1
  | cons r rs ih =>
    cases fits with
    | nil => exact iff_of_false Bool.false_ne_true fun h => nomatch h.1
    | cons f fs =>
      simp only [countsOK, Bool.and_eq_true, beq_iff_eq, List.isEmpty_iff, ih fs, List.length_cons,
        Nat.add_right_cancel_iff]
      constructor
      · rintro ⟨⟨h1, h2⟩, h3, h4⟩
        refine ⟨h3, fun k r' f' hr hf => ?_⟩
        cases k with
        | zero => cases hr; cases hf; exact ⟨h1, h2⟩
        | succ k => exact h4 k r' f' hr hf
      · rintro ⟨h3, h4⟩
        exact ⟨h4 0 r f rfl rfl, h3, fun k => h4 (k + 1)⟩

/-- the region is reported satisfied exactly when there is at least one rule, every
    rule holds exactly `count` peers all with matching roles, and no orphan remains. -/
theorem satisfied_iff (c : Ctx) (hwf : c.WF) (rules : List Rule) :
    (fitCtx c rules).satisfied = true ↔
      rules ≠ [] ∧
      (∀ (k : Nat) (r : Rule) (f : RuleFit), rules[k]? = some r → (fitCtx c rules).fits[k]? = some f →
        f.peers.length = r.count ∧ f.mismatch = []) ∧
      (fitCtx c rules).orphans = [] := by
  have h := fit_holds c hwf rules
  have hlen : (fitCtx c rules).fits.length = rules.length := by
    have := validFrom_length h.valid; simpa using this
  rw [h.satisfied]
  simp only [Bool.and_eq_true, Bool.not_eq_true', List.isEmpty_eq_false_iff, countsOK_iff, List.isEmpty_iff, hlen,
    true_and, ne_eq, and_assoc]

/-- the search that sets `p.selected` before and clears it after each recursive call (`fitRuleS`, flags threaded
    through every function) leaves the flags as it found them and computes exactly `fitRule`, for every input -/
theorem fit_stateful_eq (c : Ctx) (rules : List Rule) (flags : List Nat) (best : Best) (orph : List Nat) :
    fitRuleS c rules flags best orph = (fitRule c rules flags best orph, flags) ∧
    fitCtxS c rules = fitCtx c rules :=
  ⟨fitRuleS_eq c rules flags best orph, fitCtxS_eq c rules⟩

/-- hence the property for the stateful version (the one the driver runs against the implementation) -/
theorem fitS_holds (c : Ctx) (hwf : c.WF) (rules : List Rule) : Holds c.peers rules (fitCtxS c rules) := by
  rw [fitCtxS_eq]; exact fit_holds c hwf rules

theorem compareRegionFit_go_eq (a b : List RuleFit) :
    compareRegionFit.go a b = lexCmp (a.map (·.key)) (b.map (·.key)) := by
  induction a generalizing b with
  | nil => simp [compareRegionFit.go, lexCmp]
  | cons x xs ih =>
    cases b with
    | nil => simp [compareRegionFit.go, lexCmp]
    | cons y ys => simp only [compareRegionFit.go, List.map_cons, lexCmp, compareRuleFit_eq, ih]

/-- CompareRegionFit is the documented order on (keys per rule, number of orphans) -/
theorem compareRegionFit_eq (a b : Fit) :
    compareRegionFit a b = fitCmp (a.fits.map (·.key), a.orphans.length) (b.fits.map (·.key), b.orphans.length) := by
  simp only [compareRegionFit, compareRegionFit_go_eq, fitCmp]

/-- "a is not better than b" -/
def FitLE (a b : List Key × Nat) : Prop := fitCmp a b ≠ 1

/-- the documented order (the one CompareRegionFit decides, `compareRegionFit_eq`) is reflexive and total, its
    result antisymmetric in sign; transitive on fits for the same rule list (equally many rule fits). -/
theorem compare_total_preorder :
    (∀ a : List Key × Nat, FitLE a a) ∧
    (∀ a b : List Key × Nat, FitLE a b ∨ FitLE b a) ∧
    (∀ a b c : List Key × Nat, a.1.length = b.1.length → b.1.length = c.1.length →
        FitLE a b → FitLE b c → FitLE a c) ∧
    (∀ a b : List Key × Nat, fitCmp a b = - fitCmp b a) := by
  refine ⟨fun a => ?_, fun a b => ?_, fun a b c hab hbc => ?_, fitCmp_antisymm⟩
  -- reflexive and total because the sign flips when the sides are exchanged
  · have := fitCmp_antisymm a a
    unfold FitLE; omega
  · have := fitCmp_antisymm a b
    unfold FitLE; omega
  · unfold FitLE; rw [fitCmp_ne_one, fitCmp_ne_one, fitCmp_ne_one]
    rintro ⟨h1, o1⟩ ⟨h2, o2⟩
    refine ⟨LexLE.trans (Nat.le_of_eq hab) h1 h2, fun hca => ?_⟩
    have := o1 (LexLE.trans (Nat.le_of_eq hbc) h2 hca)
    have := o2 (LexLE.trans (Nat.le_of_eq (hab.trans hbc).symm) hca h1)
    omega

/-! ### non-vacuity: a concrete fitting in which the order of the criteria matters.
Four stores in zones z1,z1,z2,z3 (store 4 carries the exclusive label `$x`), four peers (a learner on
store 3), leader = peer 11; rules: 2 voters isolated by zone, then 1 learner.  The search keeps the two
voters of zone z1 (score 0) rather than promote the learner of zone z2 into the first rule (score 1, one
role mismatch), and must leave the peer on the exclusive store as an orphan. -/
def demoStores : List Store :=
  [⟨1, [⟨"zone", "z1"⟩]⟩, ⟨2, [⟨"zone", "z1"⟩]⟩, ⟨3, [⟨"zone", "z2"⟩]⟩, ⟨4, [⟨"zone", "z3"⟩, ⟨"$x", "1"⟩]⟩]
def demoPeers : List RawPeer := [⟨12, 2, false⟩, ⟨11, 1, false⟩, ⟨13, 3, true⟩, ⟨14, 4, false⟩]
def demoRules : List Rule := [⟨.voter, 2, [], ["zone"]⟩, ⟨.learner, 1, [], []⟩]
def demoRules2 : List Rule := [⟨.voter, 2, [⟨"zone", .notIn, ["z3"]⟩], ["zone"]⟩, ⟨.voter, 1, [], []⟩]

example : fitCtx (mkCtx demoStores demoPeers 11) demoRules =
    { fits := [⟨[0, 1], [], 0⟩, ⟨[2], [], 0⟩], orphans := [3], satisfied := false } := by decide +kernel
/-- with a second voter rule the learner fills it as a role mismatch -/
example : fitCtx (mkCtx demoStores demoPeers 11) demoRules2 =
    { fits := [⟨[0, 1], [], 0⟩, ⟨[2], [2], 0⟩], orphans := [3], satisfied := false } := by decide +kernel
example : check (mkCtx demoStores demoPeers 11).peers demoRules2
    (fitCtx (mkCtx demoStores demoPeers 11) demoRules2) = true := by decide +kernel
end PdModel.Fit
