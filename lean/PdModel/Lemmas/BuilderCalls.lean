import PdModel.Lemmas.Builder
/-! `NewBuilder` followed by any list of recording calls leaves a state satisfying `Recorded`; the stages a
    successful `buildWith` went through. -/
namespace PdModel.Builder
open PdModel.Steps PdModel.Spec PdModel.Spec.C08

/-- what the recording calls maintain; with a well-formed origin it gives `Recorded` (`recorded_of_calls`) -/
structure RecInv (origin : Region) (b : B) : Prop where
  originPeers : b.originPeers = origin.peers
  originLeader : b.originLeader = origin.leader
  nodupT : (stores b.targetPeers).Nodup
  plainT : plainRoles b.targetPeers
  noSteps : b.steps = []
  demote : b.useJoint = true → b.allowDemote = true

theorem plain_of_not_joint {r : Role} (h : isJointRole r = false) : r = .voter ∨ r = .learner := by
  cases r <;> simp [isJointRole] at h <;> simp

/-- the calls only touch the target: the invariant follows the new target peers -/
theorem RecInv.target {origin : Region} {b : B} (h : RecInv origin b) {T : List Peer} (tl : Nat)
    (er : List (Nat × PRole)) (lw fc : Bool) (hn : (stores T).Nodup) (hp : plainRoles T) :
    RecInv origin { b with targetPeers := T, targetLeader := tl, expectedRoles := er, lightWeight := lw,
                           force := fc } :=
  ⟨h.originPeers, h.originLeader, hn, hp, h.noSteps, h.demote⟩

theorem plain_pmSet {m : List Peer} {p : Peer} (hm : plainRoles m) (hp : p.role = .voter ∨ p.role = .learner) :
    plainRoles (pmSet m p) := by
  intro q hq
  rcases mem_pmSet hq with e | e
  · exact e ▸ hp
  · exact hm q e

theorem recInv_applyCall {origin : Region} {b b' : B} {call : Call} (h : RecInv origin b)
    (hc : applyCall b call = .ok b') : RecInv origin b' := by
  cases call with
  | addPeer p =>
    obtain ⟨_, hc⟩ := ok_of_guard hc
    obtain ⟨h2, hc⟩ := ok_of_guard hc
    obtain ⟨_, hc⟩ := ok_of_guard hc
    cases hc
    exact h.target _ _ _ _ (nodup_pmSet h.nodupT) (plain_pmSet h.plainT (plain_of_not_joint (by simpa using h2)))
  | removePeer s =>
    obtain ⟨_, hc⟩ := ok_of_guard hc
    obtain ⟨_, hc⟩ := ok_of_guard hc
    cases hc
    exact h.target _ _ _ _ (nodup_stores_filter _ h.nodupT)
      (fun q hq => h.plainT q (List.mem_filter.1 hq).1)
  | promoteLearner s =>
    simp only [applyCall] at hc
    split at hc; · cases hc
    obtain ⟨_, hc⟩ := ok_of_guard hc
    obtain ⟨_, hc⟩ := ok_of_guard hc
    cases hc
    exact h.target _ _ _ _ (nodup_pmSet h.nodupT) (plain_pmSet h.plainT (Or.inl rfl))
  | demoteVoter s =>
    simp only [applyCall] at hc
    split at hc; · cases hc
    obtain ⟨_, hc⟩ := ok_of_guard hc
    cases hc
    exact h.target _ _ _ _ (nodup_pmSet h.nodupT) (plain_pmSet h.plainT (Or.inr rfl))
  | setLeader s =>
    simp only [applyCall] at hc
    split at hc; · cases hc
    obtain ⟨_, hc⟩ := ok_of_guard hc
    obtain ⟨_, hc⟩ := ok_of_guard hc
    cases hc
    exact h.target _ _ _ _ h.nodupT h.plainT
  | setPeers ps =>
    obtain ⟨hany, hc⟩ := ok_of_guard hc
    cases hc
    refine h.target _ _ _ _ (nodup_foldl_pmSet [] ps List.nodup_nil) (fun q hq => plain_of_not_joint ?_)
    cases hj : isJointRole q.role
    · rfl
    · exact absurd (List.any_eq_true.2 ⟨q, hq, by rw [hj, Bool.or_true]⟩) hany
  | setExpectedRoles rs =>
    obtain ⟨_, hc⟩ := ok_of_guard hc
    obtain ⟨_, hc⟩ := ok_of_guard hc
    cases hc
    exact h.target _ _ _ _ h.nodupT h.plainT
  | lightWeight => cases hc; exact h.target _ _ _ _ h.nodupT h.plainT
  | forceTargetLeader => cases hc; exact h.target _ _ _ _ h.nodupT h.plainT

theorem recInv_applyCalls {origin : Region} {b b' : B} {calls : List Call} (h : RecInv origin b)
    (hc : applyCalls b calls = .ok b') : RecInv origin b' := by
  induction calls generalizing b with
  | nil => simp only [applyCalls] at hc; cases hc; exact h
  | cons c rest ih =>
    simp only [applyCalls] at hc
    split at hc
    · cases hc
    · next b1 h1 => exact ih (recInv_applyCall h h1) hc

structure GoodOrigin (origin : Region) : Prop where
  wf : C08.WellFormed origin
  noJoint : inJoint origin = false

theorem plain_of_noJoint {origin : Region} (h : inJoint origin = false) : plainRoles origin.peers :=
  fun p hp => plain_of_not_joint (List.any_eq_false.1 h p hp |> Bool.eq_false_iff.2)

/-- `hn`: the origin map is the peer list when stores are distinct -/
theorem newBuilder_ok {c : Cluster} {origin : Region} {uh : List Nat} {skip : Bool} {b : B}
    (hn : (stores origin.peers).Nodup) (h : newBuilder c origin uh skip = .ok b) :
    b = { c := c, originPeers := origin.peers, unhealthy := uh, originLeader := origin.leader,
          targetPeers := origin.peers, allowDemote := c.supportJoint,
          useJoint := c.supportJoint && c.optJoint } := by
  have hO : origin.peers.foldl pmSet [] = origin.peers := by
    simpa using foldl_pmSet_fresh [] origin.peers (fun _ _ h => nomatch h) hn
  have h := (ok_of_guard (ok_of_guard (ok_of_guard (ok_of_guard h).2).2).2).2
  rw [hO] at h
  cases h; rfl

theorem recInv_newBuilder {c : Cluster} {origin : Region} {uh : List Nat} {skip : Bool} {b : B}
    (hg : GoodOrigin origin) (h : newBuilder c origin uh skip = .ok b) : RecInv origin b := by
  cases newBuilder_ok hg.wf.1 h
  exact ⟨rfl, rfl, hg.wf.1, plain_of_noJoint hg.noJoint, rfl, fun hu => (Bool.and_eq_true _ _ ▸ hu).1⟩

/-- `NewBuilder` + any recording calls establish `Recorded` for a good origin -/
theorem recorded_of_calls {c : Cluster} {origin : Region} {uh : List Nat} {skip : Bool} {calls : List Call}
    {bn b0 : B} (hg : GoodOrigin origin) (hn : newBuilder c origin uh skip = .ok bn)
    (hc : applyCalls bn calls = .ok b0) :
    Recorded b0 ∧ b0.originPeers = origin.peers ∧ b0.originLeader = origin.leader := by
  have h := recInv_applyCalls (recInv_newBuilder hg hn) hc
  refine ⟨⟨?_, ?_, ?_, ?_, h.nodupT, h.plainT, h.noSteps, h.demote⟩, h.originPeers, h.originLeader⟩
  · rw [h.originPeers]; exact hg.wf.1
  · rw [h.originPeers]; exact plain_of_noJoint hg.noJoint
  · rw [h.originPeers]; exact hg.wf.2.1
  · rw [h.originPeers, h.originLeader]
    obtain ⟨p, hp, hr⟩ := hg.wf.2.2
    have hm := pmGet_some (l := origin.peers) hp
    exact ⟨p, hm.1, hm.2, (plain_of_noJoint hg.noJoint p hm.1).resolve_right hr⟩

theorem buildWith_ok {c : Cluster} {origin : Region} {uh : List Nat} {skip : Bool} {calls : List Call}
    {nid : Nat} {b2 : B} (h : buildWith c origin uh skip calls nid = .ok b2) :
    ∃ bn b0, newBuilder c origin uh skip = .ok bn ∧ applyCalls bn calls = .ok b0 ∧ build b0 nid = .ok b2 := by
  unfold buildWith at h
  split at h; · cases h
  next bn hn =>
  split at h; · cases h
  next b0 hc => exact ⟨bn, b0, hn, hc, h⟩

theorem build_ok {b0 b1 b2 : B} {nid : Nat} (h : build b0 nid = .ok b2) (hp : prepareBuild b0 nid = .ok b1) :
    (if b1.useJoint then buildJoint b1 else buildNoJoint b1) = .ok b2 := by
  unfold build at h
  rwa [hp] at h

end PdModel.Builder
