import PdModel.Lemmas.FitAssign
/-! The backtracking search of fit.go.  Best fits are compared through their keys, "no fit yet" lowest.
    `StepOK` is what a piece of the search guarantees: the loop `enumPeers` for any leaf, one call of
    `compareBest`; `FitRuleSpec` is the same for `fitRule`, by induction over the remaining rules, stated for the
    completions of any prefix.
    Last, the same search with the `selected` flags as mutated-and-restored state. -/
namespace PdModel.Fit
open PdModel.Spec.C12

/-- key of an entry of `bestFit.RuleFits`; nil is worse than every rule fit -/
def okey : Option RuleFit → Key
  | none => ⟨0, 0, 0⟩
  | some f => f.key.up

def bkeys (b : Best) : List Key := b.map okey

def ckeys (c : Ctx) (rules : List Rule) (A : List (List Nat)) : List Key :=
  (keysOf c.peers rules A).map Key.up

theorem cmpBest_eq (rf : RuleFit) (b : Option RuleFit) :
    cmpBest rf b = Key.cmp rf.key.up (okey b) := by
  cases b with
  | none => exact (cmp3_of_gt (Nat.succ_pos _) _).symm
  | some old => exact (Key.cmp_up rf.key old.key).symm

theorem bkeys_length (b : Best) : (bkeys b).length = b.length := List.length_map _

theorem bkeys_some (fs : List RuleFit) : bkeys (fs.map some) = (fs.map (·.key)).map Key.up := by
  simp [bkeys, okey, Function.comp_def]

theorem ckeys_length {c : Ctx} {rules : List Rule} {used : List Nat} {A : List (List Nat)}
    (h : ValidFrom c.peers rules used A) : (ckeys c rules A).length = rules.length := by
  simp only [ckeys, List.length_map]
  exact keysOf_length _ (validFrom_length h)

/-- What a piece of the search (a call of `compareBest`, the loop `enumPeers`) guarantees
    of its result `res` when started with `b` and `o`: the best fit keeps its length and never gets worse,
    afterwards dominates what the piece was to explore (`Dom`), is untouched when `false` is reported, and is
    one of the things explored (`Real`) when `true` is reported. -/
structure StepOK (n : Nat) (le : Best → Best → Prop) (Dom : Best → Prop) (Real : Best → List Nat → Prop)
    (b : Best) (o : List Nat) (res : Res) : Prop where
  len : res.best.length = n
  mono : le b res.best
  dom : Dom res.best
  unchanged : res.better = false → res.best = b ∧ res.orphans = o
  real : res.better = true → Real res.best res.orphans

/-- Loop invariant of `enumPeers`, for any leaf that is `StepOK` for the peers chosen so far: the loop is
    `StepOK` for every way of choosing `need` more of the candidates. -/
theorem enumPeers_spec
    {leaf : List Nat → Best → List Nat → Res} {n : Nat}
    {le : Best → Best → Prop} {Dom : List Nat → Best → Prop} {Real : List Nat → Best → List Nat → Prop}
    (hleaf : ∀ sel b o, b.length = n → StepOK n le (Dom sel) (Real sel) b o (leaf sel b o))
    (le_refl : ∀ b, le b b)
    (le_trans : ∀ a b c, a.length = n → b.length = n → le a b → le b c → le a c)
    (dom_mono : ∀ s b b', b.length = n → Dom s b → le b b' → Dom s b') :
    ∀ (cands : List Nat) (need : Nat) (sel : List Nat) (b : Best) (o : List Nat), b.length = n →
      StepOK n le (fun b' => ∀ a, a.Sublist cands → a.length = need → Dom (sel ++ a) b')
        (fun b' o' => ∃ a, a.Sublist cands ∧ a.length = need ∧ Real (sel ++ a) b' o') b o
        (enumPeers leaf cands need sel b o) := by
  intro cands need sel b o
  fun_induction enumPeers leaf cands need sel b o with
  | case1 cands sel b o =>
    intro hb
    have h := hleaf sel b o hb
    have hsel : sel ++ [] = sel := List.append_nil sel
    refine ⟨h.len, h.mono, fun a _ hl => ?_, h.unchanged,
      fun ht => ⟨[], List.nil_sublist _, rfl, hsel.symm ▸ h.real ht⟩⟩
    cases List.eq_nil_of_length_eq_zero hl
    exact hsel.symm ▸ h.dom
  | case2 need sel b o =>
    intro hb
    refine ⟨hb, le_refl b, fun a ha hl => ?_, fun _ => ⟨rfl, rfl⟩, nofun⟩
    cases List.sublist_nil.1 ha
    cases hl
  | case3 p rest need sel b o r1 r2 ih1 ih2 =>
    -- the choices with `p` (first call), then those without (second call, started from the first's result)
    intro hb
    have h1 := ih1 hb
    have h2 := ih2 h1.len
    refine ⟨h2.len, le_trans _ _ _ hb h1.len h1.mono h2.mono, ?_, ?_, ?_⟩
    · intro a ha hl
      rcases List.sublist_cons_iff.1 ha with h | ⟨a', rfl, h⟩
      · exact h2.dom a h hl
      · have := h1.dom a' h (Nat.succ.inj hl)
        rw [List.append_assoc] at this
        exact dom_mono _ _ _ h1.len this h2.mono
    · intro hf
      simp only [Bool.or_eq_false_iff] at hf
      obtain ⟨e1, e2⟩ := h1.unchanged hf.1
      obtain ⟨e3, e4⟩ := h2.unchanged hf.2
      exact ⟨e3.trans e1, e4.trans e2⟩
    · intro ht
      cases hb2 : r2.better with
      | true =>
        obtain ⟨a, s1, s2, s3⟩ := h2.real hb2
        exact ⟨a, s1.cons p, s2, s3⟩
      | false =>
        -- only the first call found something, and the second left it alone
        obtain ⟨a, s1, s2, s3⟩ := h1.real (by simpa [hb2] using ht)
        obtain ⟨e3, e4⟩ := h2.unchanged hb2
        refine ⟨p :: a, s1.cons_cons p, congrArg (· + 1) s2, ?_⟩
        rw [e3, e4]
        rw [List.append_assoc] at s3
        exact s3

structure FitRuleSpec (c : Ctx) (rules : List Rule) (used : List Nat) (best : Best) (orph : List Nat)
    (res : Res) : Prop where
  len : res.best.length = best.length
  mono : LexLE (bkeys best) (bkeys res.best)
  unchanged : res.better = false → res.best = best ∧ res.orphans = orph
  real : res.better = true → ∃ A, ValidFrom c.peers rules used A ∧ res.best = (fitsM c rules A).map some ∧
            res.orphans = orphanPeers c (used ++ A.flatten)
  dom : ∀ A, ValidFrom c.peers rules used A → LexLE (ckeys c rules A) (bkeys res.best)

/-- Over "no fit yet" for the first rule a better fit is reported: an unchanged best fit could not dominate the
    empty assignment, whose raised key (`Key.up`) is above `okey none`. -/
theorem FitRuleSpec.better_of_none {c : Ctx} {r : Rule} {rs : List Rule} {used : List Nat} {bs : Best}
    {o : List Nat} {res : Res} (h : FitRuleSpec c (r :: rs) used (none :: bs) o res) : res.better = true := by
  cases hb : res.better with
  | true => rfl
  | false =>
    have hd := h.dom _ (validFrom_empty c.peers (r :: rs) used)
    rw [(h.unchanged hb).1] at hd
    rcases hd with (hlt | ⟨e, _⟩) | ⟨e, _⟩
    · exact absurd hlt (Nat.not_lt_zero _)
    · exact absurd e (Nat.succ_ne_zero _)
    · exact absurd e.1 (Nat.succ_ne_zero _)

/-- the completions one call of compareBest answers for are those that give `sel` to `r` -/
theorem compareBest_spec (c : Ctx) (r : Rule) (rs : List Rule) (used : List Nat)
    (ih : ∀ used best orph, best.length = rs.length → FitRuleSpec c rs used best orph (fitRule c rs used best orph))
    (sel : List Nat) (b : Best) (o : List Nat) (hb : b.length = rs.length + 1) :
    StepOK (rs.length + 1) (fun b b' => LexLE (bkeys b) (bkeys b'))
      (fun b' => ∀ A', ValidFrom c.peers rs (used ++ sel) A' →
        LexLE ((newRuleFit c r sel).key.up :: ckeys c rs A') (bkeys b'))
      (fun b' o' => ∃ A', ValidFrom c.peers rs (used ++ sel) A' ∧
        b' = some (newRuleFit c r sel) :: (fitsM c rs A').map some ∧
        o' = orphanPeers c ((used ++ sel) ++ A'.flatten))
      b o (compareBest c r rs.isEmpty used (fun u b o => fitRule c rs u b o) sel b o) := by
  cases b with
  | nil => simp at hb
  | cons b0 bs =>
    have hbs : bs.length = rs.length := by simpa using hb
    simp only [compareBest]
    rw [cmpBest_eq]
    rcases Key.cmp_range (newRuleFit c r sel).key.up (okey b0) with hc | hc | hc
    · simp only [hc]
      exact ⟨hb, LexLE.refl _, fun A' _ => Or.inl ((Key.cmp_eq_neg_one _ _).1 hc), fun _ => ⟨rfl, rfl⟩, nofun⟩
    · have heq := (Key.cmp_eq_zero _ _).1 hc
      simp only [hc, Int.reduceEq, ↓reduceIte]
      have h := ih (used ++ sel) bs o hbs
      generalize fitRule c rs (used ++ sel) bs o = r1 at h
      cases hbt : r1.better with
      | true =>
        simp only [↓reduceIte]
        refine ⟨congrArg (· + 1) (h.len.trans hbs), Or.inr ⟨Key.eqv_symm heq, h.mono⟩, ?_, nofun, ?_⟩
        · exact fun A' hA' => Or.inr ⟨Key.eqv_refl _, h.dom A' hA'⟩
        · intro _
          obtain ⟨A', v, e1, e2⟩ := h.real hbt
          exact ⟨A', v, by rw [e1], e2⟩
      | false =>
        simp only [Bool.false_eq_true, ↓reduceIte]
        obtain ⟨e1, e2⟩ := h.unchanged hbt
        exact ⟨congrArg (· + 1) (h.len.trans hbs), by rw [e1]; exact LexLE.refl _,
          fun A' hA' => Or.inr ⟨heq, h.dom A' hA'⟩, fun _ => ⟨by rw [e1], e2⟩, nofun⟩
    · simp only [hc, ↓reduceIte]
      have hlen0 : (bs.map (fun _ => (none : Option RuleFit))).length = rs.length := (List.length_map _).trans hbs
      have h := ih (used ++ sel) (bs.map (fun _ => none)) o hlen0
      refine ⟨congrArg (· + 1) (h.len.trans hlen0), Or.inl ((Key.cmp_eq_one _ _).1 hc),
        fun A' hA' => Or.inr ⟨Key.eqv_refl _, h.dom A' hA'⟩, nofun, ?_⟩
      · intro _
        cases rs with
        | nil =>
          cases List.eq_nil_of_length_eq_zero hbs
          exact ⟨[], trivial, rfl, (congrArg (orphanPeers c) (List.append_nil (used ++ sel))).symm⟩
        | cons r' rs' =>
          cases bs with
          | nil => cases hbs
          | cons x xs =>
            obtain ⟨A', v, e1, e2⟩ := h.real h.better_of_none
            exact ⟨A', v, by rw [e1], e2⟩

theorem ite_lt_eq_min (a b : Nat) : (if a < b then a else b) = min a b := by
  rcases Nat.lt_or_ge a b with h | h
  · rw [if_pos h, Nat.min_eq_left (Nat.le_of_lt h)]
  · rw [if_neg (Nat.not_lt.2 h), Nat.min_eq_right h]

/-- the induction over the remaining rules needs the statement for every prefix `used` and every current best,
    not only for the call `run` makes -/
theorem fitRule_spec (c : Ctx) (hwf : c.WF) : ∀ (rules : List Rule) (used : List Nat) (best : Best) (orph : List Nat),
    best.length = rules.length → FitRuleSpec c rules used best orph (fitRule c rules used best orph) := by
  intro rules
  induction rules with
  | nil =>
    intro used best orph hb
    simp only [fitRule]
    refine ⟨rfl, LexLE.refl _, fun _ => ⟨rfl, rfl⟩, nofun, fun A hA => ?_⟩
    cases A with
    | nil => trivial
    | cons a as => exact False.elim hA
  | cons r rs ih =>
    intro used best orph hb
    simp only [fitRule]
    rw [candidates_eq c hwf, ite_lt_eq_min]
    generalize hcount : min (cands c.peers r used).length r.count = count
    have k := enumPeers_spec (compareBest_spec c r rs used ih)
      (fun b => LexLE.refl _)
      (fun a b d ha hb h1 h2 => LexLE.trans (by simp [bkeys_length, ha, hb]) h1 h2)
      (fun s b b' hb hd hle A' hA' =>
        LexLE.trans (by simp [bkeys_length, hb, ckeys_length hA']) (hd A' hA') hle)
      (cands c.peers r used) count [] best orph (by simpa using hb)
    generalize enumPeers (compareBest c r rs.isEmpty used (fun u b o => fitRule c rs u b o))
      (cands c.peers r used) count [] best orph = res at k
    have kdom := k.dom
    simp only [newRuleFit_key] at kdom
    refine ⟨by rw [k.len]; simpa using hb.symm, k.mono, k.unchanged, ?_, ?_⟩
    · intro ht
      obtain ⟨a, s1, s2, A', v, e1, e2⟩ := k.real ht
      obtain ⟨hp, hm⟩ := sublist_cands.1 s1
      exact ⟨a :: A', ⟨hp, hm, s2 ▸ hcount ▸ Nat.min_le_right .., v⟩, e1, e2.trans (congrArg _ (List.append_assoc ..))⟩
    · intro A hA
      cases A with
      | nil => exact False.elim hA
      | cons a A' =>
        obtain ⟨hp, hm, hl, hv⟩ := hA
        have hsub : a.Sublist (cands c.peers r used) := sublist_cands.2 ⟨hp, hm⟩
        have hle := hsub.length_le
        rcases Nat.lt_or_ge a.length count with hlt | hge
        · -- fewer peers than the search puts into this rule: worse at this rule than any choice of `count`
          have ht : ((cands c.peers r used).take count).length = count := List.length_take_of_le (hcount ▸ Nat.min_le_left ..)
          have hd := kdom _ (List.take_sublist count _) ht (rs.map fun _ => []) (validFrom_empty _ _ _)
          have hk : Key.lt (keyOf c.peers r a).up (keyOf c.peers r ((cands c.peers r used).take count)).up :=
            Or.inl (Nat.succ_lt_succ (Nat.lt_of_lt_of_eq hlt ht.symm))
          exact LexLE.of_lt_head hk hd
        · exact kdom a hsub (by omega) A' hv

theorem unmark_mark (p : Nat) (flags : List Nat) (h : p ∉ flags) : unmark p (mark p flags) = flags := by
  unfold unmark mark
  have h1 : flags.filter (fun q => q != p) = flags :=
    List.filter_eq_self.2 fun q hq => bne_iff_ne.2 fun e => h (e ▸ hq)
  simp [h1]

theorem enumPeersS_eq (used : List Nat)
    (leafS : List Nat → List Nat → Best → List Nat → Res × List Nat) (leaf : List Nat → Best → List Nat → Res)
    (hleaf : ∀ sel b o, leafS sel (used ++ sel) b o = (leaf sel b o, used ++ sel)) :
    ∀ (cands : List Nat) (need : Nat) (sel : List Nat) (best : Best) (orph : List Nat),
      (∀ p ∈ cands, p ∉ used ++ sel) → cands.Nodup →
      enumPeersS leafS cands need sel (used ++ sel) best orph = (enumPeers leaf cands need sel best orph, used ++ sel) := by
  intro cands need sel best orph
  fun_induction enumPeers leaf cands need sel best orph with
  | case1 cands sel best orph => intro _ _; rw [enumPeersS]; exact hleaf sel best orph
  | case2 need sel best orph => intro _ _; rfl
  | case3 p rest k sel best orph r1 r2 ih1 ih2 =>
    intro hnot hnd
    rw [List.nodup_cons] at hnd
    have hp : p ∉ used ++ sel := hnot p List.mem_cons_self
    have h1 : mark p (used ++ sel) = used ++ (sel ++ [p]) := (List.append_assoc ..)
    have hnot1 : ∀ q ∈ rest, q ∉ used ++ (sel ++ [p]) := fun q hq => by
      rw [← List.append_assoc, List.mem_append, List.mem_singleton, not_or]
      exact ⟨hnot q (List.mem_cons_of_mem _ hq), fun e => hnd.1 (e ▸ hq)⟩
    have hnot2 : ∀ q ∈ rest, q ∉ used ++ sel := fun q hq => hnot q (List.mem_cons_of_mem _ hq)
    simp only [enumPeersS]
    rw [h1, ih1 hnot1 hnd.2]
    simp only
    rw [← h1, unmark_mark p _ hp, ih2 hnot2 hnd.2]

theorem compareBestS_eq (c : Ctx) (r : Rule) (isLast : Bool) (used : List Nat)
    (restS : List Nat → Best → List Nat → Res × List Nat) (rest : List Nat → Best → List Nat → Res)
    (hrest : ∀ fl b o, restS fl b o = (rest fl b o, fl)) (sel : List Nat) (best : Best) (orph : List Nat) :
    compareBestS c r isLast restS sel (used ++ sel) best orph =
      (compareBest c r isLast used rest sel best orph, used ++ sel) := by
  cases best with
  | nil => rfl
  | cons b bs =>
    simp only [compareBestS, compareBest, hrest]
    generalize cmpBest (newRuleFit c r sel) b = k
    by_cases h1 : k = 1
    · rw [if_pos h1, if_pos h1]
    · rw [if_neg h1, if_neg h1]
      by_cases h0 : k = 0
      · rw [if_pos h0, if_pos h0]
        cases (rest (used ++ sel) bs orph).better <;> rfl
      · rw [if_neg h0, if_neg h0]

theorem fitRuleS_eq (c : Ctx) : ∀ (rules : List Rule) (flags : List Nat) (best : Best) (orph : List Nat),
    fitRuleS c rules flags best orph = (fitRule c rules flags best orph, flags) := by
  intro rules
  induction rules with
  | nil => intro flags best orph; rfl
  | cons r rs ih =>
    intro flags best orph
    obtain ⟨hp, hm⟩ := sublist_cands.1 (candidates_sublist c r flags)
    have h := enumPeersS_eq flags _ _
      (fun sel b o => compareBestS_eq c r rs.isEmpty flags _ _ (fun fl b o => ih fl b o) sel b o)
      (candidates c r flags)
      (if (candidates c r flags).length < r.count then (candidates c r flags).length else r.count)
      [] best orph (fun p hp => by rw [List.append_nil]; exact (hm p hp).2) (hp.imp Nat.ne_of_lt)
    rw [List.append_nil] at h
    exact h

theorem runS_eq (c : Ctx) (rules : List Rule) : runS c rules = run c rules := by
  unfold runS run
  rw [fitRuleS_eq]

theorem fitCtxS_eq (c : Ctx) (rules : List Rule) : fitCtxS c rules = fitCtx c rules := by
  unfold fitCtxS fitCtx
  rw [runS_eq]

end PdModel.Fit
