import PdModel.Model.Bootstrap
import PdModel.Prelude.ListFacts
/-!
The shapes a micro-step of the bootstrap model can take (`Step`, `step_spec`), and the inductive invariant
of its states, preserved shape by shape.
-/
namespace PdModel.Bootstrap

theorem le_one_cases {α} {l : List α} (h : l.length ≤ 1) : l = [] ∨ ∃ a, l = [a] :=
  match l, h with
  | [], _ => .inl rfl
  | [a], _ => .inr ⟨a, rfl⟩

theorem validate_eq_none {s : St} {mem : Member} {hdr : Nat} :
    validate s mem hdr = none ↔ mem.leader = true ∧ hdr = s.cid := by
  unfold validate
  cases mem.leader <;> by_cases h : hdr = s.cid <;> simp [h]

theorem validate_eq_some {s : St} {mem : Member} {hdr : Nat} {o : Out} (h : validate s mem hdr = some o) :
    o = .notLeader ∨ o = .mismatch := by
  unfold validate at h
  split at h
  · exact .inl (Option.some.inj h).symm
  · split at h
    · exact .inr (Option.some.inj h).symm
    · cases h

theorem checkReq_eq_none {p : Payload} : checkReq p = none ↔
    p.hasStore = true ∧ p.storeId ≠ 0 ∧ p.hasRegion = true ∧ (p.startLen = 0 ∧ p.endLen = 0) ∧ p.regionId ≠ 0 ∧
      ∃ pid, pid ≠ 0 ∧ p.peers = [(pid, p.storeId)] := by
  simp only [checkReq, ite_some_eq_none, Bool.not_eq_true', Bool.not_eq_false, Nat.pos_iff_ne_zero, not_or,
    Decidable.not_not]
  iterate 5 refine and_congr_right' ?_
  split
  · next pid sid hp =>
    simp only [hp, ite_some_eq_none, Decidable.not_not, and_true, List.cons.injEq, Prod.mk.injEq]
    exact ⟨fun ⟨h1, h2⟩ => ⟨pid, h2, rfl, h1⟩, fun ⟨_, h2, h3, h1⟩ => ⟨h1, h3 ▸ h2⟩⟩
  · next h => exact ⟨nofun, fun ⟨_, _, hp⟩ => (h _ _ hp).elim⟩

/-- the records one successful transaction of request `r` writes -/
def full (cid r : Nat) (p : Payload) : Etcd :=
  { root := some (cid, r), stores := [(p.storeId, r)], regions := [(p.regionId, r)], bootTime := some r }

/-- the answers `Bootstrap` gives at once, in the order of its tests; past `validateRequest` the header
    names this cluster -/
def Refusal (s : St) (hdr : Nat) (p : Payload) (o : Out) : Prop :=
  o = .notLeader ∨ o = .mismatch ∨ hdr = s.cid ∧ (o = .already ∨ ∃ b, checkReq p = some b ∧ o = .malformed b)

theorem Refusal.ne_ok {s : St} {hdr : Nat} {p : Payload} {o : Out} (h : Refusal s hdr p o) : o ≠ .ok := by
  rintro rfl
  obtain h | h | ⟨_, h | ⟨_, _, h⟩⟩ := h <;> cases h

/-- The shapes of a micro-step: the new state as an update of the old one, the output, and what is known of
    the old state in that branch.  Left open: which members lead or run after `start` and `lead` (`ms`), what
    IsBootstrapped says (`b`), the Tso answers (`l`), how a failed call fails (`o ≠ .ok`) and the code of a config
    answer (only `.ok` is tied to the body). -/
inductive Step (s : St) : Op → St × StepOut → Prop
  /-- no such member or request, or the request is not in the phase the op is for -/
  | bad {op} : Step s op (s, .bad)
  | answered {m hdr p o} : Refusal s hdr p o →
      Step s (.boot m hdr p) ({ s with reqs := s.reqs ++ [⟨m, p, .done o⟩] }, .resp o)
  | parked {m p} : checkReq p = none →
      Step s (.boot m s.cid p) ({ s with reqs := s.reqs ++ [⟨m, p, .atTxn⟩] }, .parked)
  /-- the transaction fails before it has an effect, or finds the root key -/
  | failed {r f x o} : s.reqs[r]? = some x → x.phase = .atTxn → o ≠ .ok →
      Step s (.commit r f) (setReq s r { x with phase := .done o }, .resp o)
  | won {r f x} : s.reqs[r]? = some x → x.phase = .atTxn → s.etcd.root = none →
      Step s (.commit r f)
        (setReq { s with etcd := full s.cid r x.payload, wins := s.wins ++ [r] } r { x with phase := .committed },
          .done)
  /-- the transaction succeeds and its reply is lost -/
  | wonUnseen {r f x} : s.reqs[r]? = some x → x.phase = .atTxn → s.etcd.root = none →
      Step s (.commit r f)
        (setReq { s with etcd := full s.cid r x.payload, wins := s.wins ++ [r] } r
          { x with phase := .done .txnErr }, .resp .txnErr)
  | started {r x ms} : s.reqs[r]? = some x → x.phase = .committed →
      Step s (.start r)
        ({ setReq s r { x with phase := .done .ok } with members := ms, oks := s.oks ++ [r] }, .resp .ok)
  | led {m ms} : Step s (.lead m) ({ s with members := ms }, .done)
  /-- `validateRequest` fails; past it the header names this cluster -/
  | isBootRefused {m hdr o} : o = .notLeader ∨ o = .mismatch → Step s (.isBoot m hdr) (s, .resp o)
  | isBoot {m b} : Step s (.isBoot m s.cid) (s, .isBoot b)
  | configRefused {m hdr body o} : o = .notLeader ∨ o = .mismatch → Step s (.putConfig m hdr body) (s, .resp o)
  | config {m body c} : (c = .ok → body = s.cid) → Step s (.putConfig m s.cid body) (s, .cfg c)
  | tso {m hdrs l} : Step s (.tso m hdrs) (s, .tso l)

-- `ite_ind` rather than `split`: on the nested `if`s of `commit` the latter is several times as slow to check
theorem step_spec (s : St) (op : Op) : Step s op (step s op) := by
  cases op with
  | boot m hdr p =>
    rw [step]
    cases s.members[m]? with
    | none => exact .bad
    | some mem =>
      simp only []
      cases hv : validate s mem hdr with
      | some o => exact .answered ((validate_eq_some hv).elim .inl (.inr ∘ .inl))
      | none =>
        obtain ⟨_, rfl⟩ := validate_eq_none.1 hv
        refine ite_ind (fun _ => .answered (.inr (.inr ⟨rfl, .inl rfl⟩))) fun _ => ?_
        cases hc : checkReq p with
        | some b => exact .answered (.inr (.inr ⟨rfl, .inr ⟨b, hc, rfl⟩⟩))
        | none => exact .parked hc
  | commit r f =>
    rw [step]
    cases hx : s.reqs[r]? with
    | none => exact .bad
    | some x =>
      refine ite_ind (fun hph => ite_ind (fun _ => .failed hx hph nofun) fun _ => ?_) fun _ => .bad
      cases hroot : s.etcd.root with
      | none => exact ite_ind (fun _ => ite_ind (fun _ => .wonUnseen hx hph hroot) fun _ => .won hx hph hroot) nofun
      | some v => exact ite_ind nofun fun _ => .failed hx hph (by split <;> nofun)
  | start r =>
    rw [step]
    cases hx : s.reqs[r]? with
    | none => exact .bad
    | some x =>
      refine ite_ind (fun hph => ?_) fun _ => .bad
      cases s.members[x.member]? with
      | none => exact .bad
      | some mem => exact .started hx hph
  | lead m =>
    rw [step]
    exact ite_ind (fun _ => .led) fun _ => .bad
  | isBoot m hdr =>
    rw [step]
    cases s.members[m]? with
    | none => exact .bad
    | some mem =>
      simp only []
      cases hv : validate s mem hdr with
      | some o => exact .isBootRefused (validate_eq_some hv)
      | none =>
        obtain ⟨_, rfl⟩ := validate_eq_none.1 hv
        exact .isBoot
  | putConfig m hdr body =>
    rw [step]
    cases s.members[m]? with
    | none => exact .bad
    | some mem =>
      simp only []
      cases hv : validate s mem hdr with
      | some o => exact .configRefused (validate_eq_some hv)
      | none =>
        obtain ⟨_, rfl⟩ := validate_eq_none.1 hv
        exact ite_ind (fun _ => .config nofun) fun _ =>
          ite_ind (fun _ => .config nofun) fun hb => .config fun _ => Decidable.not_not.1 hb
  | tso m hdrs =>
    rw [step]
    cases s.members[m]? with
    | none => exact .bad
    | some mem => exact .tso

theorem Step.cid {s : St} {op : Op} {res : St × StepOut} (hs : Step s op res) : res.1.cid = s.cid := by
  cases hs <;> rfl

theorem run_cons (s : St) (op : Op) (ops : List Op) : run s (op :: ops) = run (step s op).1 ops := rfl

theorem run_cid (s : St) (ops : List Op) : (run s ops).cid = s.cid :=
  foldl_inv (·.cid = s.cid) _ ops s rfl fun t op _ h => (step_spec t op).cid.trans h

structure Inv (s : St) : Prop where
  winsLe : s.wins.length ≤ 1
  empty  : s.wins = [] → s.etcd = {}
  won    : ∀ r, s.wins = [r] → ∃ x : Req, s.reqs[r]? = some x ∧ checkReq x.payload = none ∧
             s.etcd = full s.cid r x.payload ∧ x.phase ≠ .atTxn
  okIn   : ∀ (r : Nat) (x : Req), s.reqs[r]? = some x → (x.phase = .committed ∨ x.phase = .done .ok) →
             s.wins = [r]
  valid  : ∀ (r : Nat) (x : Req), s.reqs[r]? = some x →
             (x.phase = .atTxn ∨ x.phase = .committed ∨ x.phase = .done .ok) → checkReq x.payload = none
  oksLe  : s.oks.length ≤ 1
  oksPh  : ∀ r ∈ s.oks, ∃ x : Req, s.reqs[r]? = some x ∧ x.phase = .done .ok

theorem inv_init (cid n l : Nat) : Inv (init cid n l) where
  winsLe := Nat.zero_le _
  empty _ := rfl
  won _ h := nomatch h
  okIn _ _ h := nomatch h
  valid _ _ h := nomatch h
  oksLe := Nat.zero_le _
  oksPh _ h := nomatch h

namespace Inv
variable {s : St} (h : Inv s)
include h

theorem wins_of_etcd (he : s.etcd ≠ {}) : ∃ r, s.wins = [r] :=
  (le_one_cases h.winsLe).resolve_left fun hw => he (h.empty hw)

theorem wins_nil (hroot : s.etcd.root = none) : s.wins = [] := by
  rcases le_one_cases h.winsLe with hw | ⟨r, hw⟩
  · exact hw
  · obtain ⟨_, _, _, he, _⟩ := h.won r hw
    rw [he] at hroot; cases hroot

theorem wins_ne_length : s.wins ≠ [s.reqs.length] := fun hw =>
  let ⟨_, hy, _⟩ := h.won _ hw; Nat.lt_irrefl _ (lt_length_of_getElem? hy)

theorem not_winner {r : Nat} {x : Req} (hx : s.reqs[r]? = some x) (hph : x.phase = .atTxn) : s.wins ≠ [r] :=
  fun hw =>
    let ⟨_, hy, _, _, h3⟩ := h.won r hw
    h3 (Option.some.inj (hy.symm.trans hx) ▸ hph)

theorem oks_ne {r : Nat} {x : Req} (hx : s.reqs[r]? = some x) (hph : x.phase ≠ .done .ok) :
    ∀ r' ∈ s.oks, r' ≠ r := by
  rintro r' hr' rfl
  obtain ⟨y, hy, hp⟩ := h.oksPh r' hr'
  exact hph (Option.some.inj (hy.symm.trans hx) ▸ hp)

theorem oksPh_set {r : Nat} {x : Req} (hx : s.reqs[r]? = some x) (hph : x.phase ≠ .done .ok) (z : Req) :
    ∀ r' ∈ s.oks, ∃ y : Req, (s.reqs.set r z)[r']? = some y ∧ y.phase = .done .ok := fun r' hr' =>
  let ⟨y, hy, hp⟩ := h.oksPh r' hr'
  ⟨y, (List.getElem?_set_ne (h.oks_ne hx hph r' hr').symm).trans hy, hp⟩

/-- a request answered `ok` would be the winner too, hence `r` itself, which is only committed -/
theorem oks_nil {r : Nat} {x : Req} (hx : s.reqs[r]? = some x) (hph : x.phase = .committed) : s.oks = [] :=
  match ho : s.oks with
  | [] => rfl
  | a :: _ => by
    have ha : a ∈ s.oks := ho ▸ List.mem_cons_self
    obtain ⟨y, hy, hp⟩ := h.oksPh a ha
    have hw := (h.okIn a y hy (.inr hp)).symm.trans (h.okIn r x hx (.inl hph))
    exact absurd (List.cons.inj hw).1 (h.oks_ne hx (by rw [hph]; nofun) a ha)

end Inv

theorem inv_addReq {s : St} (h : Inv s) (x : Req) (hx : x.phase ≠ .committed ∧ x.phase ≠ .done .ok)
    (hv : x.phase = .atTxn → checkReq x.payload = none) : Inv { s with reqs := s.reqs ++ [x] } where
  winsLe := h.winsLe
  empty := h.empty
  won r hr := let ⟨y, hy, h'⟩ := h.won r hr; ⟨y, getElem?_append_of_some _ hy, h'⟩
  okIn := forall_getElem?_snoc h.okIn fun hph => (hph.elim hx.1 hx.2).elim
  valid := forall_getElem?_snoc h.valid fun hph => hph.elim hv fun h2 => (h2.elim hx.1 hx.2).elim
  oksLe := h.oksLe
  oksPh r hr := let ⟨y, hy, hp⟩ := h.oksPh r hr; ⟨y, getElem?_append_of_some _ hy, hp⟩

theorem inv_fail {s : St} (h : Inv s) {r : Nat} {x : Req} (hx : s.reqs[r]? = some x) (hph : x.phase = .atTxn)
    {o : Out} (ho : o ≠ .ok) : Inv (setReq s r { x with phase := .done o }) where
  winsLe := h.winsLe
  empty := h.empty
  won r' hr' :=
    let ⟨y, hy, h'⟩ := h.won r' hr'
    ⟨y, (List.getElem?_set_ne fun (e : r = r') => h.not_winner hx hph (e ▸ hr')).trans hy, h'⟩
  okIn := forall_getElem?_set h.okIn fun hp => hp.elim nofun fun h1 => absurd (Phase.done.inj h1) ho
  valid := forall_getElem?_set h.valid fun hp =>
    hp.elim nofun fun hp => hp.elim nofun fun h1 => absurd (Phase.done.inj h1) ho
  oksLe := h.oksLe
  oksPh := h.oksPh_set hx (by rw [hph]; nofun) _

theorem inv_win {s : St} (h : Inv s) {r : Nat} {x : Req} (hx : s.reqs[r]? = some x) (hph : x.phase = .atTxn)
    (hroot : s.etcd.root = none) {ph : Phase} (hp : ph ≠ .atTxn) :
    Inv (setReq { s with etcd := full s.cid r x.payload, wins := s.wins ++ [r] } r { x with phase := ph }) := by
  have hw : s.wins ++ [r] = [r] := by rw [h.wins_nil hroot]; rfl
  have hval : checkReq x.payload = none := h.valid r x hx (.inl hph)
  exact {
    winsLe := Nat.le_of_eq (congrArg List.length hw)
    empty := fun e => nomatch hw.symm.trans e
    won := fun r' hr' => by
      obtain rfl : r = r' := (List.cons.inj (hw.symm.trans hr')).1
      exact ⟨_, getElem?_set_self_of_some hx, hval, rfl, hp⟩
    okIn := forall_getElem?_set
      (fun r' y hy hp' => nomatch (h.okIn r' y hy hp').symm.trans (h.wins_nil hroot)) fun _ => hw
    valid := forall_getElem?_set h.valid fun _ => hval
    oksLe := h.oksLe
    oksPh := h.oksPh_set hx (by rw [hph]; nofun) _ }

theorem inv_start {s : St} (h : Inv s) {r : Nat} {x : Req} (hx : s.reqs[r]? = some x)
    (hph : x.phase = .committed) (ms : List Member) :
    Inv { setReq s r { x with phase := .done .ok } with members := ms, oks := s.oks ++ [r] } := by
  have hw := h.okIn r x hx (.inl hph)
  have ho : s.oks ++ [r] = [r] := by rw [h.oks_nil hx hph]; rfl
  exact {
    winsLe := h.winsLe
    empty := h.empty
    won := fun r' hr' => by
      obtain rfl : r = r' := (List.cons.inj (hw.symm.trans hr')).1
      obtain ⟨y, hy, h1, h2, _⟩ := h.won r hw
      cases hy.symm.trans hx
      exact ⟨_, getElem?_set_self_of_some hx, h1, h2, nofun⟩
    okIn := forall_getElem?_set h.okIn fun _ => hw
    valid := forall_getElem?_set h.valid fun _ => h.valid r x hx (.inr (.inl hph))
    oksLe := Nat.le_of_eq (congrArg List.length ho)
    oksPh := fun r' hr' => by
      obtain rfl : r' = r := List.mem_singleton.1 (ho ▸ hr')
      exact ⟨_, getElem?_set_self_of_some hx, rfl⟩ }

theorem inv_step (s : St) (h : Inv s) (op : Op) : Inv (step s op).1 := by
  have hs := step_spec s op
  generalize step s op = res at hs
  cases hs with
  | bad | isBootRefused | isBoot | configRefused | config | tso => exact h
  | answered ho => exact inv_addReq h _ ⟨nofun, fun e => ho.ne_ok (Phase.done.inj e)⟩ nofun
  | parked hc => exact inv_addReq h _ ⟨nofun, nofun⟩ fun _ => hc
  | failed hx hph ho => exact inv_fail h hx hph ho
  | won hx hph hroot | wonUnseen hx hph hroot => exact inv_win h hx hph hroot nofun
  | started hx hph => exact inv_start h hx hph _
  | led => exact ⟨h.winsLe, h.empty, h.won, h.okIn, h.valid, h.oksLe, h.oksPh⟩

theorem inv_run {s : St} (h : Inv s) (ops : List Op) : Inv (run s ops) :=
  foldl_inv Inv _ ops s h fun t op _ ht => inv_step t ht op

end PdModel.Bootstrap
