import PdModel.Props.C02
import PdModel.Spec.C01
import PdModel.Generated.Tso
/-!
C01 – property theorems (single allocator; the global allocator with dc-locations is C05).
Quantifiers as in C02.  The order of the history is the lock order of `generateTSO`, which extends
real time; the theorem shows the granted ranges strictly increase along it.
-/
namespace PdModel.Tso
open PdModel.Spec

/-- the grant observed at position `i` of the history (start = finish = i: steps are atomic) -/
def evOf (bits : Nat) (i : Nat) (op : Op) (o : Out) : Option C01.Ev :=
  match op, o with
  | .getTS _ count, .ts ms l => some ⟨i, i, ms, l / 2 ^ bits - count, l / 2 ^ bits, l⟩
  | .tryTS _ count, .ts ms l => some ⟨i, i, ms, l / 2 ^ bits - count, l / 2 ^ bits, l⟩
  | _, _ => none

def events : Nat → St → List Op → List C01.Ev
  | _, _, [] => []
  | i, s, op :: ops => (evOf s.cfg.bits i op (step s op).2).toList ++ events (i + 1) (step s op).1 ops

def grantEv (c : Cfg) (g : Grant) : Nat × Nat × Nat × Nat := (g.ms, g.lo, g.hi, g.hi * 2 ^ c.bits + c.suffix)
def evKey (e : C01.Ev) : Nat × Nat × Nat × Nat := (e.ms, e.lo, e.hi, e.ret)

theorem undiff (c : Cfg) (h : c.suffix < 2 ^ c.bits) (l : Nat) : (l * 2 ^ c.bits + c.suffix) / 2 ^ c.bits = l := by
  have hpos : 0 < 2 ^ c.bits := Nat.pos_of_ne_zero (by intro h0; rw [h0] at h; omega)
  rw [Nat.mul_comm, Nat.mul_add_div hpos, Nat.div_eq_of_lt h]; rfl

theorem evOf_of_not_ts {o : Out} (h : o.isTs = false) (bits i : Nat) (op : Op) : evOf bits i op o = none := by
  unfold evOf
  split
  · cases h
  · cases h
  · rfl

theorem step_event (i : Nat) (s : St) (hsfx : s.cfg.suffix < 2 ^ s.cfg.bits) (op : Op) :
    (step s op).1.grants.map (grantEv s.cfg)
      = (evOf s.cfg.bits i op (step s op).2).toList.map evKey ++ s.grants.map (grantEv s.cfg) := by
  rcases (step_ok s op).obs with hq | ⟨m, count, p, l, hop, e⟩
  · rw [hq.grants, evOf_of_not_ts hq.noTs]; rfl
  · rw [e]
    rcases hop with rfl | rfl <;>
      simp only [granted, evOf, undiff s.cfg hsfx, Nat.add_sub_cancel, Option.toList_some, List.map_cons, List.map_nil,
        List.singleton_append, grantEv, evKey]

theorem events_eq_grants (i : Nat) (s : St) (hsfx : s.cfg.suffix < 2 ^ s.cfg.bits) (ops : List Op) :
    ((run s ops).grants.map (grantEv s.cfg)).reverse
      = (s.grants.map (grantEv s.cfg)).reverse ++ (events i s ops).map evKey := by
  induction ops generalizing i s with
  | nil => exact (List.append_nil _).symm
  | cons op ops ih =>
    have hcfg := step_cfg s op
    have ih := ih (i + 1) (step s op).1 (by rw [hcfg]; exact hsfx)
    rw [hcfg, step_event i s hsfx op, List.reverse_append, List.append_assoc] at ih
    rw [events, List.map_append]
    generalize evOf s.cfg.bits i op (step s op).2 = ev at ih ⊢
    cases ev <;> exact ih

theorem evOf_index {bits i : Nat} {op : Op} {o : Out} {e : C01.Ev} (h : evOf bits i op o = some e) :
    e.start = i ∧ e.finish = i := by
  unfold evOf at h
  split at h <;> cases h <;> exact ⟨rfl, rfl⟩

theorem events_index (i : Nat) (s : St) (ops : List Op) :
    ∀ e ∈ events i s ops, e.start = e.finish ∧ i ≤ e.start := by
  induction ops generalizing i s with
  | nil => nofun
  | cons op ops ih =>
    intro e he
    rcases List.mem_append.1 he with he | he
    · obtain ⟨h1, h2⟩ := evOf_index (Option.mem_toList.1 he)
      exact ⟨h1.trans h2.symm, Nat.le_of_eq h1.symm⟩
    · have := ih (i + 1) (step s op).1 e he; exact ⟨this.1, by omega⟩

theorem events_realtime (i : Nat) (s : St) (ops : List Op) :
    (events i s ops).Pairwise (fun a b => ¬ b.finish < a.start) := by
  induction ops generalizing i s with
  | nil => exact .nil
  | cons op ops ih =>
    refine List.pairwise_append.2 ⟨?_, ih (i + 1) _, fun a ha b hb => ?_⟩
    · cases evOf s.cfg.bits i op (step s op).2 <;> simp
    · have := (evOf_index (Option.mem_toList.1 ha)).1
      have := events_index (i + 1) (step s op).1 ops b hb
      omega

theorem C01_holds_from (i : Nat) (s : St) (h : Inv s) (hc : CfgOk s.cfg) (k : Nat)
    (hml : s.cfg.maxLogical ≤ 2 ^ k) (ops : List Op) (hf : ∀ op ∈ ops, op.faithful) :
    C01.Holds k (events i s ops) := by
  obtain ⟨hinv, hcfg⟩ := inv_run_from s h hc ops hf
  -- the final ghost log, oldest first and read as (ms, lo, hi, ret), ends with the events
  have heq := events_eq_grants i s hc.sfx_lt ops
  have hkeys : ∀ e ∈ events i s ops, ∃ g ∈ (run s ops).grants, grantEv s.cfg g = evKey e := by
    intro e he
    have : evKey e ∈ ((run s ops).grants.map (grantEv s.cfg)).reverse := by
      rw [heq]; exact List.mem_append_right _ (List.mem_map_of_mem he)
    exact List.mem_map.1 (List.mem_reverse.1 this)
  apply C01.holds_of_linearisation
  · have hrev : (((run s ops).grants.map (grantEv s.cfg)).reverse).Pairwise
        (fun a b => a.1 < b.1 ∨ (a.1 = b.1 ∧ a.2.2.1 ≤ b.2.1)) := by
      rw [List.pairwise_reverse, List.pairwise_map]
      exact hinv.gr.o
    rw [heq] at hrev
    exact (List.pairwise_map (f := evKey)).1 (List.pairwise_append.1 hrev).2.1
  · exact events_realtime i s ops
  · intro e he
    obtain ⟨g, hg, hk⟩ := hkeys e he
    obtain ⟨h1, h2, _, _⟩ := hinv.gr.g g hg
    have hse := (events_index i s ops e he).1
    simp only [grantEv, evKey, Prod.mk.injEq] at hk
    rw [hcfg] at h2
    exact ⟨hk.2.1 ▸ hk.2.2.1 ▸ h1, hk.2.2.2 ▸ Nat.lt_of_lt_of_le h2 hml, Nat.le_of_eq hse⟩

/-- One allocator (the global allocator without dc-locations, or one local allocator with its suffix).  For
    every faithful history (`Op.faithful`): the granted ranges are pairwise disjoint, strictly increase along the
    history (hence in real-time order: a request that completed before another began comes earlier), and
    the logical part *as returned* (raw value shifted by the suffix bits, plus the suffix) fits 18 bits. -/
theorem C01_holds (c : Cfg) (hc : CfgOk c) (hml : c.maxLogical = 2 ^ 18) (ops : List Op)
    (hf : ∀ op ∈ ops, op.faithful) : C01.Holds 18 (events 0 (init c) ops) :=
  C01_holds_from 0 (init c) (inv_init c) hc 18 (Nat.le_of_eq hml) ops hf

/-- the configuration with the constants extracted from the Go source; the save interval, the reset gap
    and the suffix assignment are run-time configuration -/
def extractedCfg (si gapMs bits suffix : Nat) : Cfg where
  guard := PdModel.Generated.Tso.updateTimestampGuard
  saveInterval := si
  maxLogical := PdModel.Generated.Tso.maxLogical
  maxResetGapMs := gapMs
  maxRetry := PdModel.Generated.Tso.maxRetryCount
  bits := bits
  suffix := suffix

theorem extractedCfg_ok (si gapMs bits suffix : Nat) (hsi : PdModel.Generated.Tso.updateTimestampGuard < si)
    (hsfx : suffix < 2 ^ bits) : CfgOk (extractedCfg si gapMs bits suffix) :=
  ⟨(by decide : 1000000 ≤ PdModel.Generated.Tso.updateTimestampGuard), hsi, hsfx⟩

theorem C01_holds_extracted (si gapMs bits suffix : Nat) (hsi : PdModel.Generated.Tso.updateTimestampGuard < si)
    (hsfx : suffix < 2 ^ bits) (ops : List Op) (hf : ∀ op ∈ ops, op.faithful) :
    C01.Holds 18 (events 0 (init (extractedCfg si gapMs bits suffix)) ops) :=
  C01_holds _ (extractedCfg_ok si gapMs bits suffix hsi hsfx)
    (by decide : PdModel.Generated.Tso.maxLogical = 2 ^ 18) ops hf

theorem C02_holds_extracted (si gapMs bits suffix : Nat) (hsi : PdModel.Generated.Tso.updateTimestampGuard < si)
    (hsfx : suffix < 2 ^ bits) (ops : List Op) (hf : ∀ op ∈ ops, op.faithful) :
    C02.Holds (trace (init (extractedCfg si gapMs bits suffix)) ops) :=
  C02_holds _ (extractedCfg_ok si gapMs bits suffix hsi hsfx) ops hf

/-- structure obligations re-checked against the regenerated facts: the three window writers hold
    the window mutex for their whole body, and the logical field is 18 bits wide on both sides -/
theorem tso_structure_facts :
    PdModel.Generated.Tso.syncHoldsWindowMux = true ∧
    PdModel.Generated.Tso.updateHoldsWindowMux = true ∧
    PdModel.Generated.Tso.resetHoldsWindowMux = true ∧
    PdModel.Generated.Tso.resetHoldsTsoMux = true ∧
    PdModel.Generated.Tso.resetMemHoldsTsoMux = true ∧
    PdModel.Generated.Tso.generateHoldsTsoMux = true ∧
    PdModel.Generated.Tso.setPhysicalHoldsTsoMux = true ∧
    -- persist before publish (U2;U3, S2;S3), load before save (S1;S2), the lease re-check after generating,
    -- the window write guarded by the leader record, the leadership pre-check of both GenerateTSO
    PdModel.Generated.Tso.updateSavesBeforePublish = true ∧
    PdModel.Generated.Tso.syncSavesBeforePublish = true ∧
    PdModel.Generated.Tso.syncLoadsBeforeSave = true ∧
    PdModel.Generated.Tso.getTSRechecksLease = true ∧
    PdModel.Generated.Tso.saveUsesLeaderTxn = true ∧
    PdModel.Generated.Tso.globalGenerateChecksLease = true ∧
    PdModel.Generated.Tso.localGenerateChecksLease = true ∧
    PdModel.Generated.Tso.maxLogical = 2 ^ PdModel.Generated.Tso.physicalShiftBits := by decide

/-- **the client hands out exactly the owned set**: for a response with count `count` whose logical part
    is `raw << bits | suffix` (the highest value), the values the client distributes are the `count`
    consecutive raw values ending at `raw`, each carrying the same suffix – for every width and suffix. -/
theorem client_batch_exact (raw count bits suffix : Nat) (hr : count ≤ raw) :
    clientSplit (raw * 2 ^ bits + suffix) count bits
      = (List.range count).map (fun i => (raw - count + 1 + i) * 2 ^ bits + suffix) := by
  unfold clientSplit
  apply List.map_congr_left
  intro i hi
  have hi' : i < count := List.mem_range.1 hi
  unfold addLogical
  have hsub : ((raw - count : Nat) : Int) = (raw : Int) - count := by omega
  have : ((raw * 2 ^ bits + suffix : Nat) : Int) + (-(count : Int) + 1) * 2 ^ bits + (i : Int) * 2 ^ bits
       = (((raw - count + 1 + i) * 2 ^ bits + suffix : Nat) : Int) := by
    push_cast
    rw [hsub]
    generalize (2 : Int) ^ bits = P
    grind
  rw [this]; exact Int.toNat_natCast _

theorem tsLessEqual_iff (p l tp tl : Nat) :
    tsLessEqual p l tp tl = true ↔ (p < tp ∨ (p = tp ∧ l ≤ tl)) := by
  unfold tsLessEqual; split <;> simp_all <;> omega

end PdModel.Tso
