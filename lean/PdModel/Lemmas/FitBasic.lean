import PdModel.Model.Fit
/-! The loop-shaped helper functions of the model compute the documented semantics of `Spec.C12`. -/
namespace PdModel.Fit
open PdModel.Spec.C12

theorem getLabelValue_eq (s : Store) (key : String) : getLabelValue s.labels key = labelValue s key := by
  unfold labelValue
  induction s.labels with
  | nil => simp [getLabelValue]
  | cons l ls ih =>
    simp only [getLabelValue, equalFold, List.find?_cons]
    by_cases h : (fold l.key == fold key) = true
    · simp [h]
    · simp only [h, Bool.false_eq_true, ↓reduceIte]; exact ih

theorem matchStore_eq (c : Constraint) (s : Store) : matchStore c s = c.holds s := by
  unfold matchStore Constraint.holds
  cases c.op <;> simp only [getLabelValue_eq, List.any_beq']
  exact congrArg _ List.all_bne'

/-- the constants the model reads from the source are the ones the documented semantics is stated with -/
theorem fit_facts :
    PdModel.Generated.Fit.replicaBaseScore = 100 ∧
    PdModel.Generated.Fit.legacyExclusiveLabels = ["engine", "exclusive"] := ⟨rfl, rfl⟩

theorem legacy_labels : legacyExclusiveLabels = ["engine", "exclusive"] := fit_facts.2

theorem base_is_100 : replicaBaseScore = 100 := fit_facts.1

theorem isExclusiveLabel_eq (key : String) : isExclusiveLabel key = isExclusive key := by
  unfold isExclusiveLabel isExclusive hasDollarPrefix
  rw [legacy_labels]
  simp only [List.any_cons, List.any_nil, Bool.or_false, Bool.or_assoc]
  rfl

theorem matchLabelConstraints_eq (s : Store) (cs : List Constraint) :
    matchLabelConstraints (some s) cs = storeOK s cs := by
  unfold matchLabelConstraints storeOK
  simp only [isExclusiveLabel_eq, matchStore_eq]
  -- "some label is exclusive and named by no constraint" is the negation of the spec's first conjunct
  have h : (s.labels.any fun l => isExclusive l.key && cs.all fun c => !(c.key == l.key)) =
      !(s.labels.all fun l => !isExclusive l.key || cs.any fun c => c.key == l.key) := by
    rw [List.not_all_eq_any_not]
    congr 1; funext l
    rw [Bool.not_or, Bool.not_not, List.not_any_eq_all_not]
  rw [h]
  cases (s.labels.all fun l => !isExclusive l.key || cs.any fun c => c.key == l.key) <;> simp

theorem matchRoleStrict_eq (p : PeerInfo) (r : Role) : matchRoleStrict p r = roleMatches p r := by
  cases r <;> rfl

theorem matchRoleLoose_eq (p : PeerInfo) (r : Role) : matchRoleLoose p r = canBecome p r := rfl

theorem compareLocationAux_eq (a b : Store) (labels : List String) (i : Nat) :
    compareLocationAux a b labels i = (firstDiff a b labels).map (· + i) := by
  induction labels generalizing i with
  | nil => simp [compareLocationAux, firstDiff]
  | cons k ks ih =>
    simp only [compareLocationAux, firstDiff, getLabelValue_eq, equalFold, bne]
    split
    · simp only [Option.map_some, Nat.zero_add]
    · rw [ih, Option.map_map]
      congr 1
      funext x; simp only [Function.comp]; omega

theorem scoreInner_eq (p1 : PeerInfo) (labels : List String) (ps : List PeerInfo) (acc : Nat) :
    scoreInner p1 labels ps acc = acc +
      (match p1.store with
       | some s => ((ps.filterMap (·.store)).map (pairScore labels s)).sum
       | none => 0) := by
  induction ps generalizing acc with
  | nil => cases p1.store <;> simp [scoreInner]
  | cons p2 rest ih =>
    simp only [scoreInner, compareLocation]
    cases h1 : p1.store with
    | none => simp [ih, h1]
    | some s1 =>
      cases h2 : p2.store with
      | none => simp [ih, h1, h2]
      | some s2 =>
        simp only [compareLocationAux_eq, List.filterMap_cons, h2, List.map_cons, List.sum_cons]
        cases hd : firstDiff s1 s2 labels with
        | none =>
          have : pairScore labels s1 s2 = 0 := by simp [pairScore, hd]
          simp [ih, h1, this]
        | some d =>
          have : pairScore labels s1 s2 = 100 ^ (labels.length - d - 1) := by simp [pairScore, hd]
          simp only [Option.map_some, Nat.add_zero, ih, h1, this, base_is_100]; omega

theorem scoreOuter_eq (labels : List String) (ps : List PeerInfo) (acc : Nat) :
    scoreOuter labels ps acc = acc + isoScore labels (ps.filterMap (·.store)) := by
  induction ps generalizing acc with
  | nil => simp [scoreOuter, isoScore]
  | cons p rest ih =>
    simp only [scoreOuter, ih, scoreInner_eq, List.filterMap_cons]
    cases p.store with
    | none => simp
    | some s => simp [isoScore]; omega

theorem firstDiff_nil_labels (a b : Store) : firstDiff a b [] = none := rfl

theorem pairScore_nil (a b : Store) : pairScore [] a b = 0 := rfl

theorem isoScore_nil_labels (l : List Store) : isoScore [] l = 0 := by
  induction l with
  | nil => rfl
  | cons s rest ih =>
    simp only [isoScore, ih, Nat.add_zero]
    clear ih
    induction rest with
    | nil => rfl
    | cons t ts ih2 => simp [pairScore_nil, ih2]

theorem isolationScore_eq (ps : List PeerInfo) (labels : List String) :
    isolationScore ps labels = isoScore labels (ps.filterMap (·.store)) := by
  unfold isolationScore
  split
  · next h =>
    simp only [Bool.or_eq_true, beq_iff_eq, decide_eq_true_eq] at h
    rcases h with h | h
    · have : labels = [] := List.eq_nil_of_length_eq_zero h
      subst this; exact (isoScore_nil_labels _).symm
    · rcases ps with _ | ⟨p, _ | ⟨q, ps⟩⟩
      · rfl
      · cases hp : p.store <;> simp [hp, isoScore]
      · exact absurd (Nat.le_of_succ_le_succ h) (Nat.not_succ_le_zero _)
  · rw [scoreOuter_eq, Nat.zero_add]

end PdModel.Fit
