import PdModel.Model.Rules
import PdModel.Prelude.ListFacts
/-! Sorted lists: uniqueness, insertion before the first greater element, insertion without repetition. -/
namespace PdModel.Rules
open PdModel.Spec.C13

theorem sorted_ext {α : Type} (lt : α → α → Prop) (irrefl : ∀ a, ¬ lt a a)
    (trans : ∀ a b c, lt a b → lt b c → lt a c) (l1 l2 : List α) (h1 : l1.Pairwise lt) (h2 : l2.Pairwise lt)
    (h : ∀ x, x ∈ l1 ↔ x ∈ l2) : l1 = l2 :=
  have nodup : ∀ {l : List α}, l.Pairwise lt → l.Nodup := fun hl =>
    hl.imp fun {a b} (hab : lt a b) (e : a = b) => by subst e; exact irrefl a hab
  List.Perm.eq_of_pairwise (le := lt) (fun a b _ _ hab hba => absurd (trans _ _ _ hab hba) (irrefl a)) h1 h2
    ((List.perm_ext_iff_of_nodup (nodup h1) (nodup h2)).2 h)

theorem ascending_ext (l1 l2 : List Nat) (h1 : l1.Pairwise (· < ·)) (h2 : l2.Pairwise (· < ·))
    (h : ∀ x, x ∈ l1 ↔ x ∈ l2) : l1 = l2 :=
  sorted_ext (· < ·) Nat.lt_irrefl (fun _ _ _ => Nat.lt_trans) l1 l2 h1 h2 h

/-- `insertRule`, `insertSorted`, `insertPoint`, `mapIns` and the specification's `insertBy` are all this function. -/
def insBy {α : Type} (before : α → α → Bool) (v : α) : List α → List α
  | [] => [v]
  | x :: xs => if before v x then v :: x :: xs else x :: insBy before v xs

section insBy
variable {α : Type} (before : α → α → Bool)

theorem insBy_perm (v : α) (l : List α) : (insBy before v l).Perm (v :: l) := by
  induction l with
  | nil => exact List.Perm.refl _
  | cons x xs ih =>
    simp only [insBy]
    split
    · exact List.Perm.refl _
    · exact (List.Perm.cons x ih).trans (List.Perm.swap v x xs)

theorem mem_insBy (v x : α) (l : List α) : x ∈ insBy before v l ↔ x = v ∨ x ∈ l := by
  rw [(insBy_perm before v l).mem_iff, List.mem_cons]

theorem insBy_pairwise {R : α → α → Prop} (trans : ∀ a b c, R a b → R b c → R a c) (v : α) (l : List α)
    (hs : l.Pairwise R) (h1 : ∀ x ∈ l, before v x = true → R v x) (h2 : ∀ x ∈ l, before v x = false → R x v) :
    (insBy before v l).Pairwise R := by
  induction l with
  | nil => exact List.pairwise_singleton _ _
  | cons y ys ih =>
    have hy := List.pairwise_cons.1 hs
    simp only [insBy]
    cases hb : before v y with
    | true =>
      have hvy := h1 y List.mem_cons_self hb
      refine List.pairwise_cons.2 ⟨fun z hz => ?_, hs⟩
      rcases List.mem_cons.1 hz with e | e
      · exact e ▸ hvy
      · exact trans _ _ _ hvy (hy.1 z e)
    | false =>
      refine List.pairwise_cons.2 ⟨fun z hz => ?_, ih hy.2 (fun x hx => h1 x (List.mem_cons_of_mem _ hx))
        (fun x hx => h2 x (List.mem_cons_of_mem _ hx))⟩
      rcases (mem_insBy before v z ys).1 hz with e | e
      · exact e ▸ h2 y List.mem_cons_self hb
      · exact hy.1 z e

theorem insBy_map {β : Type} (f : α → β) (before' : β → β → Bool) (h : ∀ x y, before' (f x) (f y) = before x y)
    (v : α) (l : List α) : (insBy before v l).map f = insBy before' (f v) (l.map f) := by
  induction l with
  | nil => rfl
  | cons x xs ih =>
    simp only [insBy, List.map_cons, h]
    split
    · rfl
    · rw [List.map_cons, ih]

theorem foldr_insBy_perm (l : List α) : (l.foldr (insBy before) []).Perm l := by
  induction l with
  | nil => exact List.Perm.refl _
  | cons x xs ih => exact (insBy_perm before x _).trans (List.Perm.cons x ih)

theorem foldr_insBy_map {β : Type} (f : α → β) (before' : β → β → Bool) (h : ∀ x y, before' (f x) (f y) = before x y)
    (l : List α) : (l.foldr (insBy before) []).map f = (l.map f).foldr (insBy before') [] := by
  induction l with
  | nil => rfl
  | cons x xs ih => rw [List.foldr_cons, insBy_map before f before' h, ih, List.map_cons, List.foldr_cons]

end insBy

theorem mem_insertNat (n x : Nat) (l : List Nat) : x ∈ insertNat n l ↔ x = n ∨ x ∈ l := by
  induction l with
  | nil => simp [insertNat]
  | cons y ys ih =>
    simp only [insertNat]
    split
    · simp
    · split
      · next h => subst h; simp
      · rw [List.mem_cons, ih, List.mem_cons]
        exact or_left_comm

theorem insertNat_sorted (n : Nat) (l : List Nat) (h : l.Pairwise (· < ·)) : (insertNat n l).Pairwise (· < ·) := by
  induction l with
  | nil => simp [insertNat]
  | cons y ys ih =>
    rw [List.pairwise_cons] at h
    simp only [insertNat]
    split
    · next hlt =>
      rw [List.pairwise_cons]
      refine ⟨?_, List.pairwise_cons.2 h⟩
      intro z hz
      rcases List.mem_cons.1 hz with e | e
      · exact e ▸ hlt
      · exact Nat.lt_trans hlt (h.1 z e)
    · next hlt =>
      split
      · exact List.pairwise_cons.2 h
      · next hne =>
        rw [List.pairwise_cons]
        refine ⟨?_, ih h.2⟩
        intro z hz
        rcases (mem_insertNat n z ys).1 hz with e | e
        · exact e ▸ Nat.lt_of_le_of_ne (Nat.le_of_not_lt hlt) (Ne.symm hne)
        · exact h.1 z e

theorem foldr_insertNat (l : List Nat) :
    (l.foldr insertNat []).Pairwise (· < ·) ∧ ∀ x, x ∈ l.foldr insertNat [] ↔ x ∈ l := by
  induction l with
  | nil => simp
  | cons y ys ih =>
    simp only [List.foldr_cons]
    exact ⟨insertNat_sorted _ _ ih.1, fun x => by rw [mem_insertNat, ih.2]; simp⟩

end PdModel.Rules
