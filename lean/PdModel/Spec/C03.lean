import PdModel.Prelude.ListFacts
/-
C03 – "Only the current leaseholder serves or persists leader-only state", stated over what can be
observed from outside: the leader records in the store, the set of live leases, what each contender
reports about itself, and the outcome of campaigns, guarded writes and service requests.
No implementation identifiers.  Executable checkers with `…_iff` theorems; the driver uses the
checkers as the monitor on the implementation's own reports.
-/
namespace PdModel.Spec.C03

/-- a leader record: the value stored under a leadership's key and the lease it is attached to -/
structure Rec where
  val   : Nat
  lease : Nat
  deriving DecidableEq, Repr

/-- what one contender reports about itself at one instant -/
structure View where
  key       : Nat        -- the leadership it contends for
  member    : Nat        -- its identity (the value it campaigns with)
  value     : Nat        -- the value its guarded writes compare the record with (0 before its first campaign)
  lease     : Nat        -- id of the lease it believes to own (0 = none)
  check     : Bool       -- "my leadership is still available" (local lease view not expired)
  cacheSelf : Bool       -- it has announced itself as leader to its RPC layer
  tsoInit   : Bool       -- its timestamp memory is initialised
  won       : Bool       -- its last campaign succeeded and it has not resigned since
  clock     : Nat        -- its last local clock reading
  deriving DecidableEq, Repr

def View.servesRpc (v : View) : Bool := v.check && v.cacheSelf
def View.servesTso (v : View) : Bool := v.check && v.tsoInit
def View.serves (v : View) : Bool := v.servesRpc || v.servesTso

/-- the world at one instant -/
structure Snap where
  recs  : List (Nat × Rec)      -- leadership ↦ record (absent leaderships are not listed)
  live  : List Nat              -- ids of the live leases
  views : List View
  deriving Repr

def Snap.recOf (s : Snap) (l : Nat) : Option Rec := (s.recs.find? (·.1 = l)).map (·.2)

/-- contender `v` is the holder of its leadership: the record carries its value and its lease -/
def Snap.holder (s : Snap) (v : View) : Bool :=
  v.lease != 0 && s.recOf v.key == some ⟨v.member, v.lease⟩

/-! ### (a) campaigns -/

/-- one completed campaign -/
structure Campaign where
  ok           : Bool            -- the campaign reported success
  faulted      : Bool            -- the store reported an error for the campaign's transaction (injected)
  revokeFailed : Bool            -- the revocation of the campaign's lease after a failure did not get through
  before       : Option Rec      -- the leadership's record before / after
  after        : Option Rec
  extraHeld    : Bool            -- the caller's extra comparisons held before
  leaseLive    : Bool            -- the campaign's lease was live when the transaction ran
  value        : Nat
  lease        : Nat
  deriving Repr

/-- a campaign succeeds only if the record is absent and the extra comparisons hold, and then does unless the
    store reported an error or its lease was not live; on success the record carries the caller's value and
    lease; an unsuccessful one whose revocation got through leaves the record as it was (unless somebody else
    had attached the record to the campaign's own, fresh lease, which goes away with the campaign) -/
def Campaign.Good (c : Campaign) : Prop :=
  (c.ok = true → c.before = none ∧ c.extraHeld = true ∧ c.lease ≠ 0 ∧ c.after = some ⟨c.value, c.lease⟩) ∧
  (c.faulted = false → c.before = none → c.extraHeld = true → c.leaseLive = true → c.ok = true) ∧
  (c.ok = false → c.revokeFailed = false → c.after = c.before ∨ c.before.map (·.lease) = some c.lease)

def Campaign.good (c : Campaign) : Bool :=
  (!c.ok || (c.before == none && c.extraHeld && c.lease != 0 && c.after == some ⟨c.value, c.lease⟩)) &&
  (c.faulted || c.before != none || !c.extraHeld || !c.leaseLive || c.ok) &&
  (c.ok || c.revokeFailed || c.after == c.before || c.before.map (·.lease) == some c.lease)

theorem Campaign.good_iff (c : Campaign) : c.good = true ↔ c.Good := by
  unfold Campaign.good Campaign.Good
  -- every `||` of the checker becomes an implication, and so does the one `∨` of the specification
  simp only [Bool.and_eq_true, or_eq_true_imp, Bool.or_eq_false_iff, and_imp, Bool.not_eq_false', bne_eq_false_iff_eq,
    beq_eq_false_iff_ne, beq_iff_eq, bne_iff_ne, ne_eq, and_assoc, Decidable.or_iff_not_imp_left]

/-! ### (a') at most one holder -/

/-- at every instant every leadership has at most one holder among the contenders -/
def Snap.SingleHolder (s : Snap) : Prop :=
  ∀ l : Nat, ((s.views.filter (fun v => v.key = l && s.holder v)).length ≤ 1)

def Snap.singleHolder (s : Snap) : Bool :=
  s.views.all fun v => decide ((s.views.filter (fun w => w.key = v.key && s.holder w)).length ≤ 1)

theorem Snap.singleHolder_iff (s : Snap) : s.singleHolder = true ↔ s.SingleHolder := by
  unfold Snap.singleHolder Snap.SingleHolder
  simp only [List.all_eq_true, decide_eq_true_eq]
  -- a leadership nobody contends for has no holder
  refine Iff.symm (forall_iff_forall_mem fun l hl => ?_)
  rw [List.filter_eq_nil_iff.2 fun v hv h => hl v hv (of_decide_eq_true (Bool.and_eq_true_iff.1 h).1)]
  exact Nat.zero_le 1

/-! ### (c) guarded writes -/

structure Write where
  owner     : Bool      -- the record carried the writer's comparison value before the write
  faulted   : Bool      -- injected store error
  skipped   : Bool      -- the writer did not attempt the write at all (its own leadership check failed)
  ok        : Bool      -- reported success
  unchanged : Bool      -- store (all keys, all leases) identical before and after
  deriving Repr

/-- a guarded write succeeds only if the writer owns the record, and then does unless the store reported an
    error or the write was skipped; a non-owner's write and a skipped one change nothing -/
def Write.Good (w : Write) : Prop :=
  (w.ok = true → w.owner = true) ∧
  (w.owner = false → w.unchanged = true ∧ w.ok = false) ∧
  (w.owner = true → w.faulted = false → w.skipped = false → w.ok = true) ∧
  (w.skipped = true → w.unchanged = true ∧ w.ok = false)

def Write.good (w : Write) : Bool :=
  (!w.ok || w.owner) && (w.owner || (w.unchanged && !w.ok)) &&
  (!w.owner || w.faulted || w.skipped || w.ok) && (!w.skipped || (w.unchanged && !w.ok))

theorem Write.good_iff (w : Write) : w.good = true ↔ w.Good := by
  unfold Write.good Write.Good
  simp only [Bool.and_eq_true, or_eq_true_imp, Bool.or_eq_false_iff, and_imp, Bool.not_eq_false', Bool.not_eq_true',
    and_assoc]

/-! ### (b) service -/

/-- A request for leader-only service (timestamp, id allocation, metadata) answered by a contender:
    it may be served only if the contender's own leadership check holds; and, as long as the
    environment assumptions hold (`faithful`), only by the holder of the record. -/
structure Serve where
  served   : Bool
  check    : Bool
  faithful : Bool
  holder   : Bool
  deriving Repr

def Serve.Good (x : Serve) : Prop :=
  (x.served = true → x.check = true) ∧ (x.faithful = true → x.served = true → x.holder = true)

def Serve.good (x : Serve) : Bool :=
  (!x.served || x.check) && (!x.faithful || !x.served || x.holder)

theorem Serve.good_iff (x : Serve) : x.good = true ↔ x.Good := by
  unfold Serve.good Serve.Good
  simp only [Bool.and_eq_true, or_eq_true_imp, Bool.or_eq_false_iff, and_imp, Bool.not_eq_false']

/-- the same at every instant, for what the contenders report they would do:
    under the environment assumptions, whoever would serve is the holder and its lease is live;
    whoever's check holds has a live lease or no lease at all -/
def Snap.ServingIsHolder (s : Snap) : Prop :=
  ∀ v ∈ s.views,
    (v.serves = true → s.holder v = true) ∧
    (v.check = true → v.lease ≠ 0 → v.lease ∈ s.live)

def Snap.servingIsHolder (s : Snap) : Bool :=
  s.views.all fun v => (!v.serves || s.holder v) && (!v.check || v.lease == 0 || s.live.contains v.lease)

theorem Snap.servingIsHolder_iff (s : Snap) : s.servingIsHolder = true ↔ s.ServingIsHolder := by
  unfold Snap.servingIsHolder Snap.ServingIsHolder
  simp only [List.all_eq_true, Bool.and_eq_true, or_eq_true_imp, Bool.or_eq_false_iff, and_imp, Bool.not_eq_false',
    beq_eq_false_iff_ne, ne_eq, List.contains_iff_mem]

/-- a contender that has just resigned (reset its leadership, stepped down, deleted its record) -/
def Resigned (after : View) : Prop := after.check = false ∧ after.serves = false

def resigned (after : View) : Bool := !after.check && !after.serves

theorem resigned_iff (v : View) : resigned v = true ↔ Resigned v := by
  simp only [resigned, Resigned, Bool.and_eq_true, Bool.not_eq_true']

/-- a contender whose leader loop has completed its step-down: besides being resigned it has withdrawn
    its announcement and cleared its timestamp memory, so that its next campaign starts clean -/
def SteppedDown (after : View) : Prop :=
  after.check = false ∧ after.cacheSelf = false ∧ after.tsoInit = false

def steppedDown (after : View) : Bool := !after.check && !after.cacheSelf && !after.tsoInit

theorem steppedDown_iff (v : View) : steppedDown v = true ↔ SteppedDown v := by
  simp only [steppedDown, SteppedDown, Bool.and_eq_true, Bool.not_eq_true', and_assoc]

/-! ### the environment assumptions ("faithful" executions)

The service clause needs assumptions about the environment and about the order in which a member's
leader loop calls the election layer.  They are stated here over observable things; an execution
is faithful as long as every action satisfies `Act.ok` in the snapshot it is taken in. -/

inductive Act where
  | tick (i t : Nat)              -- contender i reads its local clock
  | lose (lease : Nat)            -- the store expires / revokes a lease on its own
  | campaign (i : Nat)            -- contender i starts a campaign
  | inTerm (i : Nat)              -- leader-loop action taken only inside a term (keep-alive, enabling service, initialising timestamps)
  | outOfTerm (i : Nat)           -- leader-loop action taken only outside a term (looking for the current leader)
  | deleteOwn (i : Nat)           -- outside a term: delete the record, done only when it names the contender itself
  | join (key member : Nat)       -- a new contender appears (member ids are not 0)
  | foreign (touchesRecord : Bool) -- somebody else writes to the store directly
  | other
  deriving Repr

def Act.ok (s : Snap) : Act → Bool
  | .tick i t => match s.views[i]? with | some v => decide (v.clock ≤ t) | none => true
  | .lose id => s.views.all fun v => v.lease != id || !v.check
  | .campaign i => match s.views[i]? with | some v => !v.cacheSelf && !v.tsoInit | none => true
  | .inTerm i => match s.views[i]? with | some v => v.won | none => true
  | .outOfTerm i => match s.views[i]? with | some v => !v.won && !v.cacheSelf && !v.tsoInit | none => true
  | .deleteOwn i =>
    match s.views[i]? with
    | some v => !v.won && !v.cacheSelf && !v.tsoInit &&
        (match s.recOf v.key with | some r => r.val == v.member | none => true)
    | none => true
  | .join k m => m != 0 && s.views.all fun v => !(v.key == k && v.member == m)
  | .foreign t => !t
  | .other => true

end PdModel.Spec.C03
