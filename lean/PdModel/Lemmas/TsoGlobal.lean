import PdModel.Model.TsoGlobal
import PdModel.Prelude.ListFacts
/-! Order lemmas on timestamps, the inductive invariant of the global-synchronisation model, and the one case
analysis of `step` (`step_ok`) that gives its preservation. -/
namespace PdModel.TsoGlobal

theorem lex_trans {r s t : Nat → Nat → Prop} (hrst : ∀ {x y z}, r x y → s y z → t x z) {a b c : TS}
    (h1 : a.1 < b.1 ∨ (a.1 = b.1 ∧ r a.2 b.2)) (h2 : b.1 < c.1 ∨ (b.1 = c.1 ∧ s b.2 c.2)) :
    a.1 < c.1 ∨ (a.1 = c.1 ∧ t a.2 c.2) := by
  obtain h1 | ⟨e1, h1⟩ := h1 <;> obtain h2 | ⟨e2, h2⟩ := h2
  · exact Or.inl (Nat.lt_trans h1 h2)
  · exact Or.inl (e2 ▸ h1)
  · exact Or.inl (e1 ▸ h2)
  · exact Or.inr ⟨e1.trans e2, hrst h1 h2⟩

theorem tsLe_refl (a : TS) : tsLe a a := Or.inr ⟨rfl, Nat.le_refl _⟩

theorem tsLe_of_eq {a b : TS} (h : a = b) : tsLe a b := h ▸ tsLe_refl a

theorem tsLe_trans {a b c : TS} (h1 : tsLe a b) (h2 : tsLe b c) : tsLe a c := lex_trans Nat.le_trans h1 h2

theorem tsLt_of_le_of_lt {a b c : TS} (h1 : tsLe a b) (h2 : tsLt b c) : tsLt a c :=
  lex_trans Nat.lt_of_le_of_lt h1 h2

theorem tsLt_of_lt_of_le {a b c : TS} (h1 : tsLt a b) (h2 : tsLe b c) : tsLt a c :=
  lex_trans Nat.lt_of_lt_of_le h1 h2

theorem tsLt_trans {a b c : TS} (h1 : tsLt a b) (h2 : tsLt b c) : tsLt a c := lex_trans Nat.lt_trans h1 h2

theorem tsLe_of_lt {a b : TS} (h : tsLt a b) : tsLe a b := h.imp_right (And.imp_right Nat.le_of_lt)

theorem tsLt_irrefl (a : TS) : ¬ tsLt a a := fun h => h.elim (Nat.lt_irrefl _) fun h => Nat.lt_irrefl _ h.2

theorem tsLe_or_lt (a b : TS) : tsLe a b ∨ tsLt b a := by
  rcases Nat.lt_trichotomy a.1 b.1 with h | h | h
  · exact Or.inl (Or.inl h)
  · exact (Nat.lt_or_ge b.2 a.2).elim (fun h2 => Or.inr (Or.inr ⟨h.symm, h2⟩)) fun h2 => Or.inl (Or.inr ⟨h, h2⟩)
  · exact Or.inr (Or.inl h)

theorem tsLt_of_not_le {a b : TS} (h : ¬ tsLe a b) : tsLt b a := (tsLe_or_lt a b).resolve_left h

theorem tsLe_of_not_lt {a b : TS} (h : ¬ tsLt a b) : tsLe b a := (tsLe_or_lt b a).resolve_right h

theorem tsLt_of_le_of_ne {a b : TS} (h : tsLe a b) (hne : a ≠ b) : tsLt a b :=
  h.imp_right fun ⟨e, h2⟩ => ⟨e, Nat.lt_of_le_of_ne h2 fun e2 => hne (Prod.ext e e2)⟩

theorem tsLe_antisymm {a b : TS} (h1 : tsLe a b) (h2 : tsLe b a) : a = b :=
  Decidable.byContradiction fun hne => tsLt_irrefl a (tsLt_of_lt_of_le (tsLt_of_le_of_ne h1 hne) h2)

theorem tsLe_ite {c : Prop} [Decidable c] {a b : TS} (h : c → tsLe a b) : tsLe a (if c then b else a) :=
  ite_ind (P := tsLe a) h fun _ => tsLe_refl a

theorem tsMax_ge_left (a b : TS) : tsLe a (tsMax a b) := tsLe_ite id

theorem tsMax_ge_right (a b : TS) : tsLe b (tsMax a b) :=
  ite_ind (P := tsLe b) (fun _ => tsLe_refl b) fun h => tsLe_of_lt (tsLt_of_not_le h)

theorem tsLt_add {a : TS} {c : Nat} (hc : 0 < c) : tsLt a (a.1, a.2 + c) :=
  Or.inr ⟨rfl, Nat.lt_add_of_pos_right hc⟩

theorem bump_gt (ml b : Nat) (m : TS) (c : Nat) (hc : 0 < c) : tsLt m (bump ml b m c) :=
  ite_ind (P := tsLt m) (fun _ => Or.inl (Nat.lt_succ_self _)) fun _ => tsLt_add hc

theorem tsLe_update {loc : Nat → TS} {d : Nat} {t : TS} (h : tsLe (loc d) t) (i : Nat) :
    tsLe (loc i) (if i = d then t else loc i) :=
  tsLe_ite fun hi => hi ▸ h

theorem foldl_accMax_some (loc : Nat → TS) (l : List Nat) (a : TS) :
    ∃ m, l.foldl (accMax loc) (some a) = some m ∧ tsLe a m ∧ ∀ d ∈ l, tsLe (loc d) m := by
  induction l generalizing a with
  | nil => exact ⟨a, rfl, tsLe_refl a, nofun⟩
  | cons x xs ih =>
    obtain ⟨m, hm, ha, hxs⟩ := ih (tsMax a (loc x))
    exact ⟨m, hm, tsLe_trans (tsMax_ge_left _ _) ha,
      List.forall_mem_cons.2 ⟨tsLe_trans (tsMax_ge_right _ _) ha, hxs⟩⟩

theorem foldl_accMax_none (loc : Nat → TS) {l : List Nat} {d : Nat} (hd : d ∈ l) :
    ∃ m, l.foldl (accMax loc) none = some m ∧ ∀ d ∈ l, tsLe (loc d) m := by
  cases l with
  | nil => cases hd
  | cons x xs =>
    obtain ⟨m, hm, hx, hxs⟩ := foldl_accMax_some loc xs (loc x)
    exact ⟨m, hm, List.forall_mem_cons.2 ⟨hx, hxs⟩⟩

theorem le_of_foldl_accMax {loc : Nat → TS} {l : List Nat} {m : TS} (h : l.foldl (accMax loc) none = some m)
    {d : Nat} (hd : d ∈ l) : tsLe (loc d) m :=
  have ⟨_, hm', hle⟩ := foldl_accMax_none loc hd
  Option.some.inj (hm'.symm.trans h) ▸ hle d hd

theorem maxLocal_some {st : St} {s : Nat} {m : TS} (h : maxLocal st s = some m) :
    ∀ d ∈ st.dcs, st.srvOf d = s → tsLe (st.loc d) m :=
  fun _ hd hs => le_of_foldl_accMax h (List.mem_filter.2 ⟨hd, decide_eq_true hs⟩)

theorem maxLocal_none {st : St} {s : Nat} (h : maxLocal st s = none) : ∀ d ∈ st.dcs, st.srvOf d ≠ s :=
  fun _ hd hs =>
    have ⟨_, hm', _⟩ := foldl_accMax_none st.loc (List.mem_filter.2 ⟨hd, decide_eq_true hs⟩)
    nomatch hm'.symm.trans h

theorem maxAll_some {st : St} {m : TS} (h : maxAll st = some m) : ∀ d ∈ st.dcs, tsLe (st.loc d) m :=
  fun _ hd => le_of_foldl_accMax h hd

/-- Visiting server `s` removes it from the servers still to be visited: a clause about the dcs whose server has
    been visited holds afterwards if it holds for those led by `s` and held before for the others. -/
theorem visited_ind {P : Nat → Prop} {dcs l : List Nat} {f : Nat → Nat} {s : Nat} (hnew : ∀ d ∈ dcs, f d = s → P d)
    (hold : ∀ d ∈ dcs, f d ∉ l → P d) : ∀ d ∈ dcs, f d ∉ l.filter (· ≠ s) → P d :=
  fun d hd hv => (Decidable.em (f d = s)).elim (hnew d hd) fun hne =>
    hold d hd fun hm => hv (List.mem_filter.2 ⟨hm, decide_eq_true hne⟩)

/-- What the log guarantees about a grant `n` and a grant `o` logged before it: a global grant is above every
    earlier global one and above every local one that had finished when its request began; a local grant is above
    every earlier global one (it is issued from a memory that every returned global timestamp has been written
    to).  Of any other pair it says `fin` only. -/
structure Before (n o : Ev) : Prop where
  fin  : o.finish < n.finish
  glob : n.alloc = 0 → o.alloc = 0 ∨ o.finish < n.start → tsLt o.ts n.ts
  loc  : n.alloc ≠ 0 → o.alloc = 0 → tsLt o.ts n.ts

def PhaseInv (st : St) (r : Req) : Phase → Prop
  | .check => tsLe r.orig r.est ∧ tsLe r.est r.best ∧
      -- a server that has been visited either holds the estimate now, or has answered something above it
      ∀ d ∈ st.dcs, st.srvOf d ∉ r.pending →
        (tsLe r.est (st.loc d) ∧ tsLt (r.before d) r.est) ∨ (tsLt r.est r.best ∧ tsLe (r.before d) r.best)
  | .write => (∀ d ∈ st.dcs, tsLt (r.before d) r.est) ∧ ∀ d ∈ st.dcs, st.srvOf d ∉ r.pending → tsLe r.est (st.loc d)
  | .ret => (∀ d ∈ st.dcs, tsLt (r.before d) r.est ∧ tsLe r.est (st.loc d)) ∧ tsLe r.est st.glob

structure ReqInv (st : St) (r : Req) : Prop where
  cpos    : 0 < r.count
  glt     : ∀ e ∈ st.events, e.alloc = 0 → tsLt e.ts r.est
  startLe : r.start ≤ st.clock
  bef     : ∀ l ∈ st.events, l.alloc ≠ 0 → l.finish < r.start → tsLe l.ts (r.before l.alloc)
  befLe   : ∀ d, tsLe (r.before d) (st.loc d)
  ph      : PhaseInv st r r.phase

/-- What the state guarantees about one logged grant.  Stated over the four components it mentions, so that it
    holds as it stands in a state that differs in the others. -/
structure EvOk (clock : Nat) (dcs : List Nat) (glob : TS) (loc : Nat → TS) (e : Ev) : Prop where
  time   : e.finish ≤ clock ∧ e.start ≤ e.finish
  known  : e.alloc = 0 ∨ e.alloc ∈ dcs
  leLoc  : e.alloc ≠ 0 → tsLe e.ts (loc e.alloc)
  leGlob : e.alloc = 0 → tsLe e.ts glob ∧ ∀ d ∈ dcs, tsLe e.ts (loc d)

structure WF (st : St) : Prop where
  srv_mem : ∀ d ∈ st.dcs, st.srvOf d ∈ st.servers
  dc_pos  : ∀ d ∈ st.dcs, d ≠ 0

structure Inv (st : St) : Prop extends WF st where
  ev  : ∀ e ∈ st.events, EvOk st.clock st.dcs st.glob st.loc e
  ord : st.events.Pairwise Before
  rq  : ∀ r, st.req = some r → ReqInv st r

theorem ReqInv.phase {st : St} {r : Req} {p : Phase} (h : ReqInv st r) (hp : r.phase = p) : PhaseInv st r p :=
  hp ▸ h.ph

theorem PhaseInv.of_eq {st : St} {r : Req} {p : Phase} (hp : r.phase = p) (h : PhaseInv st r p) :
    PhaseInv st r r.phase :=
  hp ▸ h

/-! Memories and the clock only move forward, and everything the invariant says about them is an upper bound on
something older: moving them preserves it. -/

theorem PhaseInv.forward {st : St} {r : Req} {p : Phase} (h : PhaseInv st r p) {g' : TS} {loc' : Nat → TS} {c' : Nat}
    (hl : ∀ d, tsLe (st.loc d) (loc' d)) (hg : tsLe st.glob g') :
    PhaseInv { st with glob := g', loc := loc', clock := c' } r p := by
  cases p with
  | check => exact ⟨h.1, h.2.1, fun d hd hv => (h.2.2 d hd hv).imp_left (And.imp_left (tsLe_trans · (hl d)))⟩
  | write => exact ⟨h.1, fun d hd hv => tsLe_trans (h.2 d hd hv) (hl d)⟩
  | ret => exact ⟨fun d hd => ⟨(h.1 d hd).1, tsLe_trans (h.1 d hd).2 (hl d)⟩, tsLe_trans h.2 hg⟩

theorem Inv.forward {st : St} (h : Inv st) {g' : TS} {loc' : Nat → TS} {c' : Nat}
    (hl : ∀ d, tsLe (st.loc d) (loc' d)) (hg : tsLe st.glob g') (hc : st.clock ≤ c') :
    Inv { st with glob := g', loc := loc', clock := c' } :=
  { h with
    ev := fun e he =>
      have k := h.ev e he
      { k with time := ⟨Nat.le_trans k.time.1 hc, k.time.2⟩
               leLoc := fun h0 => tsLe_trans (k.leLoc h0) (hl _)
               leGlob := fun h0 => ⟨tsLe_trans (k.leGlob h0).1 hg, fun d hd => tsLe_trans ((k.leGlob h0).2 d hd) (hl d)⟩ }
    rq := fun r hr =>
      have hq := h.rq r hr
      { hq with startLe := Nat.le_trans hq.startLe hc
                befLe := fun d => tsLe_trans (hq.befLe d) (hl d)
                ph := hq.ph.forward hl hg } }

theorem Inv.moveLoc {st : St} (h : Inv st) {loc' : Nat → TS} (hl : ∀ d, tsLe (st.loc d) (loc' d)) :
    Inv { st with loc := loc' } :=
  h.forward hl (tsLe_refl _) (Nat.le_refl _)

theorem Inv.moveGlob {st : St} (h : Inv st) {g' : TS} (hg : tsLe st.glob g') : Inv { st with glob := g' } :=
  h.forward (fun _ => tsLe_refl _) hg (Nat.le_refl _)

theorem inv_tick (st : St) (h : Inv st) : Inv (tick st) :=
  h.forward (fun _ => tsLe_refl _) (tsLe_refl _) (Nat.le_succ _)

theorem Inv.setReq {st : St} (h : Inv st) (q : Option Req) (hq : ∀ r, q = some r → ReqInv st r) :
    Inv { st with req := q } :=
  { h with rq := fun r hr => have hq := hq r hr; { hq with } }

theorem Inv.withReq {st : St} (h : Inv st) {r : Req} (hq : ReqInv st r) : Inv { st with req := some r } :=
  h.setReq _ fun _ e => Option.some.inj e ▸ hq

theorem and_of_not_or_not {a b : Prop} [Decidable a] [Decidable b] (h : ¬(¬a ∨ ¬b)) : a ∧ b :=
  ⟨Decidable.of_not_not fun ha => h (Or.inl ha), Decidable.of_not_not fun hb => h (Or.inr hb)⟩

/- `req_elim` takes `P` explicitly, and in this file `ite_ind` is called with `(P := …)`, so that the conclusion is unified with the
   goal (which fixes the condition and the branches) before the arguments are elaborated.  `req_elim` is the shape of every step of a
   global request: nothing without a request in flight, nothing unless the guard holds.  It is stated for
   `Option Req` because its `match` then is the very matcher `step` uses: the unifier compares matchers by name,
   not by unfolding. -/
theorem req_elim {β : Type} (P : β → Prop) {o : Option Req} {c : Req → Prop} [∀ r, Decidable (c r)] {t : β} {g : Req → β}
    (h0 : P t) (h1 : ∀ r, o = some r → ¬c r → P (g r)) :
    P (match (generalizing := false) o with | none => t | some r => if c r then t else g r) := by
  cases o with
  | none => exact h0
  | some r => exact ite_ind (P := P) (fun _ => h0) (h1 r rfl)

/-- What a step guarantees of the state after the tick and the state it returns; `step_ok` proves it by the one
    case analysis of `step`.  `inv` asks that every logged grant has finished strictly before now, which is what
    the tick provides. -/
structure StepOk (st st' : St) : Prop where
  bits : st'.bits = st.bits
  inv  : Inv st → (∀ e ∈ st.events, e.finish < st.clock) → Inv st'

theorem step_ok (st0 : St) (op : Op) : StepOk (tick st0) (step st0 op) := by
  unfold step
  -- `step` is its body at the ticked state; from here on that state is a variable
  generalize tick st0 = st
  have idle : StepOk st st := ⟨rfl, fun h _ => h⟩
  -- a round that starts with every server still to be visited has visited no dc
  have unvisited {p : Nat → Prop} (h : Inv st) : ∀ d ∈ st.dcs, st.srvOf d ∉ st.servers → p d :=
    fun d hd hv => absurd (h.srv_mem d hd) hv
  cases op with
  | localGrant d c =>
    refine ite_ind (P := StepOk st) (fun _ => idle) fun hg => ⟨rfl, fun h hclk => ?_⟩
    have hd : d ∈ st.dcs := Decidable.of_not_not fun hd => hg (Or.inr hd)
    have hd0 : d ≠ 0 := h.dc_pos d hd
    have hgt : tsLt (st.loc d) ((st.loc d).1, (st.loc d).2 + c) :=
      tsLt_add (Nat.pos_of_ne_zero fun hc => hg (Or.inl hc))
    have h1 := h.moveLoc (tsLe_update (tsLe_of_lt hgt))
    exact { h1 with
      ev := List.forall_mem_cons.2 ⟨⟨⟨Nat.le_refl _, Nat.le_refl _⟩, Or.inr hd, fun _ => tsLe_of_eq (if_pos rfl).symm,
        fun h0 => absurd h0 hd0⟩, h1.ev⟩
      -- the grant is taken from a memory that is at or above every global timestamp returned so far
      ord := List.pairwise_cons.2 ⟨fun o ho => ⟨hclk o ho, fun h0 => absurd h0 hd0,
        fun _ ho0 => tsLt_of_le_of_lt (((h.ev o ho).leGlob ho0).2 d hd) hgt⟩, h.ord⟩
      rq := fun r hr =>
        have hq := h1.rq r hr
        { hq with glt := List.forall_mem_cons.2 ⟨fun h0 => absurd h0 hd0, hq.glt⟩
                  -- the request in flight began no later than now
                  bef := List.forall_mem_cons.2 ⟨fun _ hlt => absurd hq.startLe (Nat.not_le_of_lt hlt), hq.bef⟩ } }
  | localAdvance d t =>
    exact ite_ind (P := StepOk st) (fun hlt => ⟨rfl, fun h _ => h.moveLoc (tsLe_update (tsLe_of_lt hlt))⟩) fun _ => idle
  | globalAdvance t =>
    exact ite_ind (P := StepOk st) (fun hlt => ⟨rfl, fun h _ => h.moveGlob (tsLe_of_lt hlt)⟩) fun _ => idle
  | gStart c δ =>
    -- the matches of `gStart` (`some` first) and `dcJoin` (two discriminants) are of another shape than `req_elim`
    dsimp only
    split
    · exact idle
    · refine ite_ind (P := StepOk st) (fun _ => idle) fun hc => ⟨rfl, fun h _ => ?_⟩
      have hgt : tsLt st.glob (st.glob.1, st.glob.2 + c) := tsLt_add (Nat.pos_of_ne_zero hc)
      have hge : tsLe (st.glob.1, st.glob.2 + c) (st.glob.1 + δ, st.glob.2 + c) :=
        (Nat.eq_zero_or_pos δ).elim (fun h0 => h0 ▸ tsLe_refl _) fun hδ => Or.inl (Nat.lt_add_of_pos_right hδ)
      exact (h.moveGlob (tsLe_of_lt hgt)).withReq {
        cpos := Nat.pos_of_ne_zero hc
        glt := fun e he h0 => tsLt_of_le_of_lt ((h.ev e he).leGlob h0).1 (tsLt_of_lt_of_le hgt hge)
        startLe := Nat.le_refl _
        bef := fun l hl hl0 _ => (h.ev l hl).leLoc hl0
        befLe := fun _ => tsLe_refl _
        ph := ⟨tsLe_refl _, tsLe_refl _, unvisited h⟩ }
  | gCheck s =>
    refine req_elim (StepOk st) idle fun r hr hg => ?_
    have hp := (and_of_not_or_not hg).1
    cases hm : maxLocal st s with
    | none =>
      refine ⟨rfl, fun h _ => ?_⟩
      have hq := h.rq r hr
      have hc := hq.phase hp
      -- the server leads no dc: no dc leaves the set of those still to be visited
      exact h.withReq { hq with ph := .of_eq hp ⟨hc.1, hc.2.1,
        visited_ind (fun d hd hds => absurd hds (maxLocal_none hm d hd)) hc.2.2⟩ }
    | some m =>
      have hub := maxLocal_some hm
      refine ite_ind (P := StepOk st) (fun hle => ⟨rfl, fun h _ => ?_⟩) fun hle => ⟨rfl, fun h _ => ?_⟩
      · have hq := h.rq r hr
        have hc := hq.phase hp
        generalize hans : (if m = r.est then (m.1, m.2 + 1) else m) = ans
        have hans : tsLt r.est ans ∧ tsLe m ans :=
          hans ▸ ite_ind (P := fun a => tsLt r.est a ∧ tsLe m a)
            (fun heq => heq ▸ ⟨tsLt_add Nat.one_pos, tsLe_of_lt (tsLt_add Nat.one_pos)⟩)
            fun hne => ⟨tsLt_of_le_of_ne hle (Ne.symm hne), tsLe_refl _⟩
        have hbest := tsLt_of_lt_of_le hans.1 (tsMax_ge_right r.best _)
        exact h.withReq { hq with ph := .of_eq hp ⟨hc.1, tsLe_of_lt hbest, visited_ind
          (fun d hd hds => Or.inr ⟨hbest, tsLe_trans (hq.befLe d) (tsLe_trans (hub d hd hds)
            (tsLe_trans hans.2 (tsMax_ge_right _ _)))⟩)
          fun d hd hv => (hc.2.2 d hd hv).imp_right fun h3 => ⟨hbest, tsLe_trans h3.2 (tsMax_ge_left _ _)⟩⟩ }
      · have hlt : tsLt m r.est := tsLt_of_not_le hle
        have h1 := h.moveLoc (loc' := fun i => if i ∈ st.dcs ∧ st.srvOf i = s then r.est else st.loc i)
          fun i => tsLe_ite fun hi => tsLe_of_lt (tsLt_of_le_of_lt (hub i hi.1 hi.2) hlt)
        have hq := h1.rq r hr
        have hc := hq.phase hp
        exact h1.withReq { hq with ph := .of_eq hp ⟨hc.1, hc.2.1, visited_ind
          (fun d hd hds => Or.inl ⟨tsLe_of_eq (if_pos ⟨hd, hds⟩).symm,
            tsLt_of_le_of_lt (tsLe_trans ((h.rq r hr).befLe d) (hub d hd hds)) hlt⟩)
          hc.2.2⟩ }
  | gRepeat =>
    refine req_elim (StepOk st) idle fun r hr hg => ⟨rfl, fun h _ => ?_⟩
    have hq := h.rq r hr
    refine h.withReq ?_
    cases hph : r.phase with
    | check =>
      have hc := hq.phase hph
      exact { hq with glt := fun e he h0 => tsLt_of_lt_of_le (hq.glt e he h0) hc.2.1
                      ph := ⟨tsLe_trans hc.1 hc.2.1, tsLe_refl _, unvisited h⟩ }
    | write => exact { hq with ph := ⟨(hq.phase hph).1, unvisited h⟩ }
    | ret => exact absurd (Or.inl hph) hg
  | gCollect =>
    refine req_elim (StepOk st) idle fun r hr hg => ?_
    obtain ⟨hp, he⟩ := and_of_not_or_not hg
    refine ite_ind (P := StepOk st) (fun _ => ⟨rfl, fun h _ => ?_⟩) fun hlt => ⟨rfl, fun h _ => ?_⟩
    · have hq := h.rq r hr
      have hc := hq.phase hp
      have hb := bump_gt st.maxLog st.bits r.best r.count hq.cpos
      have hup := tsLe_trans hc.2.1 (tsLe_of_lt hb)
      refine h.withReq
        { hq with glt := fun e he h0 => tsLt_of_lt_of_le (hq.glt e he h0) hup, ph := ⟨fun d hd => ?_, unvisited h⟩ }
      exact (hc.2.2 d hd (he ▸ List.not_mem_nil)).elim (fun h2 => tsLt_of_lt_of_le h2.2 hup)
        fun h3 => tsLt_of_le_of_lt h3.2 hb
    · have hq := h.rq r hr
      have hc := hq.phase hp
      -- nothing above the original estimate came back, so no server answered: each of them wrote the estimate
      have hall : ∀ d ∈ st.dcs, tsLe r.est (st.loc d) ∧ tsLt (r.before d) r.est := fun d hd =>
        (hc.2.2 d hd (he ▸ List.not_mem_nil)).resolve_right fun h3 => hlt (tsLt_of_le_of_lt hc.1 h3.1)
      exact h.withReq { hq with ph := ⟨fun d hd => (hall d hd).2, fun d hd _ => (hall d hd).1⟩ }
  | gWrite s =>
    refine req_elim (StepOk st) idle fun r hr hg => ⟨rfl, fun h _ => ?_⟩
    have hp := (and_of_not_or_not hg).1
    have h1 := h.moveLoc (loc' := fun i => if i ∈ st.dcs ∧ st.srvOf i = s then tsMax (st.loc i) r.est else st.loc i)
      fun i => tsLe_ite fun _ => tsMax_ge_left _ _
    have hq := h1.rq r hr
    have hw := hq.phase hp
    exact h1.withReq { hq with ph := .of_eq hp ⟨hw.1, visited_ind
      (fun d hd hds => tsLe_trans (tsMax_ge_right _ _) (tsLe_of_eq (if_pos ⟨hd, hds⟩).symm)) hw.2⟩ }
  | gPersist =>
    refine req_elim (StepOk st) idle fun r hr hg => ⟨rfl, fun h _ => ?_⟩
    obtain ⟨hp, he⟩ := and_of_not_or_not hg
    have h1 := h.moveGlob (tsMax_ge_left st.glob r.est)
    have hq := h1.rq r hr
    have hw := hq.phase hp
    exact h1.withReq
      { hq with ph := ⟨fun d hd => ⟨hw.1 d hd, hw.2 d hd (he ▸ List.not_mem_nil)⟩, tsMax_ge_right _ _⟩ }
  | gReturn =>
    refine req_elim (StepOk st) idle fun r hr hg => ⟨rfl, fun h hclk => ?_⟩
    have hq := h.rq r hr
    have hrt := hq.phase (Decidable.of_not_not hg)
    exact { h with
      ev := List.forall_mem_cons.2 ⟨⟨⟨Nat.le_refl _, hq.startLe⟩, Or.inl rfl, fun h0 => absurd rfl h0,
        fun _ => ⟨hrt.2, fun d hd => (hrt.1 d hd).2⟩⟩, h.ev⟩
      ord := List.pairwise_cons.2 ⟨fun o ho => ⟨hclk o ho, fun _ hcase => hcase.elim (hq.glt o ho) fun hfin =>
          -- a local grant that had finished when the request began is at most the memory recorded then
          (h.ev o ho).known.elim (hq.glt o ho) fun hd =>
            tsLt_of_le_of_lt (hq.bef o ho (h.dc_pos _ hd) hfin) (hrt.1 _ hd).1,
        fun h0 => absurd rfl h0⟩, h.ord⟩
      rq := nofun }
  | gAbort => exact ⟨rfl, fun h _ => h.setReq none nofun⟩
  | dcJoin d s =>
    dsimp only
    split
    · next m hn hm =>
      refine ite_ind (P := StepOk st) (fun _ => idle) fun hg => ⟨rfl, fun h _ => ?_⟩
      have hmax := maxAll_some hm
      obtain ⟨d1, hd1⟩ := List.exists_mem_of_ne_nil st.dcs fun hnil =>
        nomatch (show maxAll st = none by rw [maxAll, hnil]; rfl).symm.trans hm
      have h1 := h.moveLoc (tsLe_update (tsMax_ge_left (st.loc d) m))
      exact { h1 with
        srv_mem := fun x hx => ite_ind (P := (· ∈ st.servers))
          (fun _ => Decidable.of_not_not fun hs => hg (Or.inr (Or.inr hs))) fun hne =>
          h.srv_mem x ((List.mem_cons.1 hx).resolve_left hne)
        dc_pos := List.forall_mem_cons.2 ⟨fun hd0 => hg (Or.inl hd0), h.dc_pos⟩
        ev := fun e he =>
          have k := h1.ev e he
          { k with known := k.known.imp_right (List.mem_cons_of_mem _)
                   -- the newcomer starts at or above the largest local memory, which is above every global timestamp
                   leGlob := fun h0 => ⟨(k.leGlob h0).1, List.forall_mem_cons.2 ⟨tsLe_trans (tsLe_trans
                     (((h.ev e he).leGlob h0).2 d1 hd1) (hmax d1 hd1))
                     (tsLe_trans (tsMax_ge_right _ _) (tsLe_of_eq (if_pos rfl).symm)), (k.leGlob h0).2⟩⟩ }
        rq := fun r hr => nomatch hr.symm.trans hn }
    · exact idle

theorem step_static (st : St) (op : Op) : (step st op).bits = st.bits := (step_ok st op).bits

theorem run_static (st : St) (ops : List Op) : (run st ops).bits = st.bits :=
  foldl_inv (·.bits = st.bits) _ ops st rfl fun t op _ h => (step_static t op).trans h

theorem inv_step (st : St) (h : Inv st) (op : Op) : Inv (step st op) :=
  (step_ok st op).inv (inv_tick st h) fun e he => Nat.lt_succ_of_le (h.ev e he).time.1

theorem inv_run (st : St) (h : Inv st) (ops : List Op) : Inv (run st ops) :=
  foldl_inv Inv _ ops st h fun t op _ ht => inv_step t ht op

theorem inv_of_init (st : St) (hwf : WF st) (he : st.events = []) (hr : st.req = none) : Inv st :=
  have hno {p : Ev → Prop} : ∀ e ∈ st.events, p e := fun e h => nomatch (he ▸ h : e ∈ [])
  ⟨hwf, hno, he ▸ List.Pairwise.nil, fun _ h => nomatch hr.symm.trans h⟩

theorem Inv.before {st : St} (h : Inv st) {x y : Ev} (hx : x ∈ st.events) (hy : y ∈ st.events)
    (hlt : x.finish < y.start) : Before y x := by
  have hy' := Nat.lt_of_lt_of_le hlt (h.ev y hy).time.2
  rcases pairwise_mem_cases h.ord hy hx with rfl | hb | hb
  · exact absurd hy' (Nat.lt_irrefl _)
  · exact hb
  · exact absurd (Nat.lt_trans hb.fin hy') (Nat.lt_irrefl _)

end PdModel.TsoGlobal
