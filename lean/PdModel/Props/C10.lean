import PdModel.Lemmas.CheckersSites
/-!
C10 – property theorems.  Quantifiers: every cluster (any number of stores with any state, labels,
space, limits), every region (any peers, roles, leader, down / pending lists), every configuration,
every region fit handed to the rule checker, every pick among equally good candidates and every
answer of the operator builder (all members of the outcome lists).  Well-formedness assumed: store ids
of the cluster view are distinct and the region has at most one peer per store.
-/
namespace PdModel.Checkers
open PdModel.Spec.C10 PdModel.Filters

/-! The extracted tables are the ones the model was written against. -/

/-- rows: leaderSource, regionSource, leaderTarget, regionTarget, scatterRegionTarget -/
def expectedCondTable : List (List Nat) :=
  [[0, 1, 3, 4], [5, 6, 8], [0, 2, 1, 3, 4, 5, 10], [0, 2, 1, 4, 5, 7, 8, 9], [0, 2, 1, 4, 5]]

theorem cond_table_as_expected : PdModel.Generated.Checkers.condTable = expectedCondTable := rfl

theorem constants_as_modelled :
    PdModel.Generated.Checkers.replicaBaseScore = 100 ∧
    PdModel.Generated.Checkers.storeDisconnectNs = 20 * 1000000000 := by decide

/-- filters every site of the two checkers that adds a peer must have in front of the chosen store -/
def requiredAddFilters : List String :=
  ["ExcludedFilter(regionStores)", "StorageThresholdFilter", "SpecialUseFilter",
   "StoreState{AllowTemporaryStates,MoveRegion}", "StoreState{MoveRegion}", "IsolationFilter"]

def addingCreators : List String :=
  ["CreateAddPeerOperator", "CreateMovePeerOperator", "CreateReplaceLeaderPeerOperator", "CreateMoveLeaderOperator"]

/-- every call site in server/schedule/checker that creates an adding operator is guarded by the
    filters `selectStoreToAdd` models, the rule checker's also by the label-constraint filter;
    and the sites are exactly the ones the model covers (a new site breaks this) -/
theorem checker_sites_guarded :
    (PdModel.Generated.Checkers.checkerSites.all (fun cs =>
      !(addingCreators.contains cs.2.1) ||
      (requiredAddFilters.all (cs.2.2.contains ·) &&
       (!(cs.1 == "server/schedule/checker/rule_checker.go:RuleChecker.addRulePeer" ||
          cs.1 == "server/schedule/checker/rule_checker.go:RuleChecker.replaceUnexpectRulePeer" ||
          cs.1 == "server/schedule/checker/rule_checker.go:RuleChecker.fixBetterLocation") ||
        cs.2.2.contains "LabelConstaintFilter")))) = true ∧
    PdModel.Generated.Checkers.checkerSites.map (fun cs => (cs.1, cs.2.1)) =
      [("server/schedule/checker/joint_state_checker.go:JointStateChecker.Check", "CreateLeaveJointStateOperator"),
       ("server/schedule/checker/learner_checker.go:LearnerChecker.Check", "CreatePromoteLearnerOperator"),
       ("server/schedule/checker/merge_checker.go:MergeChecker.Check", "CreateMergeRegionOperator"),
       ("server/schedule/checker/replica_checker.go:ReplicaChecker.checkLocationReplacement", "CreateMovePeerOperator"),
       ("server/schedule/checker/replica_checker.go:ReplicaChecker.checkMakeUpReplica", "CreateAddPeerOperator"),
       ("server/schedule/checker/replica_checker.go:ReplicaChecker.checkRemoveExtraReplica", "CreateRemovePeerOperator"),
       ("server/schedule/checker/replica_checker.go:ReplicaChecker.fixPeer", "CreateRemovePeerOperator"),
       ("server/schedule/checker/replica_checker.go:ReplicaChecker.fixPeer", "CreateMovePeerOperator"),
       ("server/schedule/checker/rule_checker.go:RuleChecker.addRulePeer", "CreateAddPeerOperator"),
       ("server/schedule/checker/rule_checker.go:RuleChecker.fixBetterLocation", "CreateMovePeerOperator"),
       ("server/schedule/checker/rule_checker.go:RuleChecker.fixLooseMatchPeer", "CreatePromoteLearnerOperator"),
       ("server/schedule/checker/rule_checker.go:RuleChecker.fixLooseMatchPeer", "CreateTransferLeaderOperator"),
       ("server/schedule/checker/rule_checker.go:RuleChecker.fixLooseMatchPeer", "CreateTransferLeaderOperator"),
       ("server/schedule/checker/rule_checker.go:RuleChecker.fixOrphanPeers", "CreateRemovePeerOperator"),
       ("server/schedule/checker/rule_checker.go:RuleChecker.fixRange", "CreateSplitRegionOperator"),
       ("server/schedule/checker/rule_checker.go:RuleChecker.replaceUnexpectRulePeer", "CreateReplaceLeaderPeerOperator"),
       ("server/schedule/checker/rule_checker.go:RuleChecker.replaceUnexpectRulePeer", "CreateMovePeerOperator")] :=
  -- A string is a UTF-8 byte array: evaluating `==` encodes both literals and compares them byte by byte,
  -- so the first half is left to the kernel alone; the second is an identity of literals once the table is unfolded.
  ⟨by decide +kernel, rfl⟩

/-- Whatever `SelectStoreToAdd` returns – for every pick among the survivors –
    is a store of the cluster that is up, not down, connected, not busy, within its add limit, snapshot
    and pending-peer limits, not low on space, not a special-use store, holds no peer of the region,
    passes the isolation filter, the extra filters and the rule's label constraints. -/
theorem add_target_good (o : Opts) (stores : List Store) (r : Region) (st : Strategy) (co : List Store)
    (extra : Store → Bool) (s : Store) (h : s ∈ selectStoreToAdd o stores r st co extra) :
    s ∈ stores ∧ AddGood o r s ∧
    (st.labels.isEmpty = false → st.level ≠ "" → isolationTarget st.labels st.level co s = true) ∧
    extra s = true ∧ (∀ cs, st.constraints = some cs → matchConstraints cs s = true) :=
  mem_selectStoreToAdd h

/-- with an explicit choice, index `i` into the list of survivors: the part about the store itself -/
theorem add_target_good_choice (o : Opts) (stores : List Store) (r : Region) (st : Strategy) (co : List Store)
    (i : Nat) (s : Store) (h : (selectStoreToAdd o stores r st co)[i]? = some s) :
    s ∈ stores ∧ AddGood o r s :=
  let g := add_target_good o stores r st co _ s (List.mem_of_getElem? h); ⟨g.1, g.2.1⟩

section replica
variable {o : Opts} {stores : List Store} {r : Region} {jc : Bool}

theorem fixPeer_sound (wf : WF stores r) {storeID : Nat} (status : String) {s : Store} (hs : storeID ∈ r.stores)
    (hf : findStore stores storeID = some s) :
    ∀ out ∈ fixPeer o stores r storeID status, OutSound (replicaInput o stores r) jc out := by
  unfold fixPeer
  exact forall_mem_ite (fun hv => outSound_mayFail (sound_remove (decide_eq_true hv))) fun _ =>
    forall_pickEach outSound_none fun t ht =>
      outSound_mayFail (replace_site (site_replica wf) hs hf ht 0).1

theorem checkDownPeer_sound (wf : WF stores r) :
    ∀ out ∈ checkDownPeer o stores r, OutSound (replicaInput o stores r) jc out := by
  unfold checkDownPeer
  refine forall_mem_ite (fun _ => outSound_nothing) fun _ => ?_
  generalize r.down = l
  induction l with
  | nil => exact outSound_nothing
  | cons a rest ih =>
    simp only [checkDownPeer.go]
    split
    · exact ih
    · next p hp =>
      split
      · exact outSound_nothing
      · next s hs =>
        exact forall_mem_ite (fun _ => ih) fun _ => forall_mem_ite (fun _ => ih) fun _ =>
          fixPeer_sound wf "down" (List.mem_map.2 ⟨p, List.mem_of_find?_eq_some hp, rfl⟩) hs

theorem checkOfflinePeer_sound (wf : WF stores r) :
    ∀ out ∈ checkOfflinePeer o stores r, OutSound (replicaInput o stores r) jc out := by
  unfold checkOfflinePeer
  refine forall_mem_ite (fun _ => outSound_nothing) fun _ => forall_mem_ite (fun _ => outSound_nothing) fun _ => ?_
  suffices h : ∀ l : List Peer, (∀ p ∈ l, p ∈ r.peers) →
      ∀ out ∈ checkOfflinePeer.go o stores r l, OutSound (replicaInput o stores r) jc out from
    h r.peers (fun _ hp => hp)
  intro l
  induction l with
  | nil => exact fun _ => outSound_nothing
  | cons p rest ih =>
    intro hsub
    obtain ⟨hp, hrest⟩ := List.forall_mem_cons.1 hsub
    simp only [checkOfflinePeer.go]
    split
    · exact outSound_nothing
    · next s hs =>
      exact forall_mem_ite (fun _ => ih hrest) fun _ => fixPeer_sound wf "offline" (List.mem_map.2 ⟨p, hp, rfl⟩) hs

theorem checkMakeUp_sound (wf : WF stores r) :
    ∀ out ∈ checkMakeUpReplica o stores r, OutSound (replicaInput o stores r) jc out := by
  unfold checkMakeUpReplica
  exact forall_mem_ite (fun _ => outSound_nothing) fun _ => forall_mem_ite (fun _ => outSound_nothing) fun _ =>
    add_site (site_replica wf)

theorem checkRemoveExtra_sound :
    ∀ out ∈ checkRemoveExtraReplica o stores r, OutSound (replicaInput o stores r) jc out := by
  unfold checkRemoveExtraReplica
  exact forall_mem_ite (fun _ => outSound_nothing) fun _ => forall_mem_ite (fun _ => outSound_nothing) fun hv =>
    forall_pickEach outSound_none fun s _ => outSound_mayFail (sound_remove (decide_eq_true (Nat.not_le.1 hv)))

theorem checkLocation_sound (wf : WF stores r) :
    ∀ out ∈ checkLocationReplacement o stores r, OutSound (replicaInput o stores r) jc out := by
  unfold checkLocationReplacement
  exact forall_mem_ite (fun _ => outSound_nothing) fun _ =>
    improve_site (site_replica wf)

/-- every operator the replica checker can propose is sound (all three clauses; the order clause
    for paired replacements) -/
theorem replicaCheck_sound (wf : WF stores r) :
    ∀ out ∈ replicaCheck o stores r, OutSound (replicaInput o stores r) jc out :=
  forall_orElse (checkDownPeer_sound wf) <| forall_orElse (checkOfflinePeer_sound wf) <|
    forall_orElse (checkMakeUp_sound wf) <| forall_orElse checkRemoveExtra_sound (checkLocation_sound wf)

end replica

/-- the fit only talks about peers of the region (a property of `FitRegion`, C12) -/
def FitWF (r : Region) (fit : Fit) : Prop := ∀ rf ∈ fit.ruleFits, ∀ p ∈ rf.peers, p ∈ r.peers

section rule
variable {o : Opts} {stores : List Store} {r : Region} {fit : Fit} {jc : Bool} {rf : RuleFit}

theorem addRulePeer_sound (wf : WF stores r) (hrf : rf ∈ fit.ruleFits) :
    ∀ out ∈ addRulePeer o stores r rf, OutSound (ruleInput o stores r fit) jc out :=
  add_site (site_rule wf hrf)

theorem replaceUnexpect_sound (wf : WF stores r) (hrf : rf ∈ fit.ruleFits) {p : Peer} (hp : p ∈ rf.peers)
    (hs : ∃ s, findStore stores p.store = some s) (status : String) :
    ∀ out ∈ replaceUnexpectRulePeer o stores r fit rf p status, OutSound (ruleInput o stores r fit) jc out := by
  obtain ⟨s, hs⟩ := hs
  unfold replaceUnexpectRulePeer
  refine forall_pickEach outSound_none fun t ht => ?_
  have hrep := replace_site (jc := jc) (site_rule wf hrf)
    (List.mem_map.2 ⟨p, hp, rfl⟩) hs ht rf.rule.metaRole
  cases newLeaderFor o stores r fit p with
  | none => exact outSound_mayFail hrep.1
  | some l => exact forall_mem_ite (fun _ => outSound_mayFail (hrep.2 _)) fun _ => outSound_mayFail hrep.1

theorem isDownPeer_store {p : Peer} (h : isDownPeer o stores r p = true) : ∃ s, findStore stores p.store = some s := by
  unfold isDownPeer at h
  revert h
  generalize r.down = l
  induction l with
  | nil => exact fun h => nomatch h
  | cons a rest ih =>
    simp only [isDownPeer.go]
    refine ite_ind (P := fun b => b = true → _) (fun _ => ih) fun _ => ?_
    cases findStore stores p.store with
    | none => exact fun h => nomatch h
    | some s => exact fun _ => ⟨s, rfl⟩

theorem isOfflinePeer_store {p : Peer} (h : isOfflinePeer stores p = true) : ∃ s, findStore stores p.store = some s := by
  unfold isOfflinePeer at h
  split at h
  · cases h
  · next s hs => exact ⟨s, hs⟩

theorem fixLoose_sound (p : Peer) : OptSound (ruleInput o stores r fit) jc (fixLooseMatchPeer o stores r fit rf p) := by
  have hn : OptSound (ruleInput o stores r fit) jc (some [none]) := optSound_some outSound_nothing
  have ht : ∀ d s, OptSound (ruleInput o stores r fit) jc (some (mayFail (d, .transfer s))) :=
    fun _ _ => optSound_some (outSound_mayFail sound_transfer)
  unfold fixLooseMatchPeer
  refine ite_ind (fun _ => optSound_some (outSound_mayFail sound_promote)) fun _ =>
    ite_ind (fun _ => ite_ind (fun _ => ite_ind (fun _ => ?_) fun _ => ht _ _) fun _ => hn) fun _ =>
      ite_ind (fun _ => ?_) fun _ => optSound_none
  · exact optSound_some (List.forall_mem_singleton.2 (outSound_some sound_crash))
  · cases r.peers.find? (allowLeader o stores fit) with
    | none => exact hn
    | some q => exact ht _ _

theorem fixBetterLocation_sound (wf : WF stores r) (hrf : rf ∈ fit.ruleFits) :
    ∀ out ∈ fixBetterLocation o stores r rf, OutSound (ruleInput o stores r fit) jc out := by
  unfold fixBetterLocation
  exact forall_mem_ite (fun _ => outSound_nothing) fun _ =>
    improve_site (site_rule wf hrf)

theorem fixRulePeer_sound (wf : WF stores r) (hrf : rf ∈ fit.ruleFits) :
    ∀ out ∈ fixRulePeer o stores r fit rf, OutSound (ruleInput o stores r fit) jc out := by
  have hun : ∀ l : List Peer, (∀ p ∈ l, p ∈ rf.peers) →
      OptSound (ruleInput o stores r fit) jc (fixRulePeer.unexpected o stores r fit rf l) := by
    intro l
    induction l with
    | nil => exact fun _ => optSound_none
    | cons p rest ih =>
      intro hsub
      obtain ⟨hp, hrest⟩ := List.forall_mem_cons.1 hsub
      simp only [fixRulePeer.unexpected]
      exact ite_ind (fun hd => optSound_some (replaceUnexpect_sound wf hrf hp (isDownPeer_store hd) "down")) fun _ =>
        ite_ind (fun ho => optSound_some (replaceUnexpect_sound wf hrf hp (isOfflinePeer_store ho) "offline")) fun _ =>
          ih hrest
  have hlo : ∀ l : List Peer, OptSound (ruleInput o stores r fit) jc (fixRulePeer.loose o stores r fit rf l) := by
    intro l
    induction l with
    | nil => exact optSound_none
    | cons p rest ih =>
      simp only [fixRulePeer.loose]
      cases ho : fixLooseMatchPeer o stores r fit rf p with
      | none => exact ih
      | some outs => exact optSound_some (fixLoose_sound p outs ho)
  unfold fixRulePeer
  refine forall_mem_ite (fun _ => addRulePeer_sound wf hrf) fun _ => ?_
  cases hu : fixRulePeer.unexpected o stores r fit rf rf.peers with
  | some outs => exact hun rf.peers (fun _ h => h) outs hu
  | none =>
    cases hl : fixRulePeer.loose o stores r fit rf rf.diffRole with
    | some outs => exact hlo rf.diffRole outs hl
    | none => exact fixBetterLocation_sound wf hrf

theorem fixOrphan_sound : ∀ out ∈ fixOrphanPeers fit, OutSound (ruleInput o stores r fit) jc out := by
  unfold fixOrphanPeers
  split
  · exact outSound_nothing
  · next p rest hp =>
    exact forall_mem_ite (fun hsat => outSound_mayFail (sound_remove (shrinkAllowed_rule.2
      ⟨hsat, fun s hs => List.mem_singleton.1 hs ▸ hp ▸ List.mem_cons_self ..⟩))) fun _ => outSound_nothing

/-- every operator the placement-rule checker can propose is sound -/
theorem ruleCheck_sound (wf : WF stores r) :
    ∀ out ∈ ruleCheck o stores r fit, OutSound (ruleInput o stores r fit) jc out := by
  unfold ruleCheck
  exact forall_mem_ite (fun _ => outSound_mayFail sound_split) fun _ => forall_orElse fixOrphan_sound <|
    forall_foldr_orElse outSound_none fun _ hrf => fixRulePeer_sound wf hrf

end rule

theorem learnerCheck_sound {x : Input} {jc : Bool} (r : Region) : ∀ out ∈ learnerCheck r, OutSound x jc out := by
  unfold learnerCheck
  generalize r.learners = l
  induction l with
  | nil => exact outSound_nothing
  | cons p rest ih =>
    simp only [learnerCheck.go]
    exact forall_mem_ite (fun _ => ih) fun _ => forall_orElse (outSound_mayFail sound_promote) ih

-- `ruleCheck_sound` holds without `FitWF`, so `fwf` stays unused
set_option linter.unusedVariables false in
/-- what `CheckerController.CheckRegion` proposes is sound as well (both modes) -/
theorem controllerCheck_sound (o : Opts) (stores : List Store) (r : Region) (fit : Fit) (wf : WF stores r)
    (fwf : FitWF r fit) (jc : Bool) :
    (∀ out ∈ controllerCheck o false stores r fit, OutSound (replicaInput o stores r) jc out) ∧
    (∀ out ∈ controllerCheck o true stores r fit, OutSound (ruleInput o stores r fit) jc out) := by
  have hj : ∀ x : Input, ∀ out ∈ (if r.peers.any (·.inJoint) then mayFail ("leave-joint-state", Req.split) else [none]),
      OutSound x jc out :=
    fun x => forall_mem_ite (fun _ => outSound_mayFail sound_split) fun _ => outSound_nothing
  exact ⟨forall_orElse (hj _) (forall_orElse (learnerCheck_sound r) (replicaCheck_sound wf)),
    forall_orElse (hj _) (ruleCheck_sound wf)⟩

/-- Every operator either checker can propose adds peers only on
    stores that are up, not down, connected, not low on space, hold no peer of the region and are
    allowed by the isolation level and label constraints in force (`Spec.C10.goodTarget`). -/
theorem repair_adds_only_good_targets (o : Opts) (stores : List Store) (r : Region) (wf : WF stores r) (jc : Bool) :
    (∀ out ∈ replicaCheck o stores r, ∀ d req, out = some (d, req) →
      ∀ t ∈ addedStores (req.toSteps jc r), goodTarget (replicaInput o stores r) (req.toSteps jc r) t = true) ∧
    (∀ fit, FitWF r fit → ∀ out ∈ ruleCheck o stores r fit, ∀ d req, out = some (d, req) →
      ∀ t ∈ addedStores (req.toSteps jc r), goodTarget (ruleInput o stores r fit) (req.toSteps jc r) t = true) :=
  ⟨fun out ho d req he => (replicaCheck_sound wf out ho d req he).adds,
   fun _ _ out ho d req he => (ruleCheck_sound wf out ho d req he).adds⟩

/-- A proposed operator leaves the region with fewer peers, or fewer
    healthy peers, only when the region has more voters than max-replicas (replica checker) or every
    matched rule is satisfied and the removed peer is an orphan (rule checker). -/
theorem shrink_only_when_allowed (o : Opts) (stores : List Store) (r : Region) (wf : WF stores r) (jc : Bool) :
    (∀ out ∈ replicaCheck o stores r, ∀ d req, out = some (d, req) →
      ((applySteps r (req.toSteps jc r)).peers.length < r.peers.length ∨
       (applySteps r (req.toSteps jc r)).healthy.length < r.healthy.length) →
      r.voters.length > o.conf.maxReplicas) ∧
    (∀ fit, FitWF r fit → ∀ out ∈ ruleCheck o stores r fit, ∀ d req, out = some (d, req) →
      ((applySteps r (req.toSteps jc r)).peers.length < r.peers.length ∨
       (applySteps r (req.toSteps jc r)).healthy.length < r.healthy.length) →
      fit.ruleFits.all (·.satisfied) = true ∧
      ∀ s ∈ removedStores (req.toSteps jc r), s ∈ fit.orphans.map (·.store)) := by
  constructor
  · intro out ho d req he h
    exact of_decide_eq_true ((replicaCheck_sound wf out ho d req he).shrink h)
  · intro _ _ out ho d req he h
    exact shrinkAllowed_rule.1 ((ruleCheck_sound wf out ho d req he).shrink h)

/-- All three clauses of `Spec.C10.Holds`, for every proposed operator
    whose replacement the builder can pair (replaced and new peer both learners or both not) or builds
    with joint consensus.  The excluded class is a genuine defect of the pinned code, see
    `replace_order_counterexample`. -/
theorem C10_holds_partial (o : Opts) (stores : List Store) (r : Region) (wf : WF stores r) (jc : Bool) :
    (∀ out ∈ replicaCheck o stores r, ∀ d req, out = some (d, req) → req.paired jc r = true →
      Holds (replicaInput o stores r) (req.toSteps jc r)) ∧
    (∀ fit, FitWF r fit → ∀ out ∈ ruleCheck o stores r fit, ∀ d req, out = some (d, req) →
      req.paired jc r = true → Holds (ruleInput o stores r fit) (req.toSteps jc r)) :=
  ⟨fun out ho d req he hp =>
      let s := replicaCheck_sound wf out ho d req he; ⟨s.adds, s.shrink, s.order hp⟩,
   fun _ _ out ho d req he hp =>
      let s := ruleCheck_sound wf out ho d req he; ⟨s.adds, s.shrink, s.order hp⟩⟩

/-- In a `Req.move` the new peer is added before the old one is removed whenever joint consensus is in
    use or the two peers are of the same kind. -/
theorem replace_is_add_then_remove_partial (jc : Bool) (r : Region) (o n role : Nat)
    (h : (Req.move o n role).paired jc r = true) :
    (Req.move o n role).toSteps jc r = [.add n role, .remove o] :=
  if_pos h

/-! The defect (finding F19): without joint consensus, a replica-checker replacement of a *learner*
    asks for a *voter* (`newPeer := &metapb.Peer{StoreId: target}`), the builder cannot pair the two
    and emits the removal first.  Witness: stores 1–3 hold the region (3 = learner, worst isolated),
    store 4 is a better place; max-replicas 3, location label `zone`. -/
def f14Store (id : Nat) (zone : String) : Store :=
  { id := id, labels := [("zone", zone)], capacity := 1024, available := 1000 }

def f14Stores : List Store := [f14Store 1 "z1", f14Store 2 "z2", f14Store 3 "z1", f14Store 4 "z3"]

def f14Region : Region :=
  { peers := [{ id := 101, store := 1, role := 0 }, { id := 102, store := 2, role := 0 }, { id := 103, store := 3, role := 1 }], leader := 101 }

def f14Opts : Opts := { conf := { maxReplicas := 3, locationLabels := ["zone"] } }

theorem replace_order_counterexample :
    some ("move-to-better-location", Req.move 3 4 0) ∈ replicaCheck f14Opts f14Stores f14Region ∧
    ¬ Holds (replicaInput f14Opts f14Stores f14Region) ((Req.move 3 4 0).toSteps false f14Region) := by
  -- the removal comes first: after one step two peers are left, fewer than the three at either end
  exact ⟨by decide, fun h => absurd (h.order 1 (by decide)) (by decide)⟩

theorem fresh_selected {o : Opts} {x : Input} (hconf : x.conf = o.conf) {st : Strategy} {co : List Store} {s : Store}
    (hm : s ∈ x.stores) (hfb : freshBest x st.labels co s = true)
    (hiso : isolationDue st.labels st.level co s = true)
    (hcons : ∀ cs, st.constraints = some cs → matchConstraints cs s = true) :
    s ∈ selectStoreToAdd o x.stores x.region st co := by
  simp only [freshBest, hconf, Store.fresh, Bool.and_eq_true, Bool.not_eq_true', beq_iff_eq, List.all_eq_true,
    Store.isUp, Store.notDown, Store.connected, decide_eq_true_eq] at hfb
  obtain ⟨⟨⟨⟨⟨⟨⟨⟨⟨⟨⟨⟨h0, h1⟩, h2⟩, h3⟩, h4⟩, h5⟩, h6⟩, h7⟩, _⟩, h9⟩, h10⟩, hex⟩, hbest⟩ := hfb
  have hstrict := regionTarget_strict_of o s h0 h1 h2 h3 h4 h5 h6 h7
  have hadd : addFilters o x.region st co (fun _ => true) s = true := by
    simp only [addFilters, Bool.and_eq_true]
    refine ⟨⟨⟨⟨⟨⟨?_, ?_⟩, ?_⟩, hstrict true⟩, ?_⟩, trivial⟩, ?_⟩
    · rw [excludedTarget, hex]; rfl
    · rw [storageTarget, h9]; rfl
    · simp [specialUseTarget, specialUseConstraint, Constraint.matches, label_eq_empty h10]
    · refine ite_ind (P := (· = true)) (fun hc => ?_) fun _ => rfl
      simp only [Bool.not_eq_true', bne_iff_ne] at hc
      exact isolationTarget_of_due hiso hc.1 hc.2
    · cases hc : st.constraints with
      | none => rfl
      | some cs => exact hcons cs hc
  have hc1 : s ∈ x.stores.filter (addFilters o x.region st co (fun _ => true)) := List.mem_filter.2 ⟨hm, hadd⟩
  unfold selectStoreToAdd
  simp only [List.mem_filter, beq_iff_eq, maxScore]
  exact ⟨⟨⟨hm, hadd⟩, (foldl_max_eq _ _ 0 (Nat.zero_le _) (fun s' hs' => hbest s' (List.mem_filter.1 hs').1)
    (Or.inr ⟨s, hc1, rfl⟩)).symm⟩, hstrict false⟩

theorem operable_accepts {r : Region} (h : r.operable = true) (x : String × Req) :
    addAccepted r x = [some x] := by
  unfold Region.operable at h
  simp only [Bool.and_eq_true, List.all_eq_true, Bool.not_eq_true', decide_eq_true_eq] at h
  unfold addAccepted
  split
  · next hl => simp [hl] at h
  · next l hl =>
    simp only [hl, beq_iff_eq] at h
    have : r.peers.any (·.inJoint) = false := by
      simp only [List.any_eq_false]
      intro p hp; simp [h.1.2 p hp]
    simp [this, h.1.1, h.2]

theorem allSome_addAccepted {r : Region} (h : r.operable = true) (x : String × Req) :
    ∀ out ∈ addAccepted r x, out.isSome = true := by
  rw [operable_accepts h]; exact List.forall_mem_singleton.2 rfl

/-- If the region can be operated on, has fewer peers than required (with make-up-replica enabled, for
    the replica checker) and a fresh, empty up store exists that the placement demands allow and no store
    outranks in isolation, then every run of the checker proposes an operator – whatever is picked along
    the way. -/
theorem repair_liveness (o : Opts) (stores : List Store) (r : Region) :
    (repairDue (replicaInput o stores r) = true → ∀ out ∈ replicaCheck o stores r, out.isSome = true) ∧
    (∀ fit, repairDue (ruleInput o stores r fit) = true → ∀ out ∈ ruleCheck o stores r fit, out.isSome = true) := by
  constructor
  · intro h
    simp only [repairDue, replicaInput, Bool.and_eq_true, List.any_eq_true, coStores_nil] at h
    obtain ⟨hop, ⟨hmk, hlt⟩, s, hs, hfb, hiso⟩ := h
    have hsel := fresh_selected (x := replicaInput o stores r) (st := replicaStrategy o) rfl hs hfb hiso (fun _ hc => nomatch hc)
    unfold replicaCheck
    refine allSome_orElse_right (allSome_orElse_right (allSome_orElse_left ?_))
    unfold checkMakeUpReplica
    simp only [hmk, Bool.not_true, Bool.false_eq_true, if_false, ge_iff_le, Nat.not_le.2 (of_decide_eq_true hlt)]
    exact allSome_pickEach (List.ne_nil_of_mem hsel) fun _ _ => allSome_addAccepted hop _
  · intro fit h
    simp only [repairDue, ruleInput, Bool.and_eq_true, decide_eq_true_eq, List.any_eq_true, List.mem_map,
      coStores_nil] at h
    obtain ⟨hop, rv, ⟨rf, hrf, rfl⟩, hlt, s, hs, ⟨hfb, hcons⟩, hiso⟩ := h
    have hsel := fresh_selected (x := ruleInput o stores r fit) (st := ruleStrategy rf.rule) rfl hs hfb hiso
      (fun _ hc => Option.some.inj hc ▸ hcons)
    unfold ruleCheck
    rw [if_neg (by simp [List.ne_nil_of_mem hrf])]
    refine allSome_orElse_right (allSome_foldr_orElse hrf ?_)
    unfold fixRulePeer addRulePeer
    rw [if_pos (by simpa [RuleFit.view] using hlt)]
    exact allSome_pickEach (List.ne_nil_of_mem hsel) fun _ _ => allSome_addAccepted hop _

/-- non-vacuity: a cluster on which the replica checker has something to do -/
example : replicaCheck f14Opts f14Stores { f14Region with peers := [{ id := 101, store := 1, role := 0 }, { id := 102, store := 2, role := 0 }] }
    = [some ("make-up-replica", Req.add 4 0)] := by decide

end PdModel.Checkers
