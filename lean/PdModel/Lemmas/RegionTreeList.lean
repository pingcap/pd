import PdModel.Model.RegionTree
import PdModel.Spec.C07
import PdModel.Prelude.ListFacts
/-!
Ordered lists of region items: the facts about `descendLE`, `ascendGE`, `find`, `overlapsOf`, … that hold when
the list is ascending in start keys / pairwise non-overlapping.  Generic in the item type `α` and the
accessor `acc : α → Region`, so the same lemmas serve item refs (model) and plain regions (spec).
-/
namespace PdModel.RegionTree
open PdModel.Spec.C07 (WFRange WF Overlap)

@[grind =] theorem Key.lt_nil (a : Key) : (a < []) = False := by simp
@[grind =] theorem Key.nil_le (a : Key) : (([] : Key) ≤ a) = True := by simp
@[grind =] theorem Key.nil_lt (a : Key) : (([] : Key) < a) = (a ≠ []) := by cases a <;> simp
@[grind =] theorem Key.le_nil (a : Key) : (a ≤ []) = (a = []) := by cases a <;> simp

theorem Key.lt_or_gt_of_ne {a b : Key} (h : a ≠ b) : a < b ∨ b < a := by grind

section
variable {α : Type} (acc : α → Region)

def Before (x y : Region) : Prop := x.endKey ≠ [] ∧ x.endKey ≤ y.startKey

def Asc (l : List α) : Prop := l.Pairwise (fun a b => (acc a).startKey < (acc b).startKey)

/-- real key ranges, pairwise disjoint, in key order -/
def Ordered (l : List α) : Prop :=
  l.Pairwise (fun a b => Before (acc a) (acc b)) ∧ ∀ a ∈ l, WFRange (acc a)

theorem before_lt {x y : Region} (hx : WFRange x) (h : Before x y) : x.startKey < y.startKey :=
  Std.lt_of_lt_of_le (hx.resolve_left h.1) h.2

theorem before_not_overlap {x y : Region} (h : Before x y) : ¬ Overlap x y ∧ ¬ Overlap y x := by
  unfold Before Overlap at *; grind

theorem before_or_of_not_overlap {x y : Region} (h : ¬ Overlap x y) : Before x y ∨ Before y x := by
  unfold Before Overlap at *; grind

theorem startKey_ne_of_not_overlap {x y : Region} (hx : WFRange x) (hy : WFRange y) (h : ¬ Overlap x y) :
    x.startKey ≠ y.startKey := fun e =>
  (before_or_of_not_overlap h).elim (fun hb => List.lt_irrefl _ (e ▸ before_lt hx hb))
    (fun hb => List.lt_irrefl _ (e ▸ before_lt hy hb))

theorem contains_start {r : Region} (h : WFRange r) : Contains r r.startKey := by
  unfold Contains WFRange at *; grind

/-! The order reasoning about two ranges of a disjoint family, once for each read of the tree; `htri` is what
`Ordered.tri_acc` gives. -/

theorem start_le_of_contains {a b : Region} (hb : WFRange b) {k : Key} (hc : Contains a k) (hbk : b.startKey ≤ k)
    (htri : a = b ∨ Before a b ∨ Before b a) : b.startKey ≤ a.startKey := by
  unfold Before Contains WFRange at *; grind

theorem start_le_of_lt_end {a b : Region} (hb : WFRange b) (hbk : b.startKey < a.endKey)
    (htri : a = b ∨ Before a b ∨ Before b a) : b.startKey ≤ a.startKey := by
  unfold Before WFRange at *; grind

theorem not_start_lt_of_lt_end {q b : Region} (hb : WFRange b) (hlt : b.startKey < q.endKey)
    (htri : q = b ∨ Before q b ∨ Before b q) : ¬ q.startKey < b.startKey := by
  unfold Before WFRange at *; grind

/-- getOverlaps scans from the range `c` containing the start key until the end key is passed -/
theorem overlap_iff_scanned {a c r : Region} (ha : WFRange a) (hc : WFRange c) (hcc : Contains c r.startKey)
    (htri : a = c ∨ Before a c ∨ Before c a) :
    (¬ (r.endKey ≠ [] ∧ r.endKey ≤ a.startKey) ∧ c.startKey ≤ a.startKey) ↔ Overlap a r := by
  unfold Before Contains WFRange Overlap at *; grind

/-- … or from the start key itself when no range contains it -/
theorem overlap_iff_scanned_none {a r : Region} (ha : WFRange a) (hn : ¬ Contains a r.startKey) :
    (¬ (r.endKey ≠ [] ∧ r.endKey ≤ a.startKey) ∧ r.startKey ≤ a.startKey) ↔ Overlap a r := by
  unfold Contains WFRange Overlap at *; grind

theorem pairwise_split {β : Type} {R : β → β → Prop} {l : List β} (h : l.Pairwise R) {a : β} (ha : a ∈ l) :
    ∃ l1 l2, l = l1 ++ a :: l2 ∧ (∀ b ∈ l1, R b a) ∧ (∀ b ∈ l2, R a b) := by
  obtain ⟨l1, l2, rfl⟩ := List.append_of_mem ha
  have := List.pairwise_append.1 h
  exact ⟨l1, l2, rfl, fun b hb => this.2.2 b hb a List.mem_cons_self, (List.pairwise_cons.1 this.2.1).1⟩

theorem filter_comm {β : Type} (p q : β → Bool) (l : List β) : (l.filter p).filter q = (l.filter q).filter p := by
  rw [List.filter_filter, List.filter_filter]
  exact List.filter_congr fun a _ => Bool.and_comm _ _

theorem filter_notMem_nil {β : Type} [DecidableEq β] (l : List β) :
    l.filter (fun a => decide (a ∉ ([] : List β))) = l :=
  List.filter_eq_self.2 (by simp)

theorem filter_ne_filter_notMem {β : Type} [DecidableEq β] (l : List β) (x : β) (rest : List β) :
    (l.filter (fun a => decide (a ≠ x))).filter (fun a => decide (a ∉ rest)) =
      l.filter (fun a => decide (a ∉ x :: rest)) := by
  rw [List.filter_filter]
  apply List.filter_congr; intro a _; simp [not_or, Bool.and_comm]

theorem mem_filter_ne {β : Type} [DecidableEq β] {l : List β} {x a : β} :
    a ∈ l.filter (fun a => decide (a ≠ x)) ↔ a ∈ l ∧ a ≠ x := by
  simp [List.mem_filter]

theorem mem_cons_filter_ne {β : Type} [DecidableEq β] {l : List β} {x : β} (hx : x ∈ l) (a : β) :
    a ∈ x :: l.filter (fun a => decide (a ≠ x)) ↔ a ∈ l := by
  rw [List.mem_cons, mem_filter_ne]
  exact ⟨fun ha => ha.elim (fun e => e ▸ hx) (·.1), fun ha => (Decidable.em (a = x)).imp_right fun e => ⟨ha, e⟩⟩

theorem find?_eq_some_of_unique {β : Type} {l : List β} {p : β → Bool} {b : β} (hb : b ∈ l) (hp : p b = true)
    (hu : ∀ c ∈ l, p c = true → c = b) : l.find? p = some b := by
  cases h : l.find? p with
  | none => exact absurd hp (List.find?_eq_none.1 h b hb)
  | some c => rw [hu c (List.mem_of_find?_eq_some h) (List.find?_some h)]

/-- an answer characterised as "the member that passes `p`" is `find? p` (the characterisation makes it unique) -/
theorem find?_eq_of_iff {β : Type} {l : List β} {p : β → Bool} {o : Option β}
    (h : ∀ a, o = some a ↔ a ∈ l ∧ p a = true) : l.find? p = o := by
  cases o with
  | none => exact List.find?_eq_none.2 fun a ha hp => nomatch (h a).2 ⟨ha, hp⟩
  | some a =>
    exact find?_eq_some_of_unique ((h a).1 rfl).1 ((h a).1 rfl).2 fun c hc hp =>
      (Option.some.inj ((h c).2 ⟨hc, hp⟩)).symm

theorem find?_map_of_iff {α β : Type} {l : List α} {f : α → β} {p : β → Bool} {o : Option α}
    (h : ∀ a, o = some a ↔ a ∈ l ∧ p (f a) = true) : (l.map f).find? p = o.map f := by
  rw [List.find?_map, find?_eq_of_iff (p := p ∘ f) h]

theorem Ordered.asc {l : List α} (h : Ordered acc l) : Asc acc l :=
  List.Pairwise.imp_of_mem (fun ha _ hab => before_lt (h.2 _ ha) hab) h.1

theorem Asc.sublist {l l' : List α} (h : Asc acc l) (hs : l'.Sublist l) : Asc acc l' :=
  List.Pairwise.sublist hs h

theorem Asc.filter {l : List α} (h : Asc acc l) (p : α → Bool) : Asc acc (l.filter p) :=
  h.sublist acc List.filter_sublist

theorem Ordered.sublist {l l' : List α} (h : Ordered acc l) (hs : l'.Sublist l) : Ordered acc l' :=
  ⟨List.Pairwise.sublist hs h.1, fun a ha => h.2 a (hs.subset ha)⟩

theorem Ordered.filter {l : List α} (h : Ordered acc l) (p : α → Bool) : Ordered acc (l.filter p) :=
  h.sublist acc List.filter_sublist

theorem Asc.nodup {l : List α} (h : Asc acc l) : l.Nodup := by
  refine List.Pairwise.imp ?_ h
  intro a b hab heq
  exact List.lt_irrefl _ (heq ▸ hab)

theorem Ordered.tri {l : List α} (h : Ordered acc l) {a b : α} (ha : a ∈ l) (hb : b ∈ l) :
    a = b ∨ Before (acc a) (acc b) ∨ Before (acc b) (acc a) :=
  pairwise_mem_cases h.1 ha hb

theorem Ordered.tri_acc {l : List α} (h : Ordered acc l) {a b : α} (ha : a ∈ l) (hb : b ∈ l) :
    acc a = acc b ∨ Before (acc a) (acc b) ∨ Before (acc b) (acc a) :=
  (h.tri acc ha hb).imp_left (congrArg acc)

theorem Ordered.not_overlap {l : List α} (h : Ordered acc l) {a b : α} (ha : a ∈ l) (hb : b ∈ l) (hne : a ≠ b) :
    ¬ Overlap (acc a) (acc b) := by
  rcases h.tri acc ha hb with e | hb | hb
  · exact absurd e hne
  · exact (before_not_overlap hb).1
  · exact (before_not_overlap hb).2

theorem Asc.eq_of_key {l : List α} (h : Asc acc l) {a b : α} (ha : a ∈ l) (hb : b ∈ l)
    (hk : (acc a).startKey = (acc b).startKey) : a = b :=
  (pairwise_mem_cases h ha hb).elim id fun h => h.elim (fun h => absurd (hk ▸ h) (List.lt_irrefl _))
    (fun h => absurd (hk ▸ h) (List.lt_irrefl _))

theorem Asc.ext {l1 l2 : List α} (h1 : Asc acc l1) (h2 : Asc acc l2) (hm : ∀ a, a ∈ l1 ↔ a ∈ l2) : l1 = l2 :=
  ((List.perm_ext_iff_of_nodup (h1.nodup acc) (h2.nodup acc)).2 hm).eq_of_pairwise
    (fun _ _ _ _ hab hba => absurd hba (List.lt_asymm hab)) h1 h2

theorem getLast?_filter_eq_some {l : List α} (h : Asc acc l) (p : α → Bool) {a : α} :
    (l.filter p).getLast? = some a ↔
      a ∈ l ∧ p a = true ∧ ∀ b ∈ l, p b = true → (acc b).startKey ≤ (acc a).startKey := by
  constructor
  · intro hl
    obtain ⟨ys, hys⟩ := List.getLast?_eq_some_iff.1 hl
    have hmem : a ∈ l.filter p := hys ▸ List.mem_append_right _ List.mem_cons_self
    refine ⟨(List.mem_filter.1 hmem).1, (List.mem_filter.1 hmem).2, fun b hb hpb => ?_⟩
    rcases List.mem_append.1 (hys ▸ List.mem_filter.2 ⟨hb, hpb⟩) with hb' | hb'
    · exact List.le_of_lt ((List.pairwise_append.1 (hys ▸ h.filter acc p)).2.2 b hb' a List.mem_cons_self)
    · rw [List.mem_singleton.1 hb']; exact List.le_refl _
  · rintro ⟨ha, hpa, hmax⟩
    obtain ⟨l1, l2, rfl, h1, h2⟩ := pairwise_split h ha
    have hnil : l2.filter p = [] := List.filter_eq_nil_iff.2 fun b hb hpb =>
      List.not_lt.2 (hmax b (List.mem_append_right _ (List.mem_cons_of_mem _ hb)) hpb) (h2 b hb)
    simp [List.filter_append, hpa, hnil]

theorem getLast?_filter_eq_none {l : List α} (p : α → Bool) :
    (l.filter p).getLast? = none ↔ ∀ b ∈ l, p b = false := by
  rw [List.getLast?_eq_none_iff, List.filter_eq_nil_iff]
  simp

theorem descendLE_eq_some {l : List α} (h : Asc acc l) {k : Key} {a : α} :
    descendLE acc l k = some a ↔
      a ∈ l ∧ (acc a).startKey ≤ k ∧ ∀ b ∈ l, (acc b).startKey ≤ k → (acc b).startKey ≤ (acc a).startKey := by
  unfold descendLE
  rw [getLast?_filter_eq_some acc h]
  simp

theorem descendLE_eq_none {l : List α} {k : Key} :
    descendLE acc l k = none ↔ ∀ b ∈ l, ¬ (acc b).startKey ≤ k := by
  unfold descendLE
  rw [getLast?_filter_eq_none]
  simp

theorem find_sound {l : List α} {k : Key} {a : α} (hf : find acc l k = some a) : a ∈ l ∧ Contains (acc a) k := by
  unfold find at hf
  split at hf
  · next b hb =>
    split at hf
    · next hc => cases hf; exact ⟨(List.mem_filter.1 (List.mem_of_getLast? hb)).1, hc⟩
    · cases hf
  · cases hf

theorem find_eq_some_iff {l : List α} (h : Ordered acc l) {k : Key} {a : α} :
    find acc l k = some a ↔ a ∈ l ∧ Contains (acc a) k := by
  refine ⟨find_sound acc, fun ⟨ha, hc⟩ => ?_⟩
  have hd : descendLE acc l k = some a := (descendLE_eq_some acc (h.asc acc)).2
    ⟨ha, hc.1, fun b hb hbk => start_le_of_contains (h.2 b hb) hc hbk (h.tri_acc acc ha hb)⟩
  simp [find, hd, hc]

theorem find_eq_none_iff {l : List α} (h : Ordered acc l) {k : Key} :
    find acc l k = none ↔ ∀ a ∈ l, ¬ Contains (acc a) k := by
  rw [Option.eq_none_iff_forall_ne_some]
  exact ⟨fun hf a ha hc => hf a ((find_eq_some_iff acc h).2 ⟨ha, hc⟩),
    fun hn a hf => hn a ((find_eq_some_iff acc h).1 hf).1 ((find_eq_some_iff acc h).1 hf).2⟩

theorem Ordered.eq_of_contains {l : List α} (h : Ordered acc l) {a b : α} {k : Key} (ha : a ∈ l) (hb : b ∈ l)
    (ca : Contains (acc a) k) (cb : Contains (acc b) k) : a = b :=
  Option.some.inj (((find_eq_some_iff acc h).2 ⟨ha, ca⟩).symm.trans ((find_eq_some_iff acc h).2 ⟨hb, cb⟩))

theorem takeWhile_eq_filter {l : List α} (h : Asc acc l) (q : α → Bool)
    (hq : ∀ a b, (acc a).startKey < (acc b).startKey → q b = true → q a = true) :
    l.takeWhile q = l.filter q :=
  (span_eq_filter _ q hq l h).1

/-- regionTree.getOverlaps returns exactly the items whose range intersects the argument's -/
theorem overlapsOf_eq_filter {l : List α} (h : Ordered acc l) (r : Region) :
    overlapsOf acc l r = l.filter (fun a => Overlap (acc a) r) := by
  unfold overlapsOf ascendGE
  rw [takeWhile_eq_filter acc ((h.asc acc).filter acc _), List.filter_filter]
  · apply List.filter_congr
    intro a ha
    rw [← Bool.decide_and, decide_eq_decide]
    cases hf : find acc l r.startKey with
    | some c =>
      obtain ⟨hc, hcc⟩ := (find_eq_some_iff acc h).1 hf
      exact overlap_iff_scanned (h.2 a ha) (h.2 c hc) hcc (h.tri_acc acc ha hc)
    | none => exact overlap_iff_scanned_none (h.2 a ha) ((find_eq_none_iff acc h).1 hf a ha)
  · intro a b hab hqb
    exact decide_eq_true fun hr => of_decide_eq_true hqb ⟨hr.1, List.le_trans hr.2 (List.le_of_lt hab)⟩

/-- the item ending exactly at `k`, if there is one, is the last item starting below `k` -/
theorem prev_eq_find? {l : List α} (h : Ordered acc l) (k : Key) :
    (match (l.filter (fun a => (acc a).startKey < k)).getLast? with
      | some a => if (acc a).endKey = k then some a else none
      | none => none) = l.find? (fun a => (acc a).endKey ≠ [] ∧ (acc a).endKey = k) := by
  refine (find?_eq_of_iff fun a => ?_).symm
  rw [decide_eq_true_iff]
  constructor
  · intro hm
    split at hm
    · next b hb =>
      obtain ⟨h1, h2, _⟩ := (getLast?_filter_eq_some acc (h.asc acc) _).1 hb
      split at hm
      · next he => cases hm; exact ⟨h1, fun e => by simp [← he, e] at h2, he⟩
      · cases hm
    · cases hm
  · rintro ⟨ha, hne, rfl⟩
    -- whatever else starts below the end of `a` does not start above `a`
    rw [(getLast?_filter_eq_some acc (h.asc acc) _).2 ⟨ha, decide_eq_true ((h.2 a ha).resolve_left hne), fun b hb hbk =>
        start_le_of_lt_end (h.2 b hb) (of_decide_eq_true hbk) (h.tri_acc acc ha hb)⟩]
    exact if_pos rfl

/-- … and the item starting exactly at the end of a member `q`, if there is one, is the first item starting above
    the start of `q` -/
theorem next_eq_find? {l : List α} (h : Ordered acc l) {q : α} (hq : q ∈ l) :
    (match l.find? (fun a => (acc q).startKey < (acc a).startKey) with
      | some n => if (acc n).startKey = (acc q).endKey then some n else none
      | none => none) = l.find? (fun n => (acc q).endKey ≠ [] ∧ (acc n).startKey = (acc q).endKey) := by
  refine (find?_eq_of_iff fun n => ?_).symm
  rw [decide_eq_true_iff]
  constructor
  · intro hm
    split at hm
    · next b hb =>
      have hlt : (acc q).startKey < (acc b).startKey := by simpa using List.find?_some hb
      split at hm
      · next he =>
        cases hm
        exact ⟨List.mem_of_find?_eq_some hb, fun e0 => absurd (e0 ▸ he ▸ hlt) (List.not_lt_nil _), he⟩
      · cases hm
    · cases hm
  · rintro ⟨hn, hne, hns⟩
    have hlt : (acc q).startKey < (acc n).startKey := hns ▸ (h.2 q hq).resolve_left hne
    obtain ⟨l1, l2, rfl, h1, _⟩ := pairwise_split (h.asc acc) hn
    -- an item in front of `n` starts below the end of `q`, hence not above its start
    have hfirst : (l1 ++ n :: l2).find? (fun a => decide ((acc q).startKey < (acc a).startKey)) = some n :=
      List.find?_eq_some_iff_append.2 ⟨decide_eq_true hlt, l1, l2, rfl, fun b hb => by
        have hbm : b ∈ l1 ++ n :: l2 := List.mem_append_left _ hb
        rw [decide_eq_false (not_start_lt_of_lt_end (h.2 b hbm) (hns ▸ h1 b hb) (h.tri_acc acc hq hbm))]
        rfl⟩
    rw [hfirst]
    exact if_pos hns

theorem mem_deleteKey {l : List α} {k : Key} {a : α} :
    a ∈ deleteKey acc l k ↔ a ∈ l ∧ (acc a).startKey ≠ k := by
  simp [deleteKey, List.mem_filter]

theorem mem_deleteKey_of_mem {l : List α} (h : Asc acc l) {x : α} (hx : x ∈ l) {a : α} :
    a ∈ deleteKey acc l (acc x).startKey ↔ a ∈ l ∧ a ≠ x := by
  rw [mem_deleteKey]
  constructor
  · rintro ⟨ha, hk⟩; exact ⟨ha, fun e => hk (e ▸ rfl)⟩
  · rintro ⟨ha, hne⟩; exact ⟨ha, fun e => hne (h.eq_of_key acc ha hx e)⟩

theorem deleteKey_sublist {l : List α} {k : Key} : (deleteKey acc l k).Sublist l := List.filter_sublist

theorem mem_insertItem {l : List α} {x a : α} :
    a ∈ insertItem acc l x ↔ a = x ∨ (a ∈ l ∧ (acc a).startKey ≠ (acc x).startKey) := by
  simp only [insertItem, List.mem_append, List.mem_cons, List.mem_filter, decide_eq_true_eq]
  constructor
  · rintro (⟨h1, h2⟩ | rfl | ⟨h1, h2⟩)
    · exact Or.inr ⟨h1, fun e => List.lt_irrefl _ (e ▸ h2)⟩
    · exact Or.inl rfl
    · exact Or.inr ⟨h1, fun e => List.lt_irrefl _ (e ▸ h2)⟩
  · rintro (rfl | ⟨h1, h2⟩)
    · exact Or.inr (Or.inl rfl)
    · exact (Key.lt_or_gt_of_ne h2).elim (fun h => Or.inl ⟨h1, h⟩) (fun h => Or.inr (Or.inr ⟨h1, h⟩))

theorem Asc.insertItem {l : List α} (h : Asc acc l) (x : α) : Asc acc (insertItem acc l x) := by
  refine List.pairwise_append.2 ⟨h.filter acc _, List.pairwise_cons.2 ⟨fun b hb => ?_, h.filter acc _⟩,
    fun a ha b hb => ?_⟩
  · exact of_decide_eq_true (List.mem_filter.1 hb).2
  · have ha' := of_decide_eq_true (List.mem_filter.1 ha).2
    rcases List.mem_cons.1 hb with rfl | hb
    · exact ha'
    · exact List.lt_trans ha' (of_decide_eq_true (List.mem_filter.1 hb).2)

theorem Ordered.insertItem {l : List α} (h : Ordered acc l) (x : α) (hx : WFRange (acc x))
    (hno : ∀ a ∈ l, ¬ Overlap (acc a) (acc x)) : Ordered acc (insertItem acc l x) := by
  -- an item that starts below `x` lies before it, one that starts above lies after it
  have hL : ∀ a ∈ l.filter (fun a => (acc a).startKey < (acc x).startKey), Before (acc a) (acc x) := fun a ha =>
    (before_or_of_not_overlap (hno a (List.mem_filter.1 ha).1)).resolve_right fun hb =>
      List.lt_asymm (before_lt hx hb) (of_decide_eq_true (List.mem_filter.1 ha).2)
  have hR : ∀ b ∈ l.filter (fun a => (acc x).startKey < (acc a).startKey), Before (acc x) (acc b) := fun b hb =>
    (before_or_of_not_overlap (hno b (List.mem_filter.1 hb).1)).resolve_left fun hb' =>
      List.lt_asymm (before_lt (h.2 b (List.mem_filter.1 hb).1) hb') (of_decide_eq_true (List.mem_filter.1 hb).2)
  refine ⟨List.pairwise_append.2 ⟨(h.filter acc _).1, List.pairwise_cons.2 ⟨hR, (h.filter acc _).1⟩,
    fun a ha b hb => ?_⟩, fun a ha => ?_⟩
  · rcases List.mem_cons.1 hb with rfl | hb
    · exact hL a ha
    · exact ⟨(hL a ha).1, List.le_trans (hL a ha).2 (List.le_of_lt (before_lt hx (hR b hb)))⟩
  · rcases (mem_insertItem acc).1 ha with rfl | ⟨ha, _⟩
    · exact hx
    · exact h.2 a ha

theorem mem_insertItem_of_new {l : List α} {x a : α} (hnew : ∀ b ∈ l, (acc b).startKey ≠ (acc x).startKey) :
    a ∈ insertItem acc l x ↔ a = x ∨ a ∈ l := by
  rw [mem_insertItem]
  constructor
  · rintro (h | ⟨h, _⟩); exact Or.inl h; exact Or.inr h
  · rintro (h | h); exact Or.inl h; exact Or.inr ⟨h, hnew a h⟩

theorem filter_insertItem_pos {l : List α} (x : α) (p : α → Bool) (hp : p x = true) :
    (insertItem acc l x).filter p = insertItem acc (l.filter p) x := by
  simp only [insertItem, List.filter_append, List.filter_cons, hp, if_true, List.filter_filter]
  congr 1
  · apply List.filter_congr; intro a _; simp [Bool.and_comm]
  · congr 1; apply List.filter_congr; intro a _; simp [Bool.and_comm]

theorem filter_insertItem_neg {l : List α} (h : Asc acc l) (x : α) (p : α → Bool) (hp : p x = false)
    (hnew : ∀ b ∈ l, (acc b).startKey ≠ (acc x).startKey) :
    (insertItem acc l x).filter p = l.filter p := by
  apply Asc.ext acc (((h.insertItem acc x)).filter acc p) (h.filter acc p)
  intro a
  simp only [List.mem_filter, mem_insertItem_of_new acc hnew]
  constructor
  · rintro ⟨rfl | ha, hpa⟩
    · rw [hp] at hpa; cases hpa
    · exact ⟨ha, hpa⟩
  · rintro ⟨ha, hpa⟩; exact ⟨Or.inr ha, hpa⟩

theorem Asc.key_ne [DecidableEq α] {l : List α} (h : Asc acc l) {x : α} (hx : x ∈ l) :
    ∀ b ∈ l.filter (fun a => decide (a ≠ x)), (acc b).startKey ≠ (acc x).startKey := fun _ hb hk =>
  (mem_filter_ne.1 hb).2 (h.eq_of_key acc (mem_filter_ne.1 hb).1 hx hk)

theorem insertItem_filter_ne [DecidableEq α] {l : List α} (h : Asc acc l) {x : α} (hx : x ∈ l) :
    insertItem acc (l.filter (fun a => decide (a ≠ x))) x = l :=
  Asc.ext acc ((h.filter acc _).insertItem acc x) h fun a =>
    (mem_insertItem_of_new acc (h.key_ne acc hx)).trans (List.mem_cons.symm.trans (mem_cons_filter_ne hx a))

theorem getElem?_mem_window {l : List α} {a : α} {i si ei : Nat} (hi : l[i]? = some a) (h1 : si ≤ i) (h2 : i < ei) :
    a ∈ (l.drop si).take (ei - si) := by
  rw [List.mem_iff_getElem?]
  refine ⟨i - si, ?_⟩
  rw [List.getElem?_take, if_pos (Nat.sub_lt_sub_right h1 h2), List.getElem?_drop, Nat.add_sub_cancel' h1]
  exact hi

theorem randStart_le (l : List α) (sk : Key) : randStart acc l sk ≤ rank acc l sk := by
  unfold randStart
  simp only
  split <;> omega

theorem lt_rank_iff {l1 l2 : List α} {a : α} (h : Asc acc (l1 ++ a :: l2)) (k : Key) :
    l1.length < rank acc (l1 ++ a :: l2) k ↔ (acc a).startKey < k := by
  obtain ⟨h1, h2, h12⟩ := List.pairwise_append.1 h
  unfold rank
  rw [List.filter_append, List.filter_cons, List.length_append]
  by_cases hk : (acc a).startKey < k
  · have hB : l1.filter (fun b => decide ((acc b).startKey < k)) = l1 :=
      List.filter_eq_self.2 fun b hb => decide_eq_true (List.lt_trans (h12 b hb a List.mem_cons_self) hk)
    simp only [hk, decide_true, hB, if_true, List.length_cons, iff_true]
    omega
  · have hB : l2.filter (fun b => decide ((acc b).startKey < k)) = [] :=
      List.filter_eq_nil_iff.2 fun b hb => by
        simpa using fun hbk => hk (List.lt_trans ((List.pairwise_cons.1 h2).1 b hb) hbk)
    simp only [hk, decide_false, hB, Bool.false_eq_true, if_false, List.length_nil, iff_false]
    have := List.length_filter_le (fun b => decide ((acc b).startKey < k)) l1
    omega

/-- RandomRegion, one range: the returnable items are exactly the items lying inside the range -/
theorem randCands1_eq_filter {l : List α} (h : Ordered acc l) (sk ek : Key) :
    randCands1 acc l sk ek = l.filter (fun a => Involved (acc a) sk ek) := by
  have hasc := h.asc acc
  have hsub : (randWindow acc l sk ek).Sublist l := by
    unfold randWindow
    split
    · exact List.nil_sublist _
    · exact (List.take_sublist _ _).trans (List.drop_sublist _ _)
  apply Asc.ext acc ((hasc.sublist acc hsub).filter acc _) (hasc.filter acc _)
  intro a
  simp only [List.mem_filter, decide_eq_true_eq]
  refine ⟨fun ⟨ha, hi⟩ => ⟨hsub.subset ha, hi⟩, fun ⟨ha, hi⟩ => ⟨?_, hi⟩⟩
  obtain ⟨l1, l2, rfl, _, _⟩ := pairwise_split hasc ha
  -- the index of `a` is `l1.length`; it lies in [startIndex, endIndex)
  have hstart : randStart acc (l1 ++ a :: l2) sk ≤ l1.length :=
    Nat.le_trans (randStart_le acc _ sk) (Nat.le_of_not_lt fun hlt =>
      List.lt_irrefl _ (Std.lt_of_lt_of_le ((lt_rank_iff acc hasc sk).1 hlt) hi.1))
  have hend : l1.length < randEnd acc (l1 ++ a :: l2) ek := by
    unfold randEnd
    split
    · next hek =>
      have he := hi.2.resolve_left hek
      exact (lt_rank_iff acc hasc ek).2 (Std.lt_of_lt_of_le ((h.2 a ha).resolve_left he.1) he.2)
    · simp
  unfold randWindow
  split
  · omega
  · exact getElem?_mem_window (by simp) hstart hend

end
end PdModel.RegionTree
