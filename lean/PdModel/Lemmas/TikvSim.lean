import PdModel.Model.TikvSim
import PdModel.Spec.C06
import PdModel.Prelude.ListFacts
/-!
In a legitimate history the epoch of a region id only grows, and ids are never re-used.
-/
namespace PdModel.TikvSim
open PdModel.RegionTree PdModel.Spec

def Le3 (a b : Region) : Prop := a.version ≤ b.version ∧ a.confVer ≤ b.confVer ∧ a.term ≤ b.term

theorem Le3.refl (a : Region) : Le3 a a := ⟨Nat.le_refl _, Nat.le_refl _, Nat.le_refl _⟩
theorem Le3.trans {a b c : Region} (h1 : Le3 a b) (h2 : Le3 b c) : Le3 a c :=
  ⟨Nat.le_trans h1.1 h2.1, Nat.le_trans h1.2.1 h2.2.1, Nat.le_trans h1.2.2 h2.2.2⟩
theorem Le3.notBehind {a b : Region} (h : Le3 a b) : C06.NotBehind a b := ⟨h.1, h.2.1, fun _ => h.2.2⟩

def Good (s : Sim) : Prop :=
  (∀ a ∈ s.rs, ∀ b ∈ s.rs, a.id = b.id → a = b) ∧ (∀ a ∈ s.rs, a.id < s.next)

theorem mem_replace {rs : List Region} {id : Nat} {new : List Region} {b : Region} :
    b ∈ replace rs id new ↔ (b ∈ rs ∧ b.id ≠ id) ∨ (b ∈ new ∧ ∃ a ∈ rs, a.id = id) := by
  unfold replace
  simp only [List.mem_flatMap]
  constructor
  · rintro ⟨a, ha, hb⟩
    by_cases e : a.id = id
    · rw [if_pos e] at hb
      exact Or.inr ⟨hb, a, ha, e⟩
    · rw [if_neg e, List.mem_singleton] at hb
      subst hb; exact Or.inl ⟨ha, e⟩
  · rintro (⟨hb, hne⟩ | ⟨hb, a, ha, e⟩)
    · exact ⟨b, hb, by rw [if_neg hne]; exact List.mem_singleton.2 rfl⟩
    · exact ⟨a, ha, by rw [if_pos e]; exact hb⟩

theorem find_some {rs : List Region} {id : Nat} {r : Region} (h : find rs id = some r) : r ∈ rs ∧ r.id = id := by
  unfold find at h
  have hid := List.find?_some h
  exact ⟨List.mem_of_find?_eq_some h, of_decide_eq_true hid⟩

/-- `b` is a later state of a region of `s`, or its id was handed out after `s` -/
def Since (s : Sim) (b : Region) : Prop := (∃ a ∈ s.rs, a.id = b.id ∧ Le3 a b) ∨ s.next ≤ b.id

/-- `s'` comes after `s` in a legitimate history -/
def Grows (s s' : Sim) : Prop := Good s' ∧ s.next ≤ s'.next ∧ ∀ b ∈ s'.rs, Since s b

theorem Grows.refl {s : Sim} (hg : Good s) : Grows s s :=
  ⟨hg, Nat.le_refl _, fun b hb => Or.inl ⟨b, hb, rfl, Le3.refl b⟩⟩

/-- an event that raft would not allow leaves the state as it is -/
theorem Grows.ite {s s' : Sim} {c : Prop} [Decidable c] (hg : Good s) (h : c → Grows s s') :
    Grows s (if c then s' else s) :=
  ite_ind h fun _ => .refl hg

theorem Grows.since {s s' : Sim} (h : Grows s s') {b : Region} (hb : Since s' b) : Since s b := by
  rcases hb with ⟨a', ha', e', hle⟩ | hb
  · rcases h.2.2 a' ha' with ⟨a, ha, e, hle'⟩ | hn
    · exact Or.inl ⟨a, ha, e.trans e', hle'.trans hle⟩
    · exact Or.inr (e' ▸ hn)
  · exact Or.inr (Nat.le_trans h.2.1 hb)

theorem Grows.trans {s s' s'' : Sim} (h : Grows s s') (h' : Grows s' s'') : Grows s s'' :=
  ⟨h'.1, Nat.le_trans h.2.1 h'.2.1, fun b hb => h.since (h'.2.2 b hb)⟩

/-- every event is such a replacement: regions of `s` are dropped, and the region `r` makes way for `new`,
    whose members keep the id of `r` with a grown epoch or carry an id handed out by this event -/
theorem grows_replace {s : Sim} (hg : Good s) {rs' : List Region} (hsub : ∀ a ∈ rs', a ∈ s.rs) {r : Region}
    (hr : r ∈ s.rs) {n' : Nat} (hn : s.next ≤ n') {new : List Region}
    (hnew : ∀ m ∈ new, (m.id = r.id ∧ Le3 r m) ∨ (s.next ≤ m.id ∧ m.id < n'))
    (huniq : new.Pairwise (fun m m' => m.id ≠ m'.id)) : Grows s ⟨replace rs' r.id new, n'⟩ := by
  have hlt := hg.2 r hr
  have hdisj : ∀ b ∈ rs', b.id ≠ r.id → ∀ m ∈ new, b.id ≠ m.id := by
    intro b hb hne m hm e
    have := hg.2 b (hsub b hb)
    rcases hnew m hm with ⟨e', _⟩ | ⟨h1, _⟩
    · exact hne (e.trans e')
    · exact Nat.lt_irrefl _ (Nat.lt_of_lt_of_le (e ▸ this) h1)
  have each : ∀ b ∈ replace rs' r.id new, b.id < n' ∧ Since s b := by
    intro b hb
    rcases mem_replace.1 hb with ⟨h1, _⟩ | ⟨h1, _⟩
    · exact ⟨Nat.lt_of_lt_of_le (hg.2 b (hsub b h1)) hn, Or.inl ⟨b, hsub b h1, rfl, Le3.refl b⟩⟩
    · rcases hnew b h1 with ⟨e, hle⟩ | ⟨h2, h3⟩
      · exact ⟨Nat.lt_of_lt_of_le (e ▸ hlt) hn, Or.inl ⟨r, hr, e.symm, hle⟩⟩
      · exact ⟨h3, Or.inr h2⟩
  refine ⟨⟨fun b hb b' hb' e => ?_, fun b hb => (each b hb).1⟩, hn, fun b hb => (each b hb).2⟩
  rcases mem_replace.1 hb with ⟨h1, h2⟩ | ⟨h1, _⟩ <;> rcases mem_replace.1 hb' with ⟨h1', h2'⟩ | ⟨h1', _⟩
  · exact hg.1 b (hsub b h1) b' (hsub b' h1') e
  · exact absurd e (hdisj b h1 h2 b' h1')
  · exact absurd e.symm (hdisj b' h1' h2' b h1)
  · exact (pairwise_mem_cases huniq h1 h1').elim id fun hne => hne.elim (absurd e) (absurd e.symm)

theorem grows_update {s : Sim} (hg : Good s) {rs' : List Region} (hsub : ∀ a ∈ rs', a ∈ s.rs) {r m : Region}
    (hr : r ∈ s.rs) (hid : m.id = r.id) (hle : Le3 r m) : Grows s { s with rs := replace rs' r.id [m] } :=
  grows_replace hg hsub hr (Nat.le_refl _) (List.forall_mem_singleton.2 (.inl ⟨hid, hle⟩)) (List.pairwise_singleton ..)

theorem grows_find {s : Sim} (hg : Good s) (id : Nat) {F : Region → Sim}
    (h : ∀ r ∈ s.rs, r.id = id → Grows s (F r)) :
    Grows s (match find s.rs id with
      | some r => F r
      | none => s) := by
  cases hf : find s.rs id with
  | none => exact .refl hg
  | some r => exact h r (find_some hf).1 (find_some hf).2

theorem step_grows (s : Sim) (e : Ev) (hg : Good s) : Grows s (step s e) := by
  cases e with
  | split id key newPeers newLeader rightDerive =>
    refine grows_find hg id fun r hr e => .ite hg fun _ => ?_
    subst e
    have le3 : Le3 r { r with version := r.version + 1 } := ⟨Nat.le_succ _, Nat.le_refl _, Nat.le_refl _⟩
    have fresh : s.next ≤ s.next ∧ s.next < s.next + 1 := ⟨Nat.le_refl _, Nat.lt_succ_self _⟩
    have hne := Nat.ne_of_lt (hg.2 r hr)
    cases rightDerive
    · exact grows_replace hg (fun _ h => h) hr (Nat.le_succ _)
        (List.forall_mem_cons.2 ⟨.inl ⟨rfl, le3⟩, List.forall_mem_singleton.2 (.inr fresh)⟩) (List.pairwise_pair.2 hne)
    · exact grows_replace hg (fun _ h => h) hr (Nat.le_succ _)
        (List.forall_mem_cons.2 ⟨.inr fresh, List.forall_mem_singleton.2 (.inl ⟨rfl, le3⟩)⟩) (List.pairwise_pair.2 hne.symm)
  | merge source target =>
    rw [step]
    cases hfs : find s.rs source with
    | none => exact .refl hg
    | some a =>
      cases hft : find s.rs target with
      | none => exact .refl hg
      | some t =>
        obtain ⟨ht, rfl⟩ := find_some hft
        refine .ite hg fun _ => grows_update hg (fun x hx => ?_) ht rfl ⟨?_, Nat.le_refl _, Nat.le_refl _⟩
        · rcases mem_replace.1 hx with ⟨h2, _⟩ | ⟨h2, _⟩
          · exact h2
          · cases h2
        · exact Nat.le_succ_of_le (Nat.le_max_right _ _)
  | confChange id peers =>
    refine grows_find hg id fun r hr e => ?_
    subst e
    exact grows_update hg (fun _ h => h) hr rfl ⟨Nat.le_refl _, Nat.le_succ _, Nat.le_refl _⟩
  | leader id leader =>
    refine grows_find hg id fun r hr e => ?_
    subst e
    exact grows_update hg (fun _ h => h) hr rfl ⟨Nat.le_refl _, Nat.le_refl _, Nat.le_succ _⟩
  | stat id size =>
    refine grows_find hg id fun r hr e => ?_
    subst e
    exact grows_update hg (fun _ h => h) hr rfl (Le3.refl r)

theorem step_good (s : Sim) (e : Ev) (hg : Good s) : Good (step s e) := (step_grows s e hg).1

def run (s : Sim) (es : List Ev) : Sim := es.foldl step s

theorem run_grows (s : Sim) (es : List Ev) (hg : Good s) : Grows s (run s es) :=
  foldl_inv (Grows s) step es s (.refl hg) fun s' e _ h => h.trans (step_grows s' e h.1)

theorem run_good (s : Sim) (es : List Ev) (hg : Good s) : Good (run s es) := (run_grows s es hg).1

theorem run_le3 (s : Sim) (es : List Ev) (hg : Good s) :
    ∀ b ∈ (run s es).rs, (∃ a ∈ s.rs, a.id = b.id ∧ Le3 a b) ∨ s.next ≤ b.id :=
  (run_grows s es hg).2.2

/-- reporting in order: walking through the history once, at every moment any regions of the current
    state may be reported (any number of times) -/
inductive Delivered : Sim → List Ev → List Region → Prop
  | stop (s : Sim) (es : List Ev) : Delivered s es []
  | report {s : Sim} {es : List Ev} {hb : Region} {hbs : List Region} :
      hb ∈ s.rs → Delivered s es hbs → Delivered s es (hb :: hbs)
  | advance {s : Sim} {e : Ev} {es : List Ev} {hbs : List Region} :
      Delivered (step s e) es hbs → Delivered s (e :: es) hbs

theorem delivered_since {s : Sim} {es : List Ev} {hbs : List Region} (hd : Delivered s es hbs) (hg : Good s) :
    ∀ b ∈ hbs, Since s b := by
  induction hd with
  | stop => intro b hb; cases hb
  | report hm _ ih =>
    intro b hb
    rcases List.mem_cons.1 hb with rfl | hb
    · exact Or.inl ⟨b, hm, rfl, Le3.refl b⟩
    · exact ih hg b hb
  | @advance s e es hbs _ ih => exact fun b hb => (step_grows s e hg).since (ih (step_good s e hg) b hb)

theorem delivered_ordered {s : Sim} {es : List Ev} {hbs : List Region} (hd : Delivered s es hbs) (hg : Good s) :
    hbs.Pairwise (fun a b => a.id = b.id → Le3 a b) := by
  induction hd with
  | stop => exact List.Pairwise.nil
  | @report s es r hbs hm hd ih =>
    refine List.Pairwise.cons ?_ (ih hg)
    intro b hb e
    rcases delivered_since hd hg b hb with ⟨a, ha, e', hle⟩ | h
    · rw [hg.1 r hm a ha (e.trans e'.symm)]
      exact hle
    · exact absurd e (Nat.ne_of_lt (Nat.lt_of_lt_of_le (hg.2 r hm) h))
  | @advance s e es hbs _ ih => exact ih (step_good s e hg)

end PdModel.TikvSim
