import PdModel.Lemmas.RuleSweep
/-! What an accepted build returns (`Built`) and what the three queries answer on it; what checkApplyRules accepts. -/
namespace PdModel.Rules
open PdModel.Spec.C13

def segOf (rules : List GRule) (x : Nat) : RangeRules :=
  ⟨x, coverList rules x, prepareRulesForApply (coverList rules x)⟩

/-- the rule set of key `x` is accepted: some rule covers it and the rules that apply are valid -/
def SegOK (rules : List GRule) (x : Nat) : Prop :=
  coverList rules x ≠ [] ∧ checkApplyRules (prepareRulesForApply (coverList rules x)) = .ok ()

theorem pushSeg_ok (x : Nat) (sr : List GRule) (acc acc' : RuleList) :
    pushSeg x sr acc = .ok acc' ↔
      (sr ≠ [] ∧ checkApplyRules (prepareRulesForApply sr) = .ok ()) ∧
        acc' = acc ++ [⟨x, sr, prepareRulesForApply sr⟩] := by
  unfold pushSeg
  cases sr with
  | nil => simp
  | cons r rs =>
    rw [List.isEmpty_cons, if_neg Bool.false_ne_true]
    cases checkApplyRules (prepareRulesForApply (r :: rs)) with
    | error e => simp
    | ok u => simp [eq_comm]

theorem specLoop_ok (rules : List GRule) : ∀ (keys : List Nat) (acc rl : RuleList),
    specLoop rules keys acc = .ok rl ↔ (rl = acc ++ keys.map (segOf rules) ∧ ∀ x ∈ keys, SegOK rules x)
  | [], acc, rl => by simp [specLoop, eq_comm]
  | x :: xs, acc, rl => by
    rw [specLoop]
    cases h : pushSeg x (coverList rules x) acc with
    | error e =>
      refine iff_of_false (fun h => nomatch h) fun h' => ?_
      have := (pushSeg_ok x _ acc _).2 ⟨h'.2 x List.mem_cons_self, rfl⟩
      rw [h] at this; cases this
    | ok acc' =>
      obtain ⟨hx, rfl⟩ := (pushSeg_ok x _ acc acc').1 h
      rw [specLoop_ok rules xs, List.forall_mem_cons, List.map_cons, List.append_assoc]
      exact ⟨fun h' => ⟨h'.1, hx, h'.2⟩, fun h' => ⟨h'.1, h'.2.2⟩⟩

structure Built (rules : List GRule) (rl : RuleList) : Prop where
  zero  : ∃ r ∈ rules, r.rule.start = 0
  eq    : rl = (bkeys rules).map (segOf rules)
  segs  : ∀ x ∈ bkeys rules, SegOK rules x

theorem buildSpec_ok (rules : List GRule) (rl : RuleList) : buildSpec rules = .ok rl ↔ Built rules rl := by
  unfold buildSpec
  cases rules with
  | nil => exact iff_of_false (fun h => nomatch h) fun h => h.zero.elim fun _ hr => (List.not_mem_nil hr.1).elim
  | cons r rs =>
    rw [List.isEmpty_cons, if_neg Bool.false_ne_true]
    cases h2 : (r :: rs).any (fun r => r.rule.start == 0) with
    | false =>
      refine iff_of_false (fun h => nomatch h) fun h => ?_
      obtain ⟨r', hr', h0⟩ := h.zero
      exact Bool.false_ne_true (h2 ▸ List.any_eq_true.2 ⟨r', hr', beq_iff_eq.2 h0⟩)
    | true =>
      obtain ⟨r', hr', h0⟩ := List.any_eq_true.1 h2
      rw [Bool.not_true, if_neg Bool.false_ne_true, specLoop_ok, List.nil_append]
      exact ⟨fun h => ⟨⟨r', hr', beq_iff_eq.1 h0⟩, h.1, h.2⟩, fun h => ⟨h.eq, h.segs⟩⟩

theorem built_of_ok {rules : List GRule} (hw : RulesWF rules) (hr : RangeWF rules) {rl : RuleList}
    (h : buildRuleList rules = .ok rl) : Built rules rl :=
  (buildSpec_ok rules rl).1 (buildRuleList_eq hw hr ▸ h)

theorem le_of_lt_of_le_dec (k : Nat) : ∀ a b : Nat, a < b → decide (b ≤ k) = true → decide (a ≤ k) = true :=
  fun _ _ hab hb => decide_eq_true (Nat.le_trans (Nat.le_of_lt hab) (of_decide_eq_true hb))

theorem rangesLE_built (rules : List GRule) (k : Nat) :
    rangesLE ((bkeys rules).map (segOf rules)) k =
      ((bkeys rules).filter (fun x => decide (x ≤ k))).map (segOf rules) := by
  rw [rangesLE, List.takeWhile_map]
  exact congrArg _ (span_eq_filter (· < ·) _ (le_of_lt_of_le_dec k) _ (bkeys_sorted rules)).1

theorem rangesGT_built (rules : List GRule) (k : Nat) :
    rangesGT ((bkeys rules).map (segOf rules)) k =
      ((bkeys rules).filter (fun x => !decide (x ≤ k))).map (segOf rules) := by
  rw [rangesGT, List.dropWhile_map]
  exact congrArg _ (span_eq_filter (· < ·) _ (le_of_lt_of_le_dec k) _ (bkeys_sorted rules)).2

theorem floor_spec (k x : Nat) (l : List Nat) (hs : l.Pairwise (· < ·))
    (h : (l.filter (fun y => decide (y ≤ k))).getLast? = some x) :
    x ∈ l ∧ x ≤ k ∧ ∀ y ∈ l, y ≤ k → y ≤ x := by
  obtain ⟨ys, hys⟩ := List.getLast?_eq_some_iff.1 h
  have hx : x ∈ l.filter (fun y => decide (y ≤ k)) := by rw [hys]; exact List.mem_append_right _ List.mem_cons_self
  rw [List.mem_filter, decide_eq_true_iff] at hx
  refine ⟨hx.1, hx.2, fun y hy hyk => ?_⟩
  have hyf : y ∈ ys ++ [x] := hys ▸ List.mem_filter.2 ⟨hy, decide_eq_true hyk⟩
  have hp := hs.filter (fun y => decide (y ≤ k))
  rw [hys, List.pairwise_append] at hp
  rcases List.mem_append.1 hyf with e | e
  · exact Nat.le_of_lt (hp.2.2 y e x List.mem_cons_self)
  · exact Nat.le_of_eq (List.mem_singleton.1 e)

/-- no start or end key lies between the floor key and `k`: the same rules cover both -/
theorem cover_floor (rules : List GRule) (k x : Nat) (hx : x ≤ k)
    (hmax : ∀ y ∈ bkeys rules, y ≤ k → y ≤ x) : coverList rules x = coverList rules k := by
  unfold coverList
  congr 1
  apply List.filter_congr
  intro r hr
  have hs := hmax r.rule.start ((mem_bkeys rules _).2 ⟨r, hr, Or.inl rfl⟩)
  have hend := fun he => hmax r.rule.end_ ((mem_bkeys rules _).2 ⟨r, hr, Or.inr ⟨he, rfl⟩⟩)
  rw [Bool.eq_iff_iff, covers_iff, covers_iff]
  refine and_congr ⟨fun h => Nat.le_trans h hx, hs⟩ (or_congr_right ⟨fun h => ?_, Nat.lt_of_le_of_lt hx⟩)
  exact Nat.lt_of_not_le fun hk => Nat.not_le.2 h (hend (Nat.ne_of_gt (Nat.zero_lt_of_lt h)) hk)

/-- the floor exists because 0 is a start key (`Built.zero`) -/
theorem Built.floor {rules : List GRule} {rl : RuleList} (hb : Built rules rl) (k : Nat) :
    ∃ x ∈ bkeys rules, ((bkeys rules).filter (fun y => decide (y ≤ k))).getLast? = some x ∧
      coverList rules x = coverList rules k := by
  obtain ⟨r, hr, h0⟩ := hb.zero
  have h0k : 0 ∈ (bkeys rules).filter (fun y => decide (y ≤ k)) :=
    List.mem_filter.2 ⟨(mem_bkeys rules 0).2 ⟨r, hr, Or.inl h0.symm⟩, decide_eq_true (Nat.zero_le k)⟩
  cases h : ((bkeys rules).filter (fun y => decide (y ≤ k))).getLast? with
  | none => rw [List.getLast?_eq_none_iff.1 h] at h0k; cases h0k
  | some x =>
    obtain ⟨h1, h2, h3⟩ := floor_spec k x _ (bkeys_sorted rules) h
    exact ⟨x, h1, rfl, cover_floor rules k x h2 h3⟩

theorem getRulesByKey_built {rules : List GRule} {rl : RuleList} (hb : Built rules rl) (k : Nat) :
    getRulesByKey rl k = some (coverList rules k) := by
  obtain ⟨x, _, hx, hc⟩ := hb.floor k
  rw [getRulesByKey, hb.eq, rangesLE_built, List.getLast?_map, hx, ← hc]
  rfl

theorem built_key_ok {rules : List GRule} {rl : RuleList} (hb : Built rules rl) (k : Nat) : SegOK rules k := by
  obtain ⟨x, hx, _, hc⟩ := hb.floor k
  have := hb.segs x hx
  rwa [SegOK, hc] at this

theorem rejected_of_not_segOK {rules : List GRule} (hw : RulesWF rules) (hr : RangeWF rules) (k : Nat)
    (h : ¬ SegOK rules k) : ∃ e, buildRuleList rules = .error e := by
  cases hb : buildRuleList rules with
  | error e => exact ⟨e, rfl⟩
  | ok rl => exact absurd (built_key_ok (built_of_ok hw hr hb) k) h

theorem lt_of_lt_of_lt_dec (e : Nat) :
    ∀ a b : Nat, a < b → (e == 0 || decide (b < e)) = true → (e == 0 || decide (a < e)) = true := by
  intro a b hab hb
  simp only [Bool.or_eq_true, beq_iff_eq, decide_eq_true_eq] at hb ⊢
  exact hb.imp_right (Nat.lt_trans hab)

theorem inside_eq (s e x : Nat) : inside s e x = (!decide (x ≤ s) && (e == 0 || decide (x < e))) := by
  rw [inside, ← decide_not, decide_eq_decide.2 Nat.not_le]

theorem getSplitKeys_built {rules : List GRule} {rl : RuleList} (hb : Built rules rl) (s e : Nat) :
    getSplitKeys rl s e = (bkeys rules).filter (inside s e) := by
  rw [getSplitKeys, hb.eq, rangesGT_built, List.takeWhile_map, List.map_map]
  have := (span_eq_filter (· < ·) (fun x => e == 0 || decide (x < e)) (lt_of_lt_of_lt_dec e) _
    ((bkeys_sorted rules).filter fun x => !decide (x ≤ s))).1
  rw [List.filter_filter] at this
  refine (List.map_id _).trans (this.trans (List.filter_congr fun x _ => ?_))
  rw [inside_eq, Bool.and_comm]

/-- some key of an ascending list lies strictly inside (s, e) iff the first one after `s` does -/
theorem any_inside (l : List Nat) (hs : l.Pairwise (· < ·)) (s e : Nat) :
    l.any (inside s e) = ((l.filter (fun x => !decide (x ≤ s))).head?).any (fun x => e == 0 || decide (x < e)) := by
  rw [← any_eq_head (· < ·) _ (lt_of_lt_of_lt_dec e) _ (hs.filter _), List.any_filter, funext (inside_eq s e)]

theorem getRulesForApplyRegion_built {rules : List GRule} {rl : RuleList} (hb : Built rules rl) (s e : Nat) :
    getRulesForApplyRegion rl s e =
      if (bkeys rules).any (inside s e) then none
      else some (prepareRulesForApply (coverList rules s)) := by
  obtain ⟨x, _, hx, hc⟩ := hb.floor s
  rw [getRulesForApplyRegion, hb.eq, rangesLE_built, rangesGT_built, List.getLast?_map, hx, List.head?_map,
    any_inside _ (bkeys_sorted rules), ← hc]
  cases ((bkeys rules).filter fun x => !decide (x ≤ s)).head? <;> rfl

def leaderSum (l : List GRule) : Int := (l.filter (fun r => r.rule.role = .leader)).foldl (fun n r => n + r.rule.count) 0
def voterSum (l : List GRule) : Int := (l.filter (fun r => r.rule.role = .voter)).foldl (fun n r => n + r.rule.count) 0

def roleCount (ro : Role) (r : GRule) : Int := if r.rule.role = ro then r.rule.count else 0

theorem foldl_add (l : List GRule) (a : Int) :
    l.foldl (fun n r => n + r.rule.count) a = a + l.foldl (fun n r => n + r.rule.count) 0 := by
  induction l generalizing a with
  | nil => exact (Int.add_zero a).symm
  | cons x xs ih => rw [List.foldl_cons, List.foldl_cons, ih, ih (0 + _), Int.zero_add, Int.add_assoc]

theorem roleSum_cons (ro : Role) (r : GRule) (l : List GRule) :
    ((r :: l).filter (fun r => r.rule.role = ro)).foldl (fun n r => n + r.rule.count) 0 =
      roleCount ro r + (l.filter (fun r => r.rule.role = ro)).foldl (fun n r => n + r.rule.count) 0 := by
  rw [List.filter_cons, roleCount]
  by_cases h : r.rule.role = ro
  · rw [if_pos (decide_eq_true h), if_pos h, List.foldl_cons, foldl_add, Int.zero_add]
  · rw [if_neg (by simpa using h), if_neg h, Int.zero_add]

theorem leaderSum_cons (r : GRule) (l : List GRule) : leaderSum (r :: l) = roleCount .leader r + leaderSum l :=
  roleSum_cons .leader r l

theorem voterSum_cons (r : GRule) (l : List GRule) : voterSum (r :: l) = roleCount .voter r + voterSum l :=
  roleSum_cons .voter r l

/-- one round of the loop while at most one leader replica has been counted: the three branches of the Go code
    add the rule's leader and voter replicas and refuse a second leader replica -/
theorem checkLoop_cons (r : GRule) (rest : List GRule) (a b : Int) (ha : a ≤ 1) :
    checkLoop (r :: rest) a b =
      if a + roleCount .leader r > 1 then .error .multipleLeaders
      else checkLoop rest (a + roleCount .leader r) (b + roleCount .voter r) := by
  have ha' : ¬ a > 1 := Int.not_lt.2 ha
  rw [checkLoop, roleCount, roleCount]
  by_cases hl : r.rule.role = .leader
  · simp only [hl, ↓reduceIte, reduceCtorEq, Int.add_zero]
  · by_cases hv : r.rule.role = .voter
    · simp only [hv, ↓reduceIte, reduceCtorEq, Int.add_zero, ha']
    · simp only [hl, hv, ↓reduceIte, Int.add_zero, ha']

theorem checkLoop_ok (l : List GRule) (a b : Int) (ha : a ≤ 1) (h : checkLoop l a b = .ok ()) :
    a + leaderSum l ≤ 1 ∧ a + leaderSum l + b + voterSum l ≥ 1 := by
  induction l generalizing a b with
  | nil =>
    rw [checkLoop] at h
    split at h
    · cases h
    · simp only [leaderSum, voterSum, List.filter_nil, List.foldl_nil]; omega
  | cons r rest ih =>
    rw [checkLoop_cons r rest a b ha] at h
    split at h
    · cases h
    · have := ih _ _ (by omega) h
      rw [leaderSum_cons, voterSum_cons]
      omega

theorem checkApplyRules_ok (l : List GRule) (h : checkApplyRules l = .ok ()) :
    leaderSum l ≤ 1 ∧ leaderSum l + voterSum l ≥ 1 := by
  have := checkLoop_ok l 0 0 (by omega) h
  omega

end PdModel.Rules
