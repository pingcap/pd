import PdModel.Model.HistoryBuf
import PdModel.Spec.C16
import PdModel.Prelude.ListFacts
/-!
The ring buffer of the history buffer refines a plain window `(next, win)`:
`win` = the records currently held, oldest first.  All modular arithmetic lives here; the property
theorems (Props/C16) are stated over lists only.
-/
namespace PdModel.HistoryBuf
variable {α : Type}

/-- `a mod n` for `a < 2n`, without `%` (so that `omega` can work with it) -/
def wrap (n a : Nat) : Nat := if a < n then a else a - n

theorem mod_eq_wrap (n a : Nat) (h : a < 2 * n) : a % n = wrap n a := by
  unfold wrap
  split
  · exact Nat.mod_eq_of_lt ‹_›
  · rw [Nat.mod_eq_sub_mod (by omega)]
    exact Nat.mod_eq_of_lt (by omega)

theorem add_mod_eq_wrap {n a b : Nat} (ha : a < n) (hb : b < n) : (a + b) % n = wrap n (a + b) :=
  mod_eq_wrap _ _ (Nat.two_mul n ▸ Nat.add_lt_add ha hb)

/-- `distanceToTail` as a function of numbers -/
def dist (n t p : Nat) : Nat := if t < p then t + n - p else t - p

theorem distanceToTail_eq (b : Buf α) (p : Nat) : distanceToTail b p = dist b.size b.tail p := rfl

theorem dist_lt {n t p : Nat} (ht : t < n) (hp : p < n) : dist n t p < n := by
  unfold dist; split <;> omega

theorem dist_eq_iff {n t p l : Nat} (ht : t < n) (hp : p < n) (hl : l < n) :
    dist n t p = l ↔ t = (p + l) % n := by
  rw [add_mod_eq_wrap hp hl]
  unfold dist wrap
  split <;> split <;> omega

theorem add_mod_ne {n k l : Nat} (m : Nat) (hkl : k < l) (hl : l < n) : (m + k) % n ≠ (m + l) % n := by
  intro h
  have := Nat.sub_mod_eq_zero_of_mod_eq h.symm
  rw [Nat.add_sub_add_left, Nat.mod_eq_of_lt (Nat.lt_of_le_of_lt (Nat.sub_le l k) hl)] at this
  exact Nat.sub_ne_zero_of_lt hkl this

structure Abs (α : Type) where
  next : Nat
  win  : List α

structure Rel (b : Buf α) (a : Abs α) : Prop where
  size2   : 2 ≤ b.size
  recsLen : b.records.length = b.size
  hd      : b.head < b.size
  tl      : b.tail < b.size
  idx     : b.index = a.next
  len     : dist b.size b.tail b.head = a.win.length
  content : ∀ (k : Nat) (x : α), a.win[k]? = some x →
              b.records[wrap b.size (b.head + k)]? = some (some x)
  le      : a.win.length ≤ a.next

theorem Rel.congr {b b' : Buf α} {a : Abs α} (h : Rel b a) (h1 : b'.size = b.size)
    (h2 : b'.records = b.records) (h3 : b'.head = b.head) (h4 : b'.tail = b.tail)
    (h5 : b'.index = b.index) : Rel b' a := by
  constructor
  · rw [h1]; exact h.size2
  · rw [h1, h2]; exact h.recsLen
  · rw [h1, h3]; exact h.hd
  · rw [h1, h4]; exact h.tl
  · rw [h5]; exact h.idx
  · rw [h1, h3, h4]; exact h.len
  · rw [h1, h2, h3]; exact h.content
  · exact h.le

theorem len_eq (b : Buf α) (a : Abs α) (h : Rel b a) : len b = a.win.length := h.len

/- `Rel` read with `%`: the window occupies the slots `head, head+1, …` (mod size) up to the tail. -/

theorem Rel.win_lt {b : Buf α} {a : Abs α} (h : Rel b a) : a.win.length < b.size :=
  h.len ▸ dist_lt h.tl h.hd

theorem Rel.tail_eq {b : Buf α} {a : Abs α} (h : Rel b a) :
    b.tail = (b.head + a.win.length) % b.size :=
  (dist_eq_iff h.tl h.hd h.win_lt).1 h.len

theorem Rel.slot {b : Buf α} {a : Abs α} (h : Rel b a) {k : Nat} {x : α} (hk : a.win[k]? = some x) :
    b.records[(b.head + k) % b.size]? = some (some x) := by
  have hkl : k < a.win.length := lt_length_of_getElem? hk
  rw [add_mod_eq_wrap h.hd (Nat.lt_trans hkl h.win_lt)]
  exact h.content k x hk

theorem Rel.of_mod {b : Buf α} {a : Abs α} (hs : 2 ≤ b.size) (hr : b.records.length = b.size)
    (hh : b.head < b.size) (hl : a.win.length < b.size)
    (ht : b.tail = (b.head + a.win.length) % b.size) (hi : b.index = a.next)
    (hc : ∀ (k : Nat) (x : α), a.win[k]? = some x → b.records[(b.head + k) % b.size]? = some (some x))
    (hle : a.win.length ≤ a.next) : Rel b a := by
  have htl : b.tail < b.size := ht ▸ Nat.mod_lt _ (Nat.lt_of_lt_of_le Nat.zero_lt_two hs)
  refine ⟨hs, hr, hh, htl, hi, (dist_eq_iff htl hh hl).2 ht, fun k x hk => ?_, hle⟩
  have hkl : k < a.win.length := lt_length_of_getElem? hk
  rw [← add_mod_eq_wrap hh (Nat.lt_trans hkl hl)]
  exact hc k x hk

theorem Rel.empty {b : Buf α} (hs : 2 ≤ b.size) (hr : b.records.length = b.size)
    (hh : b.head = 0) (ht : b.tail = 0) : Rel b { next := b.index, win := [] } :=
  Rel.of_mod hs hr (by omega) (by simp; omega) (by simp [hh, ht]) rfl (fun k x hk => by simp at hk)
    (Nat.zero_le _)

def lastN (n : Nat) (l : List α) : List α := l.drop (l.length - n)

theorem lastN_length (n : Nat) (l : List α) : (lastN n l).length = min n l.length :=
  List.length_drop.trans ((Nat.sub_sub_eq_min ..).trans (Nat.min_comm ..))

theorem lastN_nil (n : Nat) : lastN n ([] : List α) = [] := List.drop_nil

theorem lastN_append_lastN (n : Nat) (l m : List α) : lastN n (lastN n l ++ m) = lastN n (l ++ m) := by
  unfold lastN
  simp only [List.length_append, List.length_drop]
  have e : l.length + m.length - n = (l.length - n) + (l.length - (l.length - n) + m.length - n) := by
    rcases Nat.le_total n l.length with hn | hn
    · rw [Nat.sub_sub_self hn, Nat.add_sub_cancel_left, Nat.sub_add_comm hn]
    · rw [Nat.sub_eq_zero_of_le hn, Nat.sub_zero, Nat.zero_add]
  rw [e, ← List.drop_drop, List.drop_append_of_le_length (Nat.sub_le ..)]

theorem lastN_lastN {m n : Nat} (l : List α) (h : m ≤ (lastN n l).length) : lastN m (lastN n l) = lastN m l := by
  unfold lastN at h ⊢
  rw [List.length_drop] at h ⊢
  rw [List.drop_drop, ← Nat.add_sub_assoc h, Nat.add_sub_cancel' (Nat.sub_le ..)]

def Abs.record (cap : Nat) (a : Abs α) (r : α) : Abs α :=
  { next := a.next + 1, win := lastN cap (a.win ++ [r]) }

def Abs.reset (n : Nat) : Abs α := { next := n, win := [] }

theorem new_size (cap : Nat) (kv : Option Nat) (flush : Nat) :
    (new cap kv flush : Buf α).size = max cap 1 + 1 := by
  simp only [new]; split <;> omega

theorem rel_new (cap : Nat) (kv : Option Nat) (flush : Nat) :
    Rel (new cap kv flush : Buf α) { next := kv.getD 0, win := [] } :=
  Rel.empty (by rw [new_size]; omega) (List.length_replicate ..) rfl rfl

theorem resetWithIndex_fields (b : Buf α) (n : Nat) (f : Bool) :
    (resetWithIndex b n f).size = b.size ∧ (resetWithIndex b n f).records = b.records ∧
    (resetWithIndex b n f).head = 0 ∧ (resetWithIndex b n f).tail = 0 ∧
    (resetWithIndex b n f).index = n := by
  unfold resetWithIndex persist
  cases f <;> exact ⟨rfl, rfl, rfl, rfl, rfl⟩

theorem rel_resetUnfixed (b : Buf α) (a : Abs α) (h : Rel b a) (n : Nat) :
    Rel (resetWithIndexUnfixed b n) (Abs.reset n) :=
  Rel.empty (b := resetWithIndexUnfixed b n) h.size2 h.recsLen rfl rfl

/-- `resetWithIndex` differs from `resetWithIndexUnfixed` only in what it persists -/
theorem rel_reset (b : Buf α) (a : Abs α) (h : Rel b a) (n : Nat) (f : Bool) :
    Rel (resetWithIndex b n f) (Abs.reset n) :=
  let ⟨e1, e2, e3, e4, e5⟩ := resetWithIndex_fields b n f
  (rel_resetUnfixed b a h n).congr e1 e2 e3 e4 e5

theorem record_fields (b : Buf α) (r : α) (f : Bool) :
    (record b r f).size = b.size ∧ (record b r f).records = b.records.set b.tail (some r) ∧
    (record b r f).tail = (b.tail + 1) % b.size ∧
    (record b r f).head = (if (b.tail + 1) % b.size = b.head then (b.head + 1) % b.size else b.head) ∧
    (record b r f).index = b.index + 1 := by
  unfold record persist
  by_cases h1 : b.flushCount - 1 = 0 <;> cases f <;> simp [h1]

theorem record_size (b : Buf α) (r : α) (f : Bool) : (record b r f).size = b.size :=
  (record_fields b r f).1

theorem record_index (b : Buf α) (r : α) (f : Bool) : (record b r f).index = b.index + 1 :=
  (record_fields b r f).2.2.2.2

/-- The write of `Record`: `r` goes into the tail slot and the tail moves on.  Whatever number `k` of the
    oldest entries the head then skips, the buffer holds `win ++ [r]` without them, as long as one slot
    stays empty.  (`Record` skips none, or one when the tail has caught up with the head.) -/
theorem Rel.write {b b' : Buf α} {a : Abs α} (h : Rel b a) (r : α) (k : Nat)
    (hk : k ≤ a.win.length + 1) (hlen : a.win.length + 1 - k < b.size)
    (e1 : b'.size = b.size) (e2 : b'.records = b.records.set b.tail (some r))
    (e3 : b'.tail = (b.tail + 1) % b.size) (e4 : b'.head = (b.head + k) % b.size)
    (e5 : b'.index = b.index + 1) :
    Rel b' { next := a.next + 1, win := (a.win ++ [r]).drop k } := by
  have hlt := h.win_lt
  apply Rel.of_mod <;> simp only [e1, e2, e3, e4, e5, List.length_drop, List.length_append,
    List.length_singleton, List.length_set, Nat.mod_add_mod]
  · exact h.size2
  · exact h.recsLen
  · exact Nat.mod_lt _ (Nat.lt_of_lt_of_le Nat.zero_lt_two h.size2)
  · exact hlen
  · rw [h.tail_eq, Nat.mod_add_mod, Nat.add_assoc b.head k, Nat.add_sub_of_le hk, Nat.add_assoc]
  · rw [h.idx]
  · intro j x hj
    rw [List.getElem?_drop] at hj
    rw [Nat.add_assoc]
    rcases getElem?_snoc_cases hj with ⟨hkl, hj⟩ | ⟨hkl, rfl⟩
    · rw [List.getElem?_set_ne (by rw [h.tail_eq]; exact (add_mod_ne _ hkl hlt).symm)]
      exact h.slot hj
    · rw [hkl, ← h.tail_eq]
      exact List.getElem?_set_self (h.recsLen ▸ h.tl)
  · exact Nat.le_trans (Nat.sub_le _ _) (Nat.succ_le_succ h.le)

theorem rel_record (b : Buf α) (a : Abs α) (h : Rel b a) (r : α) (f : Bool) :
    Rel (record b r f) (a.record (b.size - 1) r) := by
  obtain ⟨e1, e2, e3, e4, e5⟩ := record_fields b r f
  rw [h.tail_eq, Nat.mod_add_mod, Nat.add_assoc] at e4
  unfold Abs.record lastN
  rw [List.length_append, List.length_singleton]
  by_cases hfull : a.win.length + 1 < b.size
  · -- a slot is left: the new tail does not land on the head, nothing is dropped
    have hne := add_mod_ne b.head (Nat.succ_pos a.win.length) hfull
    rw [Nat.add_zero, Nat.mod_eq_of_lt h.hd] at hne
    rw [if_neg hne.symm, ← Nat.mod_eq_of_lt h.hd] at e4
    rw [Nat.sub_eq_zero_of_le (Nat.le_sub_one_of_lt hfull)]
    exact h.write r 0 (Nat.zero_le _) hfull e1 e2 e3 e4 e5
  · -- the new tail lands on the head, which moves on: the oldest entry is dropped
    have hsz : a.win.length + 1 = b.size := Nat.le_antisymm h.win_lt (Nat.le_of_not_lt hfull)
    rw [hsz, Nat.add_mod_right, Nat.mod_eq_of_lt h.hd, if_pos rfl] at e4
    rw [hsz, Nat.sub_sub_self (Nat.le_of_lt h.size2)]
    exact h.write r 1 (Nat.le_add_left ..) h.win_lt e1 e2 e3 e4 e5

theorem collect_rel {b : Buf α} {a : Abs α} (h : Rel b a) :
    ∀ (fuel k : Nat), k ≤ a.win.length → a.win.length - k ≤ fuel →
      collect b fuel ((b.head + k) % b.size) = (a.win.drop k).map some := by
  intro fuel
  induction fuel with
  | zero =>
    intro k hk hf
    rw [List.drop_eq_nil_of_le (Nat.sub_eq_zero_iff_le.1 (Nat.le_zero.1 hf))]; rfl
  | succ fuel ih =>
    intro k hk hf
    unfold collect
    rcases Nat.lt_or_ge k a.win.length with hkl | hkl
    · rw [if_neg (by rw [h.tail_eq]; exact add_mod_ne _ hkl h.win_lt), Nat.mod_add_mod, Nat.add_assoc,
        ih (k + 1) hkl (Nat.sub_le_of_le_add hf : a.win.length - k - 1 ≤ fuel), List.drop_eq_getElem_cons hkl, List.map_cons, List.getD_eq_getElem?_getD,
        h.slot (List.getElem?_eq_getElem hkl)]
      rfl
    · rw [if_pos (by rw [h.tail_eq, Nat.le_antisymm hk hkl]), List.drop_eq_nil_of_le hkl]; rfl

theorem recordsFrom_rel (b : Buf α) (a : Abs α) (h : Rel b a) (i : Nat) :
    recordsFrom b i =
      if a.next - a.win.length ≤ i ∧ i < a.next then (lastN (a.next - i) a.win).map some else [] := by
  have hle := h.le
  unfold recordsFrom nextIndex firstIndex
  rw [len_eq b a h, h.idx]
  by_cases hc : a.next - a.win.length ≤ i ∧ i < a.next
  · -- the loop starts at entry `i - first` of the window, which leaves its last `next - i` entries
    have e : i - (a.next - a.win.length) = a.win.length - (a.next - i) := Nat.sub_eq_of_eq_add (by omega)
    rw [if_pos ⟨hc.2, hc.1⟩, if_pos hc, e]
    exact collect_rel h _ _ (Nat.sub_le ..) (Nat.le_trans (Nat.sub_le ..) (Nat.le_of_lt h.win_lt))
  · rw [if_neg (fun hh => hc ⟨hh.2, hh.1⟩), if_neg hc]

open PdModel.Spec in
theorem recordsFrom_expected (cap : Nat) (l : C16.Log α) (b : Buf α)
    (h : Rel b { next := l.next, win := lastN (max cap 1) l.log }) (i : Nat) :
    recordsFrom b i = (C16.expected cap l i).map some := by
  rw [recordsFrom_rel b _ h i]
  unfold C16.expected C16.first C16.window
  rw [← lastN_length]
  dsimp only
  split
  · next hc => exact congrArg _ (lastN_lastN l.log (Nat.sub_le_iff_le_add'.2 (Nat.sub_le_iff_le_add.1 hc.1)))
  · rfl

/-- as long as no `kv.Save` fails, the persisted index trails the next index by `flush - flushCount`, the number of
    records since the last persist, which is below the flush interval (`eq` says so without the subtraction) -/
structure Pers (F : Nat) (b : Buf α) : Prop where
  fl  : b.flush = F
  fc1 : 1 ≤ b.flushCount
  fc2 : b.flushCount ≤ b.flush
  eq  : b.kv.getD 0 + b.flush = b.index + b.flushCount

theorem pers_new (cap : Nat) (kv : Option Nat) (flush : Nat) (hf : 0 < flush) :
    Pers flush (new cap kv flush : Buf α) :=
  ⟨rfl, hf, Nat.le_refl _, rfl⟩

theorem pers_record (F : Nat) (b : Buf α) (h : Pers F b) (r : α) : Pers F (record b r false) := by
  obtain ⟨h0, h1, h2, h3⟩ := h
  unfold record persist
  simp only [Bool.false_eq_true, if_false]
  split
  · -- the counter has run out: the new index is persisted and the counter starts again
    exact ⟨h0, Nat.le_trans h1 h2, Nat.le_refl _, rfl⟩
  · next hc =>
    -- otherwise the counter goes down as the index goes up
    exact ⟨h0, Nat.pos_of_ne_zero hc, Nat.le_trans (Nat.sub_le _ _) h2,
      h3.trans (by rw [Nat.add_assoc, Nat.add_sub_cancel' h1])⟩

theorem pers_reset (F : Nat) (b : Buf α) (h : Pers F b) (n : Nat) : Pers F (resetWithIndex b n false) :=
  ⟨h.fl, Nat.le_trans h.fc1 h.fc2, Nat.le_refl _, rfl⟩

theorem pers_restart (F : Nat) (hF : 0 < F) (b : Buf α) (h : Pers F b) (c : Nat) : Pers F (restart b c) :=
  h.fl ▸ pers_new c b.kv b.flush (h.fl ▸ hF)

theorem restart_index (b : Buf α) (c : Nat) : (restart b c).index = b.kv.getD 0 := rfl

end PdModel.HistoryBuf
